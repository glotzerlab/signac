/-
  Well-formedness (no duplicate keys at any depth) is preserved by the merge and by every
  dict / list primitive the document operations are built from.
-/
import Signac.Proofs.DocMerge
namespace Signac.Doc
open Signac

abbrev keys (l : Entries) : List String := l.map Prod.fst

theorem keys_mergeKeep_sublist (o n : Entries) : (keys (mergeKeep o n)).Sublist (keys o) := by
  induction o with
  | nil => simp [mergeKeep]
  | cons hd tl ih =>
    obtain ⟨k₀, v₀⟩ := hd
    simp only [mergeKeep]
    cases lookupKV k₀ n with
    | some nv => simpa using ih
    | none => exact (ih.trans (List.sublist_cons_self _ _))

theorem wf_obj_iff {l : Entries} : WF (.obj l) ↔ (keys l).Nodup ∧ ∀ kv ∈ l, WF kv.2 :=
  and_congr_right fun _ => wfObj_iff

theorem wf_arr_iff {xs : List JVal} : WF (.arr xs) ↔ ∀ x ∈ xs, WF x := by
  simp only [WF]; exact wfList_iff

theorem wf_empty : WF (.obj []) := by simp [WF, WFObj]

theorem wf_slot_of {ov nv : JVal} (wo : WF ov) (hm : WF (mergeVal ov nv)) : WF (slot ov nv) := by
  unfold slot; split
  · exact wo
  · exact hm

theorem wf_merge {old : JVal} : ∀ {new : JVal}, WF old → WF new → WF (mergeVal old new) := by
  induction old using JVal.rec_mem with
  | obj o ih => intro new wo wn; cases new with
    | obj n =>
      obtain ⟨ho1, ho2⟩ := wf_obj_iff.mp wo
      obtain ⟨hn1, hn2⟩ := wf_obj_iff.mp wn
      refine wf_obj_iff.mpr ⟨?_, ?_⟩
      · simp only [keys, List.map_append]
        rw [List.nodup_append]
        refine ⟨(keys_mergeKeep_sublist o n).nodup ho1, (List.filter_sublist.map _).nodup hn1, ?_⟩
        -- a key kept from `o` is not among the keys that are new in `n`
        intro a ha b hb hab
        subst hab
        obtain ⟨kv, hkv, rfl⟩ := List.mem_map.mp hb
        have hk : hasKey kv.1 o = false := by simpa using (List.mem_filter.mp hkv).2
        rw [hasKey_eq, Option.isSome_eq_false_iff, Option.isNone_iff_eq_none] at hk
        exact lookupKV_none_iff.mp hk ((keys_mergeKeep_sublist o n).subset ha)
      · intro kv hkv
        rcases List.mem_append.mp hkv with h | h
        · obtain ⟨ov, nv, ho, hn, e⟩ := mem_mergeKeep h
          rw [e]
          exact wf_slot_of (ho2 _ ho) (ih _ ho (ho2 _ ho) (wf_lookup wn.2 hn))
        · exact hn2 kv (List.mem_filter.mp h).1
    | null => exact wo
    | _ => exact wn
  | arr o ih => intro new wo wn; cases new with
    | arr n =>
      refine wfList_iff.mpr fun x hx => ?_
      obtain ⟨i, hi⟩ := List.mem_iff_getElem?.mp hx
      rw [getElem?_mergeArr] at hi
      cases ho : o[i]? <;> cases hn : n[i]? <;> rw [ho, hn] at hi <;> cases hi
      · exact wf_getElem? wn hn
      · have wov := wf_getElem? wo ho
        exact wf_slot_of wov (ih _ (List.mem_of_getElem? ho) wov (wf_getElem? wn hn))
    | null => exact wo
    | _ => exact wn
  | _ => intro new _ wn; exact wn

theorem wf_slot {ov nv : JVal} (wo : WF ov) (wn : WF nv) : WF (slot ov nv) :=
  wf_slot_of wo (wf_merge wo wn)

theorem wf_mergeKeep : (o n : Entries) → WFObj o → WFObj n → ∀ kv ∈ mergeKeep o n, WF kv.2 :=
  fun _ _ wo wn _ h =>
    have ⟨_, _, ho, hn, e⟩ := mem_mergeKeep h
    e ▸ wf_slot (wfObj_iff.mp wo _ ho) (wf_lookup wn hn)

theorem wf_mergeArr : (o n : List JVal) → WFList o → WFList n → WFList (mergeArr o n) :=
  fun _ _ wo wn => wf_merge (old := .arr _) (new := .arr _) wo wn

theorem keys_setKV (k : String) (v : JVal) (l : Entries) :
    keys (setKV k v l) = if k ∈ keys l then keys l else keys l ++ [k] := by
  induction l with
  | nil => simp [setKV]
  | cons hd tl ih =>
    obtain ⟨k₀, v₀⟩ := hd
    simp only [setKV]
    split
    · next hk => simp [hk]
    · next hk =>
      simp only [keys, List.map_cons, List.mem_cons, hk, false_or] at ih ⊢
      rw [ih]; split <;> simp

theorem mem_setKV {k : String} {v : JVal} {l : Entries} {kv : String × JVal}
    (h : kv ∈ setKV k v l) : kv = (k, v) ∨ kv ∈ l := by
  induction l with
  | nil => simp [setKV] at h; exact Or.inl h
  | cons hd tl ih =>
    obtain ⟨k₀, v₀⟩ := hd
    simp only [setKV] at h
    split at h
    · rcases List.mem_cons.mp h with h | h
      · exact Or.inl h
      · exact Or.inr (List.mem_cons_of_mem _ h)
    · rcases List.mem_cons.mp h with h | h
      · exact Or.inr (h ▸ List.mem_cons_self)
      · rcases ih h with h | h
        · exact Or.inl h
        · exact Or.inr (List.mem_cons_of_mem _ h)

theorem wf_setKV {k : String} {v : JVal} {l : Entries} (hl : WF (.obj l)) (hv : WF v) :
    WF (.obj (setKV k v l)) := by
  obtain ⟨h1, h2⟩ := wf_obj_iff.mp hl
  refine wf_obj_iff.mpr ⟨?_, ?_⟩
  · rw [keys_setKV]
    split
    · exact h1
    · next hk =>
      rw [List.nodup_append]
      exact ⟨h1, by simp, by intro a ha b hb; simp at hb; subst hb; intro e; exact hk (e ▸ ha)⟩
  · intro kv hkv
    rcases mem_setKV hkv with h | h
    · subst h; exact hv
    · exact h2 kv h

theorem eraseKV_sublist (k : String) (l : Entries) : (eraseKV k l).Sublist l := by
  induction l with
  | nil => simp [eraseKV]
  | cons hd tl ih =>
    obtain ⟨k₀, v₀⟩ := hd
    simp only [eraseKV]
    split
    · exact ih.trans (List.sublist_cons_self _ _)
    · exact ih.cons_cons _

theorem wf_eraseKV {k : String} {l : Entries} (hl : WF (.obj l)) : WF (.obj (eraseKV k l)) := by
  obtain ⟨h1, h2⟩ := wf_obj_iff.mp hl
  exact wf_obj_iff.mpr ⟨(List.Sublist.map _ (eraseKV_sublist k l)).nodup h1,
    fun kv hkv => h2 kv ((eraseKV_sublist k l).subset hkv)⟩

theorem wf_overlay {d other : Entries} (hd : WF (.obj d)) (ho : ∀ kv ∈ other, WF kv.2) :
    WF (.obj (overlay d other)) := by
  unfold overlay
  induction other generalizing d with
  | nil => simpa using hd
  | cons hd' tl ih =>
    simp only [List.foldl_cons]
    exact ih (wf_setKV hd (ho hd' List.mem_cons_self)) (fun kv h => ho kv (List.mem_cons_of_mem _ h))

theorem wf_entriesOf {d : JVal} (h : WF d) : WF (.obj (entriesOf d)) := by
  cases d <;> simp only [entriesOf] <;> first | exact h | exact wf_empty

theorem wf_set {xs : List JVal} {j : Nat} {x : JVal} (h : WF (.arr xs)) (hx : WF x) :
    WF (.arr (xs.set j x)) := by
  rw [wf_arr_iff] at h ⊢
  intro y hy
  rcases List.mem_or_eq_of_mem_set hy with h' | h'
  · exact h y h'
  · exact h' ▸ hx

theorem wf_append {xs ys : List JVal} (h : WF (.arr xs)) (hy : ∀ y ∈ ys, WF y) :
    WF (.arr (xs ++ ys)) := by
  rw [wf_arr_iff] at h ⊢
  intro y hy'
  rcases List.mem_append.mp hy' with h' | h'
  · exact h y h'
  · exact hy y h'

end Signac.Doc
