/- All operations at once: their steps stay in `Op.keys`; a normal return consumed no fault — also
   of the composite `reset`. -/
import Signac.Proofs.LifeClone
namespace Signac.Life
variable {Sp : Type}

theorem opProg_all (C : Codec Sp) (op : Op Sp) : Prog.All (Within op.keys) (op.prog C) := by
  cases op with
  | init k v f => exact initProg_all C k v f List.mem_cons_self
  | rekey x y v => exact rekeyProg_all C x y v List.mem_cons_self (List.mem_cons_of_mem _ List.mem_cons_self)
  | move a b => exact moveProg_all a b List.mem_cons_self (List.mem_cons_of_mem _ List.mem_cons_self)
  | clone s d o => exact cloneProg_all s d o List.mem_cons_self
  | remove k o => exact removeProg_all k o List.mem_cons_self
  | clear k o => exact clearProg_all k o List.mem_cons_self

/-- the operations whose code reads ENOENT as "not there" and goes on -/
def Op.readsENOENT : Op Sp → Prop
  | .rekey _ _ _ => True
  | .remove _ _ => True
  | .clear _ _ => True
  | _ => False

/-- re-key: source and destination directory differ (the side condition of `Op.covered`) -/
def Op.distinct : Op Sp → Prop
  | .rekey x y _ => x ≠ y
  | _ => True

theorem op_okClean (C : Codec Sp) (op : Op Sp) (hd : op.distinct) (ev : Nat → Option Ev)
    (hne : op.readsENOENT → NoENOENT ev) (w : World Sp) : OkClean {} (run C ev (op.prog C) w) := by
  cases op with
  | init k v f => exact init_okClean C ev k v f {} w
  | rekey x y v => exact rekey_okClean C ev x y v w hd (hne trivial)
  | move a b => exact move_okClean C ev a b {} w
  | clone s d o => exact clone_okClean C ev s d o {} w
  | remove k o => exact removal_okClean C ev (hne trivial) k _ {} w
  | clear k o => exact removal_okClean C ev (hne trivial) k _ {} w

theorem Op.covered.distinct {op : Op Sp} (hc : op.covered) : op.distinct := by
  cases op <;> first | exact hc | trivial

theorem outcome_eta_ok (o : Outcome Sp) (h : o.res = .ok) : (⟨o.w, .ok, o.acc⟩ : Outcome Sp) = o := by
  cases o; cases h; rfl

/-- in ANY world (job missing, present without state-point file, corrupted, valid) -/
theorem reset_okClean (C : Codec Sp) (ev : Nat → Option Ev) (hne : NoENOENT ev) (k : Key)
    (order : List Ref) (v : Sp) (w : World Sp) : OkClean {} (run C ev (resetProg C k order v) w) :=
  .seq C ev (removal_okClean C ev hne k _ {} w) fun a' w' => init_okClean C ev k v false a' w'

end Signac.Life
