/-
  C16: the predicates the statements of Properties/C16.lean are written in.
-/
import Signac.ImportExport
namespace Signac.IE
open Signac

/-- neither path is a component-wise prefix of the other; `PrefixFree cs` unfolds to `cs.Pairwise Incomp` -/
def Incomp (a b : Comps) : Prop := ¬ a <+: b ∧ ¬ b <+: a

/-- component-wise: no path is a prefix of another (in particular no two are equal) -/
def PrefixFree (cs : List Comps) : Prop :=
  cs.Pairwise (fun a b => ¬ a <+: b ∧ ¬ b <+: a)

/-- a well-formed source project: distinct ids, every job directory holds its state point file
    (whose value hashes to the id), files have non-empty relative names -/
structure WF (hash : JVal → String) (P : Project) : Prop where
  ids : (P.map (·.id)).Nodup
  sp : ∀ j ∈ P, ∃ v, lookupFile [fnSp] j.files = some (.sp v) ∧ hash v = j.id
  nonempty : ∀ j ∈ P, ∀ fc ∈ j.files, fc.1 ≠ []

/-- no job holds a nested file called `signac_statepoint.json` -/
def NoNestedSp (P : Project) : Prop :=
  ∀ j ∈ P, ∀ fc ∈ j.files, ∀ g, fc.1 = g ++ [fnSp] → g = []

/-- no job holds an empty sub-directory (zip archives written by signac do not store them, F-16e) -/
def NoEmptyDirs (P : Project) : Prop := ∀ j ∈ P, ∀ fc ∈ j.files, isDirEntry fc.2 = false

/-- no entry of a job has the empty string as its first path component (a directory or file
    called `""` directly in the job directory: impossible on a file system, possible in the model) -/
def TopNamed (P : Project) : Prop := ∀ j ∈ P, ∀ fc ∈ j.files, fc.1.head? ≠ some ""

/-- no path component of any entry of any job is the empty string (true of every file system) -/
def PathsWF (P : Project) : Prop := ∀ j ∈ P, ∀ fc ∈ j.files, "" ∉ fc.1

/-- same jobs (id, state point file, document file, every other file), no id twice -/
def ProjEquiv (P' P : Project) : Prop := (∀ j, j ∈ P' ↔ j ∈ P) ∧ (P'.map (·.id)).Nodup

/-- A visiting order lists parents before children: no directory is followed, later in the list, by
    one of its proper ancestors.
    `os.walk(top, topdown=True)` ALWAYS produces such an order, whatever the listing order inside
    each directory is: it yields a directory, and only afterwards descends into (a subset of) the
    sub-directories it has just listed, so every proper ancestor of a yielded directory was yielded
    earlier.  `sorted(names)` produces such an order when no entry's first component is the empty
    name (`walkOrder_parentsFirst`). -/
def ParentsFirst (order : List Comps) : Prop :=
  order.Pairwise (fun a b => ¬ (b <+: a ∧ b ≠ a))

/-- the values the fields of a schema pick out of a state point, in schema order -/
def fieldVals : List SComp → JVal → List (String × JVal)
  | [], _ => []
  | .lit _ :: rest, sp => fieldVals rest sp
  | .fld k _ :: rest, sp =>
    match getPath (splitOnChar '.' k) sp with
    | some v => (k, v) :: fieldVals rest sp
    | none => fieldVals rest sp

/-- a value that a field of type `ty` can carry through a path -/
def Representable : FType → JVal → Prop
  | .int, v => ∃ i, v = .int i
  | .bool, v => ∃ b, v = .bool b
  | .str, v => ∃ s, v = .str s ∧ matchWord s.toList = true
  | .float, v => ∃ n e r, v = .flt n e r ∧ matchFloat r.toList = true ∧ convFloat r.toList = .flt n e r

/-- every field of the schema addresses a representable value of the state point -/
def AllRepresentable (sc : List SComp) (sp : JVal) : Prop :=
  ∀ k ty, SComp.fld k ty ∈ sc → ∃ v, getPath (splitOnChar '.' k) sp = some v ∧ Representable ty v

def fldKey : SComp → Option String
  | .fld k _ => some k
  | .lit _ => none

end Signac.IE
