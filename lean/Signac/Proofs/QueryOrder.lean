/-
  What C07's groupby needs of Python's three-way comparison: on well-formed values (`keysOK`)
  `pyCmp` is a consistent partial preorder — where it answers, `eq` is exactly `==`; swapping the
  operands swaps `lt`/`gt`; it respects `==` on either side; `lt` is transitive.
-/
import Signac.Proofs.QueryValFull
namespace Signac.Query
open Signac

def _root_.Signac.Cmp.flip : Cmp → Cmp
  | .lt => .gt
  | .gt => .lt
  | c => c

theorem _root_.Signac.Cmp.flip_flip (c : Cmp) : c.flip.flip = c := by cases c <;> rfl

theorem numCmp_flip (p q : Int × Nat) : numCmp q p = (numCmp p q).flip := by
  unfold numCmp
  have h1 := numLt_iff p q
  have h2 := numLt_iff q p
  have h3 := numEq_iff p q
  have h4 := numEq_iff q p
  by_cases a : numLt p q = true
  · have b : ¬ numLt q p = true := by rw [h2]; rw [h1] at a; omega
    have c : ¬ numEq q p = true := by rw [h4]; rw [h1] at a; omega
    simp only [a, b, c, if_true, if_false, Cmp.flip, Bool.false_eq_true]
  · by_cases b : numEq p q = true
    · have c : ¬ numLt q p = true := by rw [h2]; rw [h3] at b; omega
      have d : numEq q p = true := by rw [h4]; rw [h3] at b; omega
      simp only [a, b, c, d, if_true, if_false, Cmp.flip, Bool.false_eq_true]
    · have c : numLt q p = true := by rw [h2]; rw [h1] at a; rw [h3] at b; omega
      simp only [a, b, c, if_true, if_false, Cmp.flip, Bool.false_eq_true]

theorem numCmp_eq_iff (p q : Int × Nat) : numCmp p q = .eq ↔ numEq p q = true := by
  unfold numCmp
  have h1 := numLt_iff p q
  have h3 := numEq_iff p q
  by_cases a : numLt p q = true
  · have b : ¬ numEq p q = true := by rw [h3]; rw [h1] at a; omega
    simp [a, b]
  · by_cases b : numEq p q = true <;> simp [a, b]

theorem numCmp_lt_iff (p q : Int × Nat) : numCmp p q = .lt ↔ numLt p q = true := by
  unfold numCmp
  by_cases a : numLt p q = true
  · simp [a]
  · by_cases b : numEq p q = true <;> simp [a, b]

theorem cmpStr_flip (a b : String) : cmpStr b a = (cmpStr a b).flip := by
  unfold cmpStr
  by_cases h1 : a < b
  · have h2 : ¬ b < a := String.lt_asymm h1
    have h3 : ¬ b = a := fun e => String.lt_irrefl a (by rw [e] at h1; exact h1)
    simp only [h1, h2, h3, if_true, if_false, Cmp.flip]
  · by_cases h2 : a = b
    · subst h2
      simp only [h1, if_true, if_false, Cmp.flip]
    · have h3 : b < a := Decidable.byContradiction fun h3 => h2 (String.le_antisymm h3 h1)
      have h4 : ¬ b = a := fun e => h2 e.symm
      simp only [h1, h2, h3, if_true, if_false, Cmp.flip]

theorem cmpStr_eq_iff (a b : String) : cmpStr a b = .eq ↔ a = b := by
  unfold cmpStr
  by_cases h1 : a < b
  · have : ¬ a = b := fun e => String.lt_irrefl a (by rw [← e] at h1; exact h1)
    simp [h1, this]
  · by_cases h2 : a = b <;> simp [h1, h2]

theorem cmpStr_lt_iff (a b : String) : cmpStr a b = .lt ↔ a < b := by
  unfold cmpStr
  by_cases h1 : a < b
  · simp [h1]
  · by_cases h2 : a = b <;> simp [h1, h2]

theorem pyCmp_eq_iff_num {a : JVal} {p : Int × Nat} (h : numVal a = some p) (b : JVal)
    (hne : pyCmp a b ≠ .typeError) : pyEq a b = true ↔ pyCmp a b = .eq := by
  rw [pyCmp_of_numVal h] at hne ⊢
  rw [pyEq_of_numVal h]
  cases hb : numVal b with
  | none => rw [hb] at hne; exact absurd rfl hne
  | some q => exact (numCmp_eq_iff p q).symm

theorem pyCmpList_eq_iff_of (xs : List JVal) : ∀ (ys : List JVal),
    (∀ x ∈ xs, ∀ b, pyCmp x b ≠ .typeError → (pyEq x b = true ↔ pyCmp x b = .eq)) →
    pyCmpList xs ys ≠ .typeError → (pyEqList xs ys = true ↔ pyCmpList xs ys = .eq) := by
  induction xs with
  | nil => intro ys _ _; cases ys <;> simp [pyEqList, pyCmpList]
  | cons x xs ih =>
    intro ys hp hne
    cases ys with
    | nil => simp [pyEqList, pyCmpList]
    | cons y ys =>
      simp only [pyEqList, pyCmpList] at hne ⊢
      by_cases he : pyEq x y = true
      · rw [if_pos he] at hne ⊢
        simp only [he, Bool.true_and]
        exact ih ys (fun x' hx => hp x' (List.mem_cons_of_mem _ hx)) hne
      · rw [if_neg he] at hne ⊢
        have := hp x List.mem_cons_self y hne
        simp only [Bool.and_eq_true]
        exact ⟨fun h => absurd h.1 he, fun h => absurd (this.mpr h) he⟩

theorem pyCmp_eq_iff : ∀ (a : JVal), keysOK a = true → ∀ b, pyCmp a b ≠ .typeError →
    (pyEq a b = true ↔ pyCmp a b = .eq) := by
  refine keysOK_rec ?_ ?_ ?_ ?_ ?_
  · intro a p ha b h; exact pyCmp_eq_iff_num ha b h
  · intro b h; exact absurd rfl h
  · intro s b h
    cases b with
    | str t => simp only [pyEq, pyCmp, cmpStr_eq_iff, beq_iff_eq]
    | _ => exact absurd rfl h
  · intro xs _ ih b h
    cases b with
    | arr ys => simp only [pyEq, pyCmp] at h ⊢; exact pyCmpList_eq_iff_of xs ys ih h
    | _ => exact absurd rfl h
  · intro kvs _ _ _ b h
    exact absurd rfl h

theorem pyEq_of_pyCmp_eq {a b : JVal} (ha : keysOK a = true) (h : pyCmp a b = .eq) : pyEq a b = true :=
  (pyCmp_eq_iff a ha b (by rw [h]; exact fun e => Cmp.noConfusion e)).mpr h

theorem pyCmp_lt_ne {a b : JVal} (ha : keysOK a = true) (h : pyCmp a b = .lt) : pyEq a b = false := by
  cases he : pyEq a b with
  | false => rfl
  | true =>
    have := (pyCmp_eq_iff a ha b (by rw [h]; exact fun e => Cmp.noConfusion e)).mp he
    rw [h] at this; cases this

theorem pyCmpList_flip_of (xs : List JVal) : ∀ (ys : List JVal),
    (∀ x ∈ xs, ∀ y ∈ ys, pyCmp y x = (pyCmp x y).flip) → (∀ x ∈ xs, ∀ y ∈ ys, pyEq y x = pyEq x y) →
    pyCmpList ys xs = (pyCmpList xs ys).flip := by
  induction xs with
  | nil => intro ys _ _; cases ys <;> rfl
  | cons x xs ih =>
    intro ys hp he
    cases ys with
    | nil => rfl
    | cons y ys =>
      simp only [pyCmpList]
      rw [he x List.mem_cons_self y List.mem_cons_self]
      by_cases h : pyEq x y = true
      · rw [if_pos h, if_pos h]
        exact ih ys
          (fun x' hx y' hy => hp x' (List.mem_cons_of_mem _ hx) y' (List.mem_cons_of_mem _ hy))
          (fun x' hx y' hy => he x' (List.mem_cons_of_mem _ hx) y' (List.mem_cons_of_mem _ hy))
      · rw [if_neg h, if_neg h]
        exact hp x List.mem_cons_self y List.mem_cons_self

theorem pyCmp_flip_num {a : JVal} {p : Int × Nat} (h : numVal a = some p) (b : JVal) :
    pyCmp b a = (pyCmp a b).flip := by
  rw [pyCmp_of_numVal h b]
  cases hb : numVal b with
  | none => simp only [pyCmp_nonnum_num hb h]; rfl
  | some q => rw [pyCmp_of_numVal hb a, h]; exact numCmp_flip p q

theorem pyCmp_flip : ∀ (a : JVal), keysOK a = true → ∀ b, keysOK b = true →
    pyCmp b a = (pyCmp a b).flip := by
  refine keysOK_rec ?_ ?_ ?_ ?_ ?_
  · intro a p ha b _; exact pyCmp_flip_num ha b
  · intro b _; cases b <;> rfl
  · intro s b _
    cases b with
    | str t => simp only [pyCmp]; exact cmpStr_flip s t
    | _ => rfl
  · intro xs hxs ih b hb
    cases b with
    | arr ys =>
      simp only [pyCmp]
      have hys := keysOK_arr.mp hb
      exact pyCmpList_flip_of xs ys (fun x hx y hy => ih x hx y (hys y hy))
        (fun x hx y hy => pyEq_symm_wf y x (hys y hy) (hxs x hx))
    | _ => rfl
  · intro kvs _ _ _ b _
    cases b <;> rfl

theorem pyCmp_congr_right {a b c : JVal} (ha : keysOK a = true) (hb : keysOK b = true)
    (hc : keysOK c = true) (h : pyEq b c = true) : pyCmp a b = pyCmp a c := by
  rw [pyCmp_flip b hb a ha, pyCmp_flip c hc a ha, pyCmp_congr_wf b hb c a h]

theorem pyEq_congr_right {a b c : JVal} (ha : keysOK a = true) (hb : keysOK b = true)
    (hc : keysOK c = true) (h : pyEq b c = true) : pyEq a b = pyEq a c := by
  rw [pyEq_symm_wf a b ha hb, pyEq_symm_wf a c ha hc, pyEq_eucl_wf b hb c a h]

theorem pyCmpList_trans_of (xs : List JVal) : ∀ (ys zs : List JVal),
    (∀ x ∈ xs, keysOK x = true) → (∀ y ∈ ys, keysOK y = true) → (∀ z ∈ zs, keysOK z = true) →
    (∀ x ∈ xs, ∀ y z, keysOK y = true → keysOK z = true →
      pyCmp x y = .lt → pyCmp y z = .lt → pyCmp x z = .lt) →
    pyCmpList xs ys = .lt → pyCmpList ys zs = .lt → pyCmpList xs zs = .lt := by
  induction xs with
  | nil =>
    intro ys zs _ _ _ _ h1 h2
    cases ys with
    | nil => cases h1
    | cons y ys => cases zs with
      | nil => cases h2
      | cons z zs => rfl
  | cons x xs ih =>
    intro ys zs hx hy hz ht h1 h2
    cases ys with
    | nil => cases h1
    | cons y ys =>
      cases zs with
      | nil => cases h2
      | cons z zs =>
        have kx := hx x List.mem_cons_self
        have ky := hy y List.mem_cons_self
        have kz := hz z List.mem_cons_self
        have tails := ih ys zs (fun a h => hx a (List.mem_cons_of_mem _ h))
          (fun a h => hy a (List.mem_cons_of_mem _ h)) (fun a h => hz a (List.mem_cons_of_mem _ h))
          (fun a h => ht a (List.mem_cons_of_mem _ h))
        simp only [pyCmpList] at h1 h2 ⊢
        by_cases e1 : pyEq x y = true
        · rw [if_pos e1] at h1
          by_cases e2 : pyEq y z = true
          · rw [if_pos e2] at h2
            have e3 : pyEq x z = true := by rw [pyEq_eucl_wf x kx y z e1]; exact e2
            rw [if_pos e3]
            exact tails h1 h2
          · rw [if_neg e2] at h2
            have e3 : ¬ pyEq x z = true := by rw [pyEq_eucl_wf x kx y z e1]; exact e2
            rw [if_neg e3, pyCmp_congr_wf x kx y z e1]
            exact h2
        · rw [if_neg e1] at h1
          by_cases e2 : pyEq y z = true
          · rw [if_pos e2] at h2
            have e3 : ¬ pyEq x z = true := by rw [← pyEq_congr_right kx ky kz e2]; exact e1
            rw [if_neg e3, ← pyCmp_congr_right kx ky kz e2]
            exact h1
          · rw [if_neg e2] at h2
            have h3 := ht x List.mem_cons_self y z ky kz h1 h2
            have e3 : ¬ pyEq x z = true := by rw [pyCmp_lt_ne kx h3]; exact Bool.false_ne_true
            rw [if_neg e3]
            exact h3

theorem pyCmp_lt_num {a : JVal} {p : Int × Nat} (h : numVal a = some p) {b : JVal}
    (hl : pyCmp a b = .lt) : ∃ q, numVal b = some q ∧ numLt p q = true := by
  rw [pyCmp_of_numVal h] at hl
  cases hb : numVal b with
  | none => rw [hb] at hl; cases hl
  | some q => rw [hb] at hl; exact ⟨q, rfl, (numCmp_lt_iff p q).mp hl⟩

theorem pyCmp_lt_trans_num {a : JVal} {p : Int × Nat} (h : numVal a = some p) {b c : JVal}
    (h1 : pyCmp a b = .lt) (h2 : pyCmp b c = .lt) : pyCmp a c = .lt := by
  obtain ⟨q, hq, l1⟩ := pyCmp_lt_num h h1
  obtain ⟨r, hr, l2⟩ := pyCmp_lt_num hq h2
  rw [pyCmp_of_numVal h, hr]
  exact (numCmp_lt_iff p r).mpr (numLt_trans l1 l2)

theorem pyCmp_lt_trans : ∀ (a : JVal), keysOK a = true → ∀ b c, keysOK b = true → keysOK c = true →
    pyCmp a b = .lt → pyCmp b c = .lt → pyCmp a c = .lt := by
  refine keysOK_rec ?_ ?_ ?_ ?_ ?_
  · intro a p ha b c _ _ h1 h2; exact pyCmp_lt_trans_num ha h1 h2
  · intro b c _ _ h1 _; cases h1
  · intro s b c _ _ h1 h2
    cases b with
    | str t =>
      cases c with
      | str u =>
        simp only [pyCmp, cmpStr_lt_iff] at h1 h2 ⊢
        exact String.lt_trans h1 h2
      | _ => cases h2
    | _ => cases h1
  · intro xs hxs ih b c hb hc h1 h2
    cases b with
    | arr ys =>
      cases c with
      | arr zs =>
        simp only [pyCmp] at h1 h2 ⊢
        exact pyCmpList_trans_of xs ys zs hxs (keysOK_arr.mp hb) (keysOK_arr.mp hc) ih h1 h2
      | _ => cases h2
    | _ => cases h1
  · intro kvs _ _ _ b c _ _ h1 _; cases h1

end Signac.Query
