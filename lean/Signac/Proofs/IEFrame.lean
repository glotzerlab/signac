/-
  C16: what an import can do to the importing project, for EVERY archive / directory tree, schema
  and destination: existing jobs stay as they are, no id appears twice, every write goes below
  `workspace/<new id>/`, and export members lie below their job's path.
-/
import Signac.ImportExport
import Signac.Proofs.IEAnalysis
namespace Signac.IE
open Signac

/-- a write of the import: `workspace/<id>/<rel>` where `id` is not a job of the destination and
    every component of `rel` is the state point file name or a component of an archive member -/
def FrameOK (files : List (Comps × Content)) (dst : Project) (w : Comps) : Prop :=
  ∃ id rel, w = wsName :: id :: rel ∧ hasId id dst = false ∧
    ∀ c ∈ rel, c = fnSp ∨ ∃ fc ∈ files, c ∈ fc.1

theorem writesOf_frame (files : List (Comps × Content)) (dst : Project) (d : Comps) (id : String)
    (hid : hasId id dst = false) : ∀ w ∈ writesOf id (filesUnder d files), FrameOK files dst w := by
  intro w hw
  rcases List.mem_map.mp hw with ⟨x, hx, rfl⟩
  rcases List.mem_map.mp hx with ⟨fc, hfc, rfl⟩
  exact ⟨id, _, rfl, hid, fun c hc => Or.inr ⟨fc, (List.mem_filter.mp hfc).1, List.mem_of_mem_drop hc⟩⟩

/-- the three facts every copy loop preserves -/
structure Safe (files : List (Comps × Content)) (dst : Project) (r : ImportResult) : Prop where
  keeps : ∃ extra, r.proj = dst ++ extra
  nodup : (r.proj.map (·.id)).Nodup
  frame : ∀ w ∈ r.writes, FrameOK files dst w

namespace Safe
variable {files : List (Comps × Content)} {dst : Project}

theorem withErr {r : ImportResult} (h : Safe files dst r) (e : Option Err) :
    Safe files dst { r with err := e } :=
  ⟨h.keeps, h.nodup, h.frame⟩

theorem start (hnd : (dst.map (·.id)).Nodup) (e : Option Err) : Safe files dst ⟨dst, e, []⟩ :=
  ⟨⟨[], (List.append_nil _).symm⟩, hnd, fun _ hw => nomatch hw⟩

/-- a job directory with a new id is copied, and `init()` may write its state point file -/
theorem add {r : ImportResult} (h : Safe files dst r) {id : String} (hid : hasId id r.proj = false)
    (fs : List (Comps × Content)) (e : Option Err) (d : Comps) {ws : List Comps}
    (hws : ∀ w ∈ ws, w = [wsName, id, fnSp]) :
    Safe files dst ⟨r.proj ++ [⟨id, fs⟩], e, r.writes ++ writesOf id (filesUnder d files) ++ ws⟩ := by
  rcases h.keeps with ⟨extra, hex⟩
  have hid' : hasId id dst = false := by
    rw [hex, hasId_append, Bool.or_eq_false_iff] at hid
    exact hid.1
  refine ⟨⟨extra ++ [⟨id, fs⟩], by rw [hex, List.append_assoc]⟩, ?_, fun w hw => ?_⟩
  · rw [List.map_append, List.nodup_append]
    refine ⟨h.nodup, List.nodup_cons.mpr ⟨List.not_mem_nil, List.nodup_nil⟩, fun a ha b hb hab => ?_⟩
    rw [hab, List.mem_singleton.mp hb] at ha
    exact Bool.eq_false_iff.mp hid (hasId_iff.mpr ha)
  · rcases List.mem_append.mp hw with hw | hw
    · rcases List.mem_append.mp hw with hw | hw
      · exact h.frame w hw
      · exact writesOf_frame files dst d id hid' w hw
    · exact ⟨id, [fnSp], hws w hw, hid', fun c hc => Or.inl (List.mem_singleton.mp hc)⟩

end Safe

section
variable (hash : JVal → String) (files : List (Comps × Content)) (dst : Project)

/-- `job.init()` keeps a valid state point file, refuses an invalid one, writes a missing one -/
theorem initJob_cases (id : String) (sp : JVal) (fs : List (Comps × Content)) :
    initJob hash id sp fs = .ok (fs, []) ∨ initJob hash id sp fs = .error .jobsCorrupted
    ∨ initJob hash id sp fs = .ok (fs ++ [([fnSp], .sp sp)], [[wsName, id, fnSp]]) := by
  rw [initJob]
  cases lookupFile [fnSp] fs with
  | none => exact Or.inr (Or.inr rfl)
  | some c =>
    cases c with
    | sp w =>
      dsimp only
      by_cases hw : hash w = id
      · exact Or.inl (if_pos hw)
      · exact Or.inr (Or.inl (if_neg hw))
    | blob n => exact Or.inr (Or.inl rfl)
    | dir => exact Or.inr (Or.inl rfl)

/-- `_copy_to_job_workspace` refuses an id that is there, or adds the job (even when `init()` fails) -/
theorem copyInit_shape (d : Comps) (id : String)
    (sp : JVal) (r : ImportResult) :
    copyInit hash files d id sp r = { r with err := some .destinationExists }
    ∨ (hasId id r.proj = false ∧ ∃ fs e ws, (∀ w ∈ ws, w = [wsName, id, fnSp]) ∧
        copyInit hash files d id sp r
          = ⟨r.proj ++ [⟨id, fs⟩], e, r.writes ++ writesOf id (filesUnder d files) ++ ws⟩) := by
  rw [copyInit]
  cases h : hasId id r.proj with
  | true => exact Or.inl rfl
  | false =>
    refine Or.inr ⟨rfl, ?_⟩
    rw [if_neg Bool.false_ne_true]
    dsimp only
    rcases initJob_cases hash id sp (filesUnder d files) with hi | hi | hi <;> rw [hi]
    · exact ⟨_, _, [], fun _ hw => (nomatch hw), rfl⟩
    · exact ⟨_, _, [], fun _ hw => (nomatch hw), congrArg _ (List.append_nil _).symm⟩
    · exact ⟨_, _, _, fun _ hw => List.mem_singleton.mp hw, rfl⟩

theorem copyInit_safe
    (d : Comps) (id : String) (sp : JVal) (r : ImportResult) (h : Safe files dst r) :
    Safe files dst (copyInit hash files d id sp r) := by
  rcases copyInit_shape hash files d id sp r with h' | ⟨hid, fs, e, ws, hws, h'⟩
  · exact h' ▸ h.withErr _
  · exact h' ▸ h.add hid fs e d hws

theorem tarCopy_safe
    (maps : List (Comps × String × JVal)) :
    ∀ r : ImportResult, Safe files dst r → Safe files dst (tarCopy hash files maps r) := by
  induction maps with
  | nil => exact fun r h => h
  | cons m rest ih =>
    intro r h
    rw [tarCopy]
    have h' := copyInit_safe hash files dst m.1 m.2.1 m.2.2 r h
    by_cases he : (copyInit hash files m.1 m.2.1 m.2.2 r).err.isSome = true
    · rw [if_pos he]; exact h'
    · rw [if_neg he]; exact ih _ h'

theorem crawl_safe (sf : Comps → Except Err (Option JVal)) (dirs : List Comps) :
    ∀ (found : List Comps) (seen : List String) (r : ImportResult), Safe files dst r →
      Safe files dst (crawl hash sf files dirs found seen r) := by
  induction dirs with
  | nil => exact fun _ _ r h => h
  | cons d rest ih =>
    intro found seen r h
    rw [crawl]
    by_cases ht : (found.any fun s => isPrefixB s d) = true
    · rw [if_pos ht]
      exact ih _ _ _ h
    · rw [if_neg ht]
      cases sf d with
      | error e => exact h.withErr _
      | ok o =>
        cases o with
        | none => exact ih _ _ _ h
        | some sp =>
          have h' := copyInit_safe hash files dst d (hash sp) sp r h
          dsimp only
          by_cases hs : seen.contains (hash sp) = true
          · rw [if_pos hs]
            exact h.withErr _
          · rw [if_neg hs]
            by_cases he : (copyInit hash files d (hash sp) sp r).err.isSome = true
            · rw [if_pos he]
              exact h'
            · rw [if_neg he]
              exact ih _ _ _ h'

theorem scan_fresh (pol : Policy) (sf : Comps → Except Err (Option JVal))
    (dstIds : List String) (dirs : List Comps) :
    ∀ (skip : List Comps) (maps out : List (Comps × String × JVal)),
      scan pol hash sf dstIds dirs skip maps = .ok out →
      ∀ m ∈ out, m ∈ maps ∨ dstIds.contains m.2.1 = false := by
  induction dirs with
  | nil =>
    intro skip maps out h m hm
    cases h
    exact Or.inl hm
  | cons d rest ih =>
    intro skip maps out h m hm
    rw [scan] at h
    by_cases ht : pol.test skip d = true
    · rw [if_pos ht] at h
      exact ih _ _ _ h m hm
    · rw [if_neg ht] at h
      cases hsf : sf d with
      | error e => rw [hsf] at h; cases h
      | ok o =>
        rw [hsf] at h
        cases o with
        | none => exact ih _ _ _ h m hm
        | some sp =>
          dsimp only at h
          by_cases hc : dstIds.contains (hash sp) = true
          · rw [if_pos hc] at h; cases h
          · rw [if_neg hc] at h
            rcases ih _ _ _ h m hm with h' | h'
            · rcases List.mem_append.mp h' with h'' | h''
              · exact Or.inl h''
              · cases List.mem_singleton.mp h''
                exact Or.inr (Bool.of_not_eq_true hc)
            · exact Or.inr h'

theorem zipCopy_safe (maps : List (Comps × String × JVal)) :
    ∀ r : ImportResult, Safe files dst r → ((r.proj.map (·.id)) ++ maps.map (·.2.1)).Nodup →
      Safe files dst (zipCopy files maps r) := by
  induction maps with
  | nil => exact fun r h _ => h
  | cons m rest ih =>
    intro r h hnd
    obtain ⟨d, id, sp⟩ := m
    have hid := nodup_ids_cons hnd (filesUnder d files)
    rw [zipCopy]
    have h' := h.add hid.1 (filesUnder d files) r.err d (ws := []) (fun _ hw => nomatch hw)
    rw [List.append_nil] at h'
    exact ih _ h' hid.2

theorem importZip_safe (schema : Schema) (hnd : (dst.map (·.id)).Nodup) :
    Safe files dst (importZip hash schema dst files) := by
  rw [importZip]
  split
  · exact Safe.start hnd _
  · rename_i maps hscan
    split
    · exact Safe.start hnd _
    · rename_i hids
      refine zipCopy_safe files dst maps _ (Safe.start hnd _) (List.nodup_append.mpr ⟨hnd, ?_, ?_⟩)
      · exact (idsNodup_iff _).mp (Bool.of_not_eq_false fun hc => hids (by rw [hc]; rfl))
      · rintro a ha b hb rfl
        rcases List.mem_map.mp hb with ⟨m, hm, rfl⟩
        rcases scan_fresh _ _ _ _ _ _ _ _ hscan m hm with h | h
        · cases h
        · rw [List.contains_iff_mem.mpr ha] at h
          cases h

theorem importTar_safe (schema : Schema) (dirs : List Comps) (hnd : (dst.map (·.id)).Nodup) :
    Safe files dst (importTar hash schema dst files dirs) := by
  rw [importTar]
  split
  · exact Safe.start hnd _
  · split
    · exact Safe.start hnd _
    · exact tarCopy_safe hash files dst _ _ (Safe.start hnd _)

theorem importDir_safe (schema : Schema) (order : List Comps) (hnd : (dst.map (·.id)).Nodup) :
    Safe files dst (importDir hash schema dst files order) :=
  crawl_safe hash files dst _ _ _ _ _ (Safe.start hnd _)

end

theorem frame_no_dotdot {files : List (Comps × Content)} {dst : Project} {w : Comps}
    (h : FrameOK files dst w) (hfiles : ∀ fc ∈ files, ".." ∉ fc.1) :
    ∃ id rel, w = wsName :: id :: rel ∧ hasId id dst = false ∧ ".." ∉ rel := by
  rcases h with ⟨id, rel, hw, hid, hrel⟩
  refine ⟨id, rel, hw, hid, fun hmem => ?_⟩
  rcases hrel ".." hmem with h' | ⟨fc, hfc, hc⟩
  · exact absurd h' (by decide) -- the state point file is not called `..`
  · exact hfiles fc hfc hc

theorem exportMembers_under (P : Project) (ds : List Comps) :
    ∀ m ∈ exportMembers P ds, ∃ j d f, (j, d) ∈ P.zip ds ∧ (f, m.2) ∈ j.files ∧ m.1 = d ++ f := by
  intro m hm
  rcases members_path (E := P.zip ds) hm with ⟨e, he, f, c, hf, rfl⟩
  exact ⟨e.1, e.2, f, he, hf, rfl⟩

theorem exportMembers_complete (P : Project) (ds : List Comps) :
    ∀ e ∈ P.zip ds, ∀ fc ∈ e.1.files, (e.2 ++ fc.1, fc.2) ∈ exportMembers P ds :=
  fun _ he _ hfc => mem_members he hfc

end Signac.IE
