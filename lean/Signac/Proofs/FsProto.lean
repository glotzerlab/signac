/-
  The temp+replace protocol (`docWrite`), its instances (`jsonSave`, `cacheWrite`) and sequences
  of them (`flush`): each satisfies the discipline, shows the old node or the complete blob in
  every crash state, and delivers the blob.
-/
import Signac.Proofs.FsCrash
namespace Signac.Fs
variable {α : Type}

theorem unrelated_symm {a b : Path} (h : unrelated a b = true) : unrelated b a = true :=
  unrelated_iff.mpr (unrelated_iff.mp h).symm

theorem run_appends (tmp : Path) (chunks : List (List α)) (fs : FS α) (c : List α)
    (h : fs tmp = some (.file c)) :
    run fs (chunks.map (fun b => Step.append tmp b)) tmp = some (.file (c ++ chunks.flatten)) := by
  induction chunks generalizing fs c with
  | nil => simp [run, h]
  | cons b bs ih =>
    rw [List.map_cons, run_cons, List.flatten_cons, ← List.append_assoc]
    exact ih _ _ (by simp [apply, h, upd])

/-- the steps of `docWrite` before the rename -/
def docPre (tmp : Path) (chunks : List (List α)) : List (Step α) :=
  .create tmp :: (chunks.map (fun b => .append tmp b) ++ [.close tmp])

theorem docWrite_eq (tmp t : Path) (chunks : List (List α)) :
    docWrite tmp t chunks = docPre tmp chunks ++ [.rename tmp t] := by
  simp [docWrite, docPre]

theorem run_docPre (tmp : Path) (chunks : List (List α)) (fs : FS α) :
    run fs (docPre tmp chunks) tmp = some (.file chunks.flatten) := by
  rw [docPre, run_cons, run_append]
  exact run_appends tmp chunks _ [] (upd_same ..)

theorem docPre_touches {tmp p : Path} {chunks : List (List α)} {s : Step α}
    (hs : s ∈ docPre tmp chunks) (ht : touches p s = true) : p = tmp := by
  rcases List.mem_cons.mp hs with rfl | hs
  · exact (of_decide_eq_true ht).symm
  · rcases List.mem_append.mp hs with hs | hs
    · obtain ⟨b, _, rfl⟩ := List.mem_map.mp hs
      exact (of_decide_eq_true ht).symm
    · cases List.mem_singleton.mp hs
      cases ht

theorem docPre_untouched {tmp t : Path} (hne : t ≠ tmp) (chunks : List (List α)) :
    ∀ s ∈ docPre tmp chunks, touches t s = false :=
  fun _ hs => Bool.eq_false_iff.mpr fun h => hne (docPre_touches hs h)

theorem track_docPre (tmp : Path) (chunks : List (List α)) (o : List Path) :
    (docPre tmp chunks).foldl track o = o := by
  have appends : ∀ o', (chunks.map (fun b => Step.append tmp b)).foldl track o' = o' := by
    intro o'
    induction chunks with
    | nil => rfl
    | cons b bs ih => exact ih
  rw [docPre, List.foldl_cons, List.foldl_append, appends]
  exact List.erase_cons_head ..

theorem docWrite_crash {tmp t : Path} (hu : unrelated tmp t = true) (chunks : List (List α)) (fs : FS α) :
    ∀ f ∈ crashStates fs (docWrite tmp t chunks), f t = fs t ∨ f t = some (.file chunks.flatten) := by
  rw [docWrite_eq, ← run_docPre tmp chunks fs]
  exact atomic_replace_last hu _ (docPre_untouched (unrelated_ne hu) chunks) fs

theorem docWrite_delivers {tmp t : Path} (hu : unrelated tmp t = true) (chunks : List (List α)) (fs : FS α) :
    run fs (docWrite tmp t chunks) t = some (.file chunks.flatten)
    ∧ run fs (docWrite tmp t chunks) tmp = none := by
  have ⟨h1, h2⟩ := unrelated_iff.mp hu
  rw [docWrite_eq, run_append, run_cons, run_nil]
  exact apply_rename_some h1 h2 (run_docPre tmp chunks fs)

theorem docWrite_atomicOn {tmp t : Path} (hu : unrelated tmp t = true) (chunks : List (List α)) :
    AtomicOn t (docWrite tmp t chunks) = true := by
  have ⟨h1, h2⟩ := unrelated_iff.mp hu
  rw [AtomicOn, docWrite_eq, atomicScan_append, track_docPre,
    atomicScan_untouched (docPre_untouched (unrelated_ne hu) chunks)]
  rw [Bool.true_and, atomicScan_cons, stepOk_iff.mpr (Or.inr ⟨tmp, rfl, h1, h2, rfl⟩)]
  rfl

theorem track_docWrite (tmp t : Path) (chunks : List (List α)) (o : List Path) :
    (docWrite tmp t chunks).foldl track o = o := by
  rw [docWrite_eq, List.foldl_append, track_docPre]
  rfl

theorem docWrite_touches {tmp t p : Path} {chunks : List (List α)} {s : Step α}
    (hs : s ∈ docWrite tmp t chunks) (ht : touches p s = true) : under tmp p = true ∨ under t p = true := by
  rw [docWrite_eq] at hs
  rcases List.mem_append.mp hs with hs | hs
  · exact Or.inl (docPre_touches hs ht ▸ under_refl _)
  · cases List.mem_singleton.mp hs
    exact Bool.or_eq_true_iff.mp ht

/-! ### the temp file is a sibling of the target with another name, hence unrelated to it -/

theorem unrelated_snoc (d : Path) {x y : String} (h : x ≠ y) : unrelated (d ++ [x]) (d ++ [y]) = true := by
  have key : ∀ {x y : String}, x ≠ y → under (d ++ [x]) (d ++ [y]) = false := fun h =>
    Bool.eq_false_iff.mpr fun hu =>
      h (List.cons_prefix_cons.mp ((List.prefix_append_right_inj d).mp (List.isPrefixOf_iff_prefix.mp hu))).1
  exact unrelated_iff.mpr ⟨key h, key h.symm⟩

theorem sibling_concat (f : String → String) (d : Path) (x : String) : sibling f (d ++ [x]) = d ++ [f x] := by
  rw [sibling, List.dropLast_concat, List.getLast?_concat]
  rfl

theorem sibling_unrelated (f : String → String) (hf : ∀ n, f n ≠ n) {t : Path} (h : t ≠ []) :
    unrelated (sibling f t) t = true := by
  obtain ⟨d, x, rfl⟩ : ∃ d x, t = d ++ [x] := ⟨_, _, (List.dropLast_concat_getLast h).symm⟩
  rw [sibling_concat]
  exact unrelated_snoc d (hf x)

theorem append_ne_self {p : String} (hp : p ≠ "") (n : String) : p ++ n ≠ n ∧ n ++ p ≠ n := by
  have hl : 0 < p.length := Nat.pos_of_ne_zero fun h => hp (String.length_eq_zero_iff.mp h)
  have len : n.length < (p ++ n).length ∧ n.length < (n ++ p).length := by
    rw [String.length_append, String.length_append]
    exact ⟨Nat.lt_add_of_pos_left hl, Nat.lt_add_of_pos_right hl⟩
  exact ⟨fun e => Nat.ne_of_gt len.1 (congrArg _ e), fun e => Nat.ne_of_gt len.2 (congrArg _ e)⟩

theorem tmp_name_ne (n : String) : "._TMP_" ++ n ≠ n :=
  (append_ne_self (by decide) n).1

theorem tilde_name_ne (n : String) : n ++ "~" ≠ n :=
  (append_ne_self (by decide) n).2

theorem tmpOf_unrelated {t : Path} (h : t ≠ []) : unrelated (tmpOf t) t = true :=
  sibling_unrelated _ tmp_name_ne h

theorem tildeOf_unrelated {t : Path} (h : t ≠ []) : unrelated (tildeOf t) t = true :=
  sibling_unrelated _ tilde_name_ne h

theorem flush_cons (w : W α) (ws : List (W α)) : flush (w :: ws) = docWrite w.tmp w.t w.chunks ++ flush ws :=
  List.flatMap_cons

theorem flushPaths_append (ws1 ws2 : List (W α)) :
    flushPaths (ws1 ++ ws2) = flushPaths ws1 ++ flushPaths ws2 :=
  List.flatMap_append

theorem flushPaths_cons (w : W α) (ws : List (W α)) : flushPaths (w :: ws) = w.tmp :: w.t :: flushPaths ws :=
  List.flatMap_cons

theorem mem_flushPaths {w : W α} {ws : List (W α)} (h : w ∈ ws) :
    w.tmp ∈ flushPaths ws ∧ w.t ∈ flushPaths ws :=
  ⟨List.mem_flatMap.mpr ⟨w, h, List.mem_cons_self⟩,
   List.mem_flatMap.mpr ⟨w, h, List.mem_cons_of_mem _ List.mem_cons_self⟩⟩

theorem flush_untouched {ws : List (W α)} {p : Path}
    (h : ∀ q ∈ flushPaths ws, under q p = false) : ∀ s ∈ flush ws, touches p s = false := by
  intro s hs
  obtain ⟨w, hw, hs⟩ := List.mem_flatMap.mp hs
  have ⟨h1, h2⟩ := mem_flushPaths hw
  refine Bool.eq_false_iff.mpr fun ht => ?_
  rcases docWrite_touches hs ht with e | e
  · rw [h _ h1] at e; cases e
  · rw [h _ h2] at e; cases e

theorem track_flush (ws : List (W α)) (o : List Path) : (flush ws).foldl track o = o := by
  induction ws with
  | nil => rfl
  | cons w ws ih => rw [flush_cons, List.foldl_append, track_docWrite, ih]

theorem pairwiseUnrelated_iff {ps : List Path} :
    pairwiseUnrelated ps = true ↔ ps.Pairwise (fun a b => unrelated a b = true) := by
  induction ps with
  | nil => exact ⟨fun _ => .nil, fun _ => rfl⟩
  | cons p ps ih =>
    show (ps.all (unrelated p) && pairwiseUnrelated ps) = true ↔ _
    rw [Bool.and_eq_true, List.all_eq_true, ih, List.pairwise_cons]

/-- In a flush over pairwise unrelated paths every write stands between writes that leave its
    target alone. -/
theorem flush_split {ws : List (W α)} (hu : pairwiseUnrelated (flushPaths ws) = true) {w : W α} (hw : w ∈ ws) :
    ∃ ws1 ws2, flush ws = flush ws1 ++ docWrite w.tmp w.t w.chunks ++ flush ws2
      ∧ unrelated w.tmp w.t = true
      ∧ (∀ s ∈ flush ws1, touches w.t s = false) ∧ (∀ s ∈ flush ws2, touches w.t s = false) := by
  obtain ⟨ws1, ws2, rfl⟩ := List.append_of_mem hw
  rw [pairwiseUnrelated_iff, flushPaths_append, flushPaths_cons, List.pairwise_append, List.pairwise_cons,
    List.pairwise_cons] at hu
  obtain ⟨_, ⟨htmp, ht, _⟩, h1⟩ := hu
  refine ⟨ws1, ws2, by rw [flush, List.flatMap_append, List.flatMap_cons, List.append_assoc]; rfl,
    htmp _ List.mem_cons_self,
    flush_untouched fun q hq => ?_, flush_untouched fun q hq => (unrelated_iff.mp (ht q hq)).2⟩
  exact (unrelated_iff.mp (h1 q hq w.t (List.mem_cons_of_mem _ List.mem_cons_self))).1

theorem asFlush_sound [DecidableEq α] {steps : List (Step α)} {ws : List (W α)} (h : asFlush steps = some ws) :
    steps = flush ws ∧ pairwiseUnrelated (flushPaths ws) = true := by
  unfold asFlush at h
  split at h
  · split at h
    · rename_i hc
      cases h
      exact ⟨hc.1.symm, hc.2⟩
    · cases h
  · cases h

end Signac.Fs
