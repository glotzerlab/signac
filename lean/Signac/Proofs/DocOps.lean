/-
  Every document operation is `Regular`: it respects `Sim` (congruence), preserves well-formedness,
  and if it is not followed by a save it leaves the value unchanged.  `memOp` (what the synced
  dict does) against `plainOp` (plain `dict` semantics): related results, unless `None` meets a
  dict / list inside `update` / `reset` (F-5d).
-/
import Signac.Proofs.DocWF
namespace Signac.Doc
open Signac

inductive OutSim : Out → Out → Prop
  | none : OutSim .none .none
  | val {v w : JVal} : Sim v w → OutSim (.val v) (.val w)
  | err (e : Err) : OutSim (.err e) (.err e)

structure ResSim (r r' : Res) : Prop where
  out : OutSim r.out r'.out
  val : Sim r.val r'.val
  saved : r.saved = r'.saved

theorem OutSim.refl : ∀ o, OutSim o o
  | .none => .none
  | .val v => .val (Sim.refl v)
  | .err e => .err e

theorem OutSim.symm {a b : Out} (h : OutSim a b) : OutSim b a := by
  cases h with
  | none => exact .none
  | val h => exact .val h.symm
  | err e => exact .err e

theorem OutSim.trans {a b c : Out} (h1 : OutSim a b) (h2 : OutSim b c) : OutSim a c := by
  cases h1 with
  | none => exact h2
  | val h => cases h2 with | val h' => exact .val (h.trans h')
  | err e => exact h2

theorem ResSim.symm {a b : Res} (h : ResSim a b) : ResSim b a := ⟨h.out.symm, h.val.symm, h.saved.symm⟩
theorem ResSim.trans {a b c : Res} (h1 : ResSim a b) (h2 : ResSim b c) : ResSim a c :=
  ⟨h1.out.trans h2.out, h1.val.trans h2.val, h1.saved.trans h2.saved⟩

theorem ResSim.refuse {v w : JVal} (h : Sim v w) (e : Err) (s : Bool) : ResSim ⟨.err e, v, s⟩ ⟨.err e, w, s⟩ :=
  ⟨.err e, h, rfl⟩

theorem sim_setKV {a b : Entries} {v w : JVal} (k : String) (h : Sim (.obj a) (.obj b)) (hv : Sim v w) :
    Sim (.obj (setKV k v a)) (.obj (setKV k w b)) := by
  rw [sim_obj_iff] at h ⊢
  intro k'
  rw [lookupKV_setKV, lookupKV_setKV]
  split
  · exact hv
  · exact h k'

theorem sim_eraseKV {a b : Entries} (k : String) (h : Sim (.obj a) (.obj b)) :
    Sim (.obj (eraseKV k a)) (.obj (eraseKV k b)) := by
  rw [sim_obj_iff] at h ⊢
  intro k'
  rw [lookupKV_eraseKV, lookupKV_eraseKV]
  split
  · trivial
  · exact h k'

theorem sim_overlay {a b : Entries} (other : Entries) (h : Sim (.obj a) (.obj b)) :
    Sim (.obj (overlay a other)) (.obj (overlay b other)) := by
  unfold overlay
  induction other generalizing a b with
  | nil => exact h
  | cons hd tl ih => exact ih (sim_setKV _ h (Sim.refl _))

theorem hasKey_congr {a b : Entries} (k : String) (h : Sim (.obj a) (.obj b)) : hasKey k a = hasKey k b := by
  rw [hasKey_eq, hasKey_eq]
  rcases h.lookup_cases k with ⟨ha, hb⟩ | ⟨_, _, ha, hb, _⟩ <;> rw [ha, hb] <;> rfl

theorem sim_list_set {xs ys : List JVal} {x y : JVal} (j : Nat) (h : Sim (.arr xs) (.arr ys)) (hx : Sim x y) :
    Sim (.arr (xs.set j x)) (.arr (ys.set j y)) := by
  obtain ⟨hl, he⟩ := h.arr_inv
  refine .arr (by rw [List.length_set, List.length_set, hl]) (fun i a b ha hb => ?_)
  rw [List.getElem?_set] at ha hb
  by_cases hji : j = i
  · rw [if_pos hji] at ha hb
    split at ha
    · next hi => rw [if_pos (hl ▸ hi)] at hb; cases ha; cases hb; exact hx
    · cases ha
  · rw [if_neg hji] at ha hb
    exact he i a b ha hb

theorem sim_list_append {xs ys : List JVal} (zs : List JVal) (h : Sim (.arr xs) (.arr ys)) :
    Sim (.arr (xs ++ zs)) (.arr (ys ++ zs)) := by
  obtain ⟨hl, he⟩ := h.arr_inv
  refine .arr (by rw [List.length_append, List.length_append, hl]) (fun i a b ha hb => ?_)
  rw [List.getElem?_append] at ha hb
  rw [← hl] at hb
  split at ha
  · next hi => rw [if_pos hi] at hb; exact he i a b ha hb
  · next hi => rw [if_neg hi, ha] at hb; cases hb; exact Sim.refl _

/-- Case analysis on a `Sim` pair by shape: containers keep the relation as a hypothesis, numbers of
    whatever type are one case. -/
theorem Sim.byShape {motive : (v w : JVal) → Sim v w → Prop} (null : motive .null .null .null)
    (str : ∀ s, motive (.str s) (.str s) (.str s))
    (num : ∀ {v w p q} (h : Sim v w), numVal v = some p → numVal w = some q → motive v w h)
    (arr : ∀ {xs ys} (h : Sim (.arr xs) (.arr ys)), motive (.arr xs) (.arr ys) h)
    (obj : ∀ {a b} (h : Sim (.obj a) (.obj b)), motive (.obj a) (.obj b) h) {v w : JVal} (h : Sim v w) :
    motive v w h := by
  cases h with
  | null => exact null
  | str s => exact str s
  | num ha hb he => exact num _ ha hb
  | arr hl he => exact arr _
  | obj hn he => exact obj _

/-- relation between the outcomes of one path step -/
def StepSim : Except Err JVal → Except Err JVal → Prop
  | .ok c, .ok c' => Sim c c'
  | .error e, .error e' => e = e'
  | _, _ => False

theorem StepSim.refl : ∀ x, StepSim x x
  | .ok c => Sim.refl c
  | .error _ => rfl

theorem stepInto_num {v : JVal} {p : Int × Nat} (h : numVal v = some p) (s : Seg) :
    stepInto v s = .error .typeError := by
  rcases num_cases h with ⟨b, rfl⟩ | ⟨i, rfl⟩ | ⟨n, e, r, rfl⟩ <;> cases s <;> rfl

theorem stepInto_sim {v w : JVal} (h : Sim v w) (s : Seg) : StepSim (stepInto v s) (stepInto w s) := by
  cases h using Sim.byShape with
  | null => exact StepSim.refl _
  | str t => exact StepSim.refl _
  | num _ hp hq => rw [stepInto_num hp, stepInto_num hq]; exact rfl
  | @arr xs ys h =>
    obtain ⟨hl, he⟩ := h.arr_inv
    cases s with
    | key k => exact rfl
    | idx i =>
      simp only [stepInto, hl]
      cases normIdx i ys.length with
      | none => exact rfl
      | some j =>
        dsimp only
        cases hx : xs[j]? with
        | none =>
          rw [List.getElem?_eq_none_iff, hl, ← List.getElem?_eq_none_iff] at hx
          rw [hx]; exact rfl
        | some x =>
          have hj : j < ys.length := hl ▸ (List.getElem?_eq_some_iff.mp hx).1
          rw [List.getElem?_eq_getElem hj]
          exact he j x _ hx (List.getElem?_eq_getElem hj)
  | @obj a b h =>
    cases s with
    | idx i => exact rfl
    | key k =>
      simp only [stepInto]
      rcases h.lookup_cases k with ⟨ha, hb⟩ | ⟨_, _, ha, hb, hs⟩ <;> rw [ha, hb]
      · exact rfl
      · exact hs

theorem putBack_num {v : JVal} {p : Int × Nat} (h : numVal v = some p) (s : Seg) (c : JVal) :
    putBack v s c = v := by
  rcases num_cases h with ⟨b, rfl⟩ | ⟨i, rfl⟩ | ⟨n, e, r, rfl⟩ <;> cases s <;> rfl

theorem putBack_sim {v w c c' : JVal} (h : Sim v w) (hc : Sim c c') (s : Seg) :
    Sim (putBack v s c) (putBack w s c') := by
  cases h using Sim.byShape with
  | null => cases s <;> exact .null
  | str t => cases s <;> exact .str t
  | num h hp hq => rw [putBack_num hp, putBack_num hq]; exact h
  | @arr xs ys h =>
    cases s with
    | key k => exact h
    | idx i =>
      simp only [putBack, h.arr_inv.1]
      cases normIdx i ys.length with
      | none => exact h
      | some j => exact sim_list_set j h hc
  | obj h =>
    cases s with
    | idx i => exact h
    | key k => exact sim_setKV k h hc

/-- the three ways a path step succeeds -/
theorem stepInto_ok {v c : JVal} {s : Seg} (h : stepInto v s = .ok c) :
    (∃ k o, s = .key k ∧ v = .obj o ∧ lookupKV k o = some c) ∨
    (∃ i xs j, s = .idx i ∧ v = .arr xs ∧ normIdx i xs.length = some j ∧ xs[j]? = some c) ∨
    (∃ i t ch, s = .idx i ∧ v = .str t ∧ c = .str (String.singleton ch)) := by
  cases s with
  | key k =>
    cases v with
    | obj o =>
      simp only [stepInto] at h
      cases hl : lookupKV k o with
      | none => rw [hl] at h; cases h
      | some x => rw [hl] at h; cases h; exact .inl ⟨k, o, rfl, rfl, hl⟩
    | _ => cases h
  | idx i =>
    cases v with
    | arr xs =>
      simp only [stepInto] at h
      cases hn : normIdx i xs.length with
      | none => rw [hn] at h; cases h
      | some j =>
        simp only [hn] at h
        cases hx : xs[j]? with
        | none => rw [hx] at h; cases h
        | some x => rw [hx] at h; cases h; exact .inr (.inl ⟨i, xs, j, rfl, rfl, hn, hx⟩)
    | str t =>
      simp only [stepInto] at h
      cases hn : normIdx i t.length with
      | none => rw [hn] at h; cases h
      | some j =>
        simp only [hn] at h
        cases hx : t.toList[j]? with
        | none => rw [hx] at h; cases h
        | some ch => rw [hx] at h; cases h; exact .inr (.inr ⟨i, t, ch, rfl, rfl, rfl⟩)
    | _ => cases h

theorem wf_stepInto {v c : JVal} {s : Seg} (hv : WF v) (h : stepInto v s = .ok c) : WF c := by
  rcases stepInto_ok h with ⟨k, o, rfl, rfl, hl⟩ | ⟨i, xs, j, rfl, rfl, _, hx⟩ | ⟨i, t, ch, rfl, rfl, rfl⟩
  · exact wf_lookup hv.2 hl
  · exact wf_getElem? hv hx
  · trivial

theorem wf_putBack {v c : JVal} (s : Seg) (hv : WF v) (hc : WF c) : WF (putBack v s c) := by
  cases s with
  | key k => cases v <;> first | exact hv | exact wf_setKV hv hc
  | idx i =>
    cases v with
    | arr xs =>
      simp only [putBack]
      cases normIdx i xs.length with
      | none => exact hv
      | some j => exact wf_set hv hc
    | _ => exact hv

theorem setKV_self {k : String} {c : JVal} {o : Entries} (h : lookupKV k o = some c) : setKV k c o = o := by
  induction o with
  | nil => cases h
  | cons hd tl ih =>
    obtain ⟨k₀, v₀⟩ := hd
    simp only [lookupKV] at h
    simp only [setKV]
    split at h
    · next hk => cases h; rw [if_pos hk, hk]
    · next hk => rw [if_neg hk, ih h]

theorem putBack_stepInto {v c : JVal} {s : Seg} (h : stepInto v s = .ok c) : putBack v s c = v := by
  rcases stepInto_ok h with ⟨k, o, rfl, rfl, hl⟩ | ⟨i, xs, j, rfl, rfl, hn, hx⟩ | ⟨i, t, ch, rfl, rfl, rfl⟩
  · exact congrArg JVal.obj (setKV_self hl)
  · obtain ⟨hj, rfl⟩ := List.getElem?_eq_some_iff.mp hx
    simp only [putBack, hn, List.set_getElem_self]
  · rfl

/-- What every document operation does to the value it acts on: it respects `Sim`, keeps it well-formed,
    and leaves it as it was unless a save follows. -/
structure Regular (f : JVal → Res) : Prop where
  congr : ∀ {v w}, Sim v w → ResSim (f v) (f w)
  wf : ∀ {c}, WF c → WF (f c).val
  unsaved : ∀ {c}, (f c).saved = false → (f c).val = c

theorem Regular.atPath {f : JVal → Res} (hf : Regular f) (p : List Seg) : Regular (modAt f p) := by
  induction p with
  | nil => exact hf
  | cons s rest ih =>
    refine ⟨fun {v w} h => ?_, fun {v} hv => ?_, fun {v} h => ?_⟩
    · simp only [modAt]
      have hs := stepInto_sim h s
      cases hv : stepInto v s <;> cases hw : stepInto w s <;> rw [hv, hw] at hs
      · cases hs; exact .refuse h _ _
      · exact hs.elim
      · exact hs.elim
      · have r := ih.congr hs
        exact ⟨r.out, putBack_sim h r.val s, r.saved⟩
    · simp only [modAt]
      cases hs : stepInto v s with
      | error e => exact hv
      | ok c => exact wf_putBack s hv (ih.wf (wf_stepInto hv hs))
    · simp only [modAt] at h ⊢
      cases hs : stepInto v s with
      | error e => rfl
      | ok c =>
        simp only [hs] at h ⊢
        rw [ih.unsaved h]; exact putBack_stepInto hs

theorem leaf_num {v : JVal} {p : Int × Nat} (h : numVal v = some p) :
    (∀ k x, leafSet k x v = ⟨.err .typeError, v, false⟩) ∧ (∀ k, leafDel k v = ⟨.err .typeError, v, false⟩) ∧
    (∀ vs, leafExtend vs v = ⟨.err .attributeError, v, false⟩) ∧
    (∀ i x, leafIdx i x v = ⟨.err .typeError, v, false⟩) := by
  rcases num_cases h with ⟨b, rfl⟩ | ⟨i, rfl⟩ | ⟨n, e, r, rfl⟩ <;> exact ⟨fun _ _ => rfl, fun _ => rfl, fun _ => rfl, fun _ _ => rfl⟩

theorem regular_leafSet (k : String) {x : JVal} (hx : WF x) : Regular (leafSet k x) := by
  refine ⟨fun {v w} h => ?_, fun {c} hc => ?_, fun {c} h => ?_⟩
  · cases h using Sim.byShape with
    | null => exact .refuse .null _ _
    | str s => exact .refuse (.str s) _ _
    | num h hp hq => rw [(leaf_num hp).1, (leaf_num hq).1]; exact .refuse h _ _
    | arr h => exact .refuse h _ _
    | obj h => exact ⟨.none, sim_setKV k h (Sim.refl x), rfl⟩
  · cases c <;> first | exact hc | exact wf_setKV hc hx
  · cases c with
    | obj _ => cases h
    | arr _ => cases h
    | _ => rfl

theorem regular_leafDel (k : String) : Regular (leafDel k) := by
  refine ⟨fun {v w} h => ?_, fun {c} hc => ?_, fun {c} h => ?_⟩
  · cases h using Sim.byShape with
    | null => exact .refuse .null _ _
    | str s => exact .refuse (.str s) _ _
    | num h hp hq => rw [(leaf_num hp).2.1, (leaf_num hq).2.1]; exact .refuse h _ _
    | arr h => exact .refuse h _ _
    | obj h =>
      simp only [leafDel, hasKey_congr k h]
      split
      · exact ⟨.none, sim_eraseKV k h, rfl⟩
      · exact .refuse h _ _
  · cases c with
    | obj o =>
      simp only [leafDel]
      split
      · exact wf_eraseKV hc
      · exact hc
    | _ => exact hc
  · cases c with
    | obj o => simp only [leafDel] at h; split at h <;> cases h
    | arr _ => cases h
    | _ => rfl

theorem regular_leafExtend {vs : List JVal} (hvs : ∀ x ∈ vs, WF x) : Regular (leafExtend vs) := by
  refine ⟨fun {v w} h => ?_, fun {c} hc => ?_, fun {c} h => ?_⟩
  · cases h using Sim.byShape with
    | null => exact .refuse .null _ _
    | str s => exact .refuse (.str s) _ _
    | num h hp hq => rw [(leaf_num hp).2.2.1, (leaf_num hq).2.2.1]; exact .refuse h _ _
    | arr h => exact ⟨.none, sim_list_append vs h, rfl⟩
    | obj h => exact .refuse h _ _
  · cases c <;> first | exact hc | exact wf_append hc hvs
  · cases c with
    | arr _ => cases h
    | _ => rfl

theorem regular_leafIdx (i : Int) {x : JVal} (hx : WF x) : Regular (leafIdx i x) := by
  refine ⟨fun {v w} h => ?_, fun {c} hc => ?_, fun {c} h => ?_⟩
  · cases h using Sim.byShape with
    | null => exact .refuse .null _ _
    | str s => exact .refuse (.str s) _ _
    | num h hp hq => rw [(leaf_num hp).2.2.2, (leaf_num hq).2.2.2]; exact .refuse h _ _
    | @arr xs ys h =>
      simp only [leafIdx, h.arr_inv.1]
      cases normIdx i ys.length with
      | none => exact .refuse h _ _
      | some j => exact ⟨.none, sim_list_set j h (Sim.refl x), rfl⟩
    | obj h => exact .refuse h _ _
  · cases c with
    | arr xs =>
      simp only [leafIdx]
      cases normIdx i xs.length with
      | none => exact hc
      | some j => exact wf_set hc hx
    | _ => exact hc
  · cases c with
    | arr xs => simp only [leafIdx] at h; split at h <;> cases h
    | _ => rfl

theorem sim_entriesOf {v w : JVal} (h : Sim v w) : Sim (.obj (entriesOf v)) (.obj (entriesOf w)) := by
  cases h using Sim.byShape with
  | num _ hp hq =>
    rcases num_cases hp with ⟨b, rfl⟩ | ⟨i, rfl⟩ | ⟨n, e, r, rfl⟩ <;>
      rcases num_cases hq with ⟨b', rfl⟩ | ⟨i', rfl⟩ | ⟨n', e', r', rfl⟩ <;> exact Sim.refl _
  | obj h => exact h
  | _ => exact Sim.refl _

/-- the values an operation may store are duplicate-free; `pop`'s default is only returned, never stored -/
def WFOp : DictOp → Prop
  | .nset _ _ v => WF v
  | .ndel _ _ => True
  | .napp _ v => WF v
  | .next _ vs => ∀ x ∈ vs, WF x
  | .nidx _ _ v => WF v
  | .pop _ _ => True
  | .setdefault _ v => WF v
  | .update other => WF (.obj other)
  | .clear => True
  | .reset new => WF (.obj new)
  | .get _ => True
  | .read => True

theorem regular_plainOp {op : DictOp} (hop : WFOp op) : Regular (plainOp op) := by
  cases op with
  | nset p k x => exact (regular_leafSet k hop).atPath p
  | ndel p k => exact (regular_leafDel k).atPath p
  | napp p x => exact (regular_leafExtend fun y hy => List.mem_singleton.mp hy ▸ hop).atPath p
  | next p vs => exact (regular_leafExtend hop).atPath p
  | nidx p i x => exact (regular_leafIdx i hop).atPath p
  | pop k dflt =>
    refine ⟨fun {d s} h => ?_, fun {d} hd => ?_, fun {d} h => ?_⟩
    · have he := sim_entriesOf h
      rcases he.lookup_cases k with ⟨ha, hb⟩ | ⟨_, _, ha, hb, hs⟩ <;> simp only [plainOp, ha, hb]
      · exact ⟨.val (Sim.refl _), h, rfl⟩
      · exact ⟨.val hs, sim_eraseKV k he, rfl⟩
    · simp only [plainOp]
      cases lookupKV k (entriesOf d) with
      | none => exact hd
      | some v => exact wf_eraseKV (wf_entriesOf hd)
    · simp only [plainOp] at h; split at h <;> cases h
  | setdefault k x =>
    refine ⟨fun {d s} h => ?_, fun {d} hd => ?_, fun {d} h => ?_⟩
    · have he := sim_entriesOf h
      rcases he.lookup_cases k with ⟨ha, hb⟩ | ⟨_, _, ha, hb, hs⟩ <;> simp only [plainOp, ha, hb]
      · exact ⟨.val (Sim.refl _), sim_setKV k he (Sim.refl _), rfl⟩
      · exact ⟨.val hs, h, rfl⟩
    · simp only [plainOp]
      cases lookupKV k (entriesOf d) with
      | none => exact wf_setKV (wf_entriesOf hd) hop
      | some v => exact hd
    · simp only [plainOp] at h; split at h <;> cases h
  | update other =>
    exact ⟨fun h => ⟨.none, sim_overlay other (sim_entriesOf h), rfl⟩,
      fun hd => wf_overlay (wf_entriesOf hd) (wf_obj_iff.mp hop).2, nofun⟩
  | clear => exact ⟨fun _ => ⟨.none, Sim.refl _, rfl⟩, fun _ => wf_empty, nofun⟩
  | reset new => exact ⟨fun _ => ⟨.none, Sim.refl _, rfl⟩, fun _ => hop, nofun⟩
  | get k =>
    refine ⟨fun {d s} h => ?_, id, fun _ => rfl⟩
    rcases (sim_entriesOf h).lookup_cases k with ⟨ha, hb⟩ | ⟨_, _, ha, hb, hs⟩ <;>
      simp only [plainOp, ha, hb]
    · exact ⟨.val .null, h, rfl⟩
    · exact ⟨.val hs, h, rfl⟩
  | read => exact ⟨fun h => ⟨.val h, h, rfl⟩, id, fun _ => rfl⟩

/-- `update` and `reset` assign what the plain operation yields through the merge; every other
    operation is the plain one -/
theorem memOp_eq (op : DictOp) (d : JVal) :
    (memOp op d = plainOp op d ∧ opHit op d = false) ∨
    (memOp op d = ⟨.none, mergeVal d (plainOp op d).val, true⟩ ∧ (plainOp op d).out = .none ∧
      (plainOp op d).saved = true ∧ opHit op d = nullHit d (plainOp op d).val) := by
  cases op <;> first | exact .inl ⟨rfl, rfl⟩ | exact .inr ⟨rfl, rfl, rfl, rfl⟩

theorem wf_memOp (op : DictOp) {d : JVal} (hd : WF d) (hop : WFOp op) : WF (memOp op d).val := by
  rcases memOp_eq op d with ⟨e, _⟩ | ⟨e, _⟩ <;> rw [e]
  · exact (regular_plainOp hop).wf hd
  · exact wf_merge hd ((regular_plainOp hop).wf hd)

theorem memOp_plain_sim (op : DictOp) {d s : JVal} (h : Sim d s) (hd : WF d) (hop : WFOp op)
    (hh : opHit op d = false) : ResSim (memOp op d) (plainOp op s) := by
  have hp := (regular_plainOp hop).congr h
  rcases memOp_eq op d with ⟨e, _⟩ | ⟨e, ho, hs, eh⟩ <;> rw [e]
  · exact hp
  · exact ⟨ho ▸ hp.out, (merge_sim hd ((regular_plainOp hop).wf hd) (eh ▸ hh)).trans hp.val, hs ▸ hp.saved⟩

theorem memOp_congr (op : DictOp) {d d' : JVal} (h : Sim d d') (hd : WF d) (hd' : WF d') (hop : WFOp op)
    (hh : opHit op d = false) (hh' : opHit op d' = false) : ResSim (memOp op d) (memOp op d') :=
  (memOp_plain_sim op h hd hop hh).trans (memOp_plain_sim op (Sim.refl d') hd' hop hh').symm

theorem memOp_unsaved {op : DictOp} (hop : WFOp op) (d : JVal) (h : (memOp op d).saved = false) :
    (memOp op d).val = d := by
  rcases memOp_eq op d with ⟨e, _⟩ | ⟨e, _⟩ <;> rw [e] at h ⊢
  · exact (regular_plainOp hop).unsaved h
  · cases h

end Signac.Doc
