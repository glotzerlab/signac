/-
  Job- and project-level composition of the sync model: `sync_jobs` on one pair of job
  directories, the loop over the source jobs (again a `foldE`), the two entry points.  Which
  destination jobs a project sync touches, what a synchronised / cloned job looks like afterwards,
  and that the log replays to the result at every entry point; the destination job as the part of
  the state one iteration works on (`jobOf`); state point files.  Core only.
-/
import Signac.Proofs.SyncPaths
import Signac.Proofs.SyncDoc
namespace Signac.Sync

/-! ### one job: the walk, then the document merge -/

theorem syncJobDirs_ext (o : Opts) (src dst : Entries) : Ext o.dry ⟨dst, []⟩ (syncJobDirs o src dst).acc := by
  have hw := walkDir_ext o (.dir src) [] dst
  unfold syncJobDirs
  dsimp only
  split
  · exact hw
  · exact hw.trans (syncDoc_docExt o _ src _).1

theorem syncJobDirs_lookup (o : Opts) (src dst : Entries) (n : Name) (p : Path)
    (h1 : n ≠ Extracted.FN_JOB_DOCUMENT) (h2 : n ≠ Extracted.FN_JOB_DOCUMENT ++ "~") :
    lookupP n p (syncJobDirs o src dst).d = lookupP n p (walkDir o [] (.dir src) dst).d := by
  apply lookupP_congr_head
  unfold syncJobDirs
  dsimp only
  split
  · rfl
  · exact getE_syncDoc_other o _ src ⟨_, _⟩ n h1 h2

theorem syncJobDirs_walk_ok (o : Opts) (src dst : Entries) (h : (syncJobDirs o src dst).err = none) :
    (walkDir o [] (.dir src) dst).err = none := by
  unfold syncJobDirs at h
  dsimp only at h
  cases he : (walkDir o [] (.dir src) dst).err with
  | none => rfl
  | some e => simp [he] at h

/-! ### the loop over the source jobs -/

theorem wsOf_setE_WS (x root : Entries) : wsOf (setE WS (.dir x) root) = x := by
  simp [wsOf, getE_setE_same]

theorem wsOf_step {root ws : Entries} {k id : Name} (c : Node) (hws : getE WS root = some (.dir ws))
    (hk : k ≠ id) : getE k (wsOf (setE WS (.dir (setE id c ws)) root)) = getE k (wsOf root) := by
  rw [wsOf_setE_WS, getE_setE_other hk]
  simp [wsOf, hws]

/-- the accumulator after the destination job `id` has been given the content `c` by the steps `ss` -/
def jobAcc (id : Name) (c : Node) (ss : List Step) (ws : Entries) (a : Acc) : Acc :=
  ⟨setE WS (.dir (setE id c ws)) a.d, a.log ++ ss⟩

/-- one iteration of the loop over the source jobs, whatever follows it: the job is cloned,
    synchronised with the existing destination job, or passed over -/
theorem syncJobs_cons_all (o : Opts) (id : Name) (sn : Node) (a : Acc) :
    ((∀ sjob ws, sn = .dir sjob → getE WS a.d = some (.dir ws) → selected o id = true →
        (getE id ws = none ∧ o.dry = true) ∨ ∃ m, getE id ws = some (.file m)) ∧
      ∀ tl, syncJobs o ((id, sn) :: tl) a = syncJobs o tl a)
    ∨ (∃ sjob ws, sn = .dir sjob ∧ getE WS a.d = some (.dir ws) ∧ selected o id = true ∧
        getE id ws = none ∧ o.dry = false ∧
        ∀ tl, syncJobs o ((id, sn) :: tl) a =
          syncJobs o tl (jobAcc id (.dir (cloneJob o sjob)) [.put WS [id] (.dir (cloneJob o sjob))] ws a))
    ∨ (∃ sjob ws djob, sn = .dir sjob ∧ getE WS a.d = some (.dir ws) ∧ selected o id = true ∧
        getE id ws = some (.dir djob) ∧
        ∀ tl, syncJobs o ((id, sn) :: tl) a =
          match (syncJobDirs o sjob djob).err with
          | some e => (jobAcc id (.dir (syncJobDirs o sjob djob).d)
              ((syncJobDirs o sjob djob).log.map (Step.inJob id)) ws a).res (some e)
          | none => syncJobs o tl (jobAcc id (.dir (syncJobDirs o sjob djob).d)
              ((syncJobDirs o sjob djob).log.map (Step.inJob id)) ws a)) := by
  cases sn with
  | file m => exact Or.inl ⟨(fun _ _ h => nomatch h), fun _ => rfl⟩
  | dir sjob =>
    cases hws : getE WS a.d with
    | none => exact Or.inl ⟨(fun _ _ _ h => nomatch h), fun tl => by simp only [syncJobs, hws]⟩
    | some wn =>
      cases wn with
      | file m => exact Or.inl ⟨(fun _ _ _ h => nomatch h), fun tl => by simp only [syncJobs, hws]⟩
      | dir ws =>
        cases hsel : selected o id with
        | false => exact Or.inl ⟨(fun _ _ _ _ h => nomatch h), fun tl => by simp only [syncJobs, hws, hsel, Bool.false_eq_true, if_false]⟩
        | true =>
          cases hj : getE id ws with
          | none =>
            cases hdry : o.dry with
            | true =>
              refine Or.inl ⟨fun _ ws' _ h _ => ?_, fun tl => by simp only [syncJobs, hws, hsel, hj, hdry, if_true]⟩
              cases h; exact Or.inl ⟨hj, rfl⟩
            | false =>
              exact Or.inr (Or.inl ⟨sjob, ws, rfl, rfl, rfl, hj, rfl, fun tl => by simp only [syncJobs, hws, hsel, hj, hdry, if_true, Bool.false_eq_true, if_false]; rfl⟩)
          | some dn =>
            cases dn with
            | file m =>
              refine Or.inl ⟨fun _ ws' _ h _ => ?_, fun tl => by simp only [syncJobs, hws, hsel, hj, if_true]⟩
              cases h; exact Or.inr ⟨m, hj⟩
            | dir djob =>
              exact Or.inr (Or.inr ⟨sjob, ws, djob, rfl, rfl, rfl, hj, fun tl => by simp only [syncJobs, hws, hsel, hj, if_true]; rfl⟩)

/-- body of the loop over the source jobs -/
def jobStep (o : Opts) (x : Name × Node) (a : Acc) : Acc × Option Err :=
  ((syncJobs o [x] a).acc, (syncJobs o [x] a).err)

theorem jobStep_of_ok {o : Opts} {x : Name × Node} {a a' : Acc}
    (h : ∀ tl, syncJobs o (x :: tl) a = syncJobs o tl a') : jobStep o x a = (a', none) := by
  rw [jobStep, h []]; rfl

theorem jobStep_of_sync {o : Opts} {x : Name × Node} {a a' : Acc} {e : Option Err}
    (h : ∀ tl, syncJobs o (x :: tl) a =
      match e with
      | some e => a'.res (some e)
      | none => syncJobs o tl a') : jobStep o x a = (a', e) := by
  rw [jobStep, h []]; cases e <;> rfl

theorem syncJobs_eq (o : Opts) (l : List (Name × Node)) (a : Acc) :
    syncJobs o l a = (foldE (jobStep o) l a).1.res (foldE (jobStep o) l a).2 := by
  induction l generalizing a with
  | nil => rfl
  | cons x tl ih =>
    obtain ⟨id, sn⟩ := x
    rcases syncJobs_cons_all o id sn a with ⟨_, h⟩ | ⟨_, _, _, _, _, _, _, h⟩ | ⟨sjob, _, djob, _, _, _, _, h⟩
    · rw [h tl, foldE_cons_ok (by rw [jobStep_of_ok h]), jobStep_of_ok h]; exact ih _
    · rw [h tl, foldE_cons_ok (by rw [jobStep_of_ok h]), jobStep_of_ok h]; exact ih _
    · rw [h tl]
      cases he : (syncJobDirs o sjob djob).err with
      | none => rw [foldE_cons_ok (by rw [jobStep_of_sync h]; exact he), jobStep_of_sync h]; exact ih _
      | some e => rw [foldE_cons_err (by rw [jobStep_of_sync h]; exact he), jobStep_of_sync h]

theorem jobStep_fst (o : Opts) (x : Name × Node) (a : Acc) :
    (jobStep o x a).1 = a ∨
    ∃ ws c ss, getE WS a.d = some (.dir ws) ∧ selected o x.1 = true ∧ (jobStep o x a).1 = jobAcc x.1 c ss ws a := by
  rcases syncJobs_cons_all o x.1 x.2 a with ⟨_, h⟩ | ⟨_, ws, _, h2, h3, _, _, h⟩ | ⟨_, ws, _, _, h2, h3, _, h⟩
  · exact Or.inl (congrArg Prod.fst (jobStep_of_ok h))
  · exact Or.inr ⟨ws, _, _, h2, h3, congrArg Prod.fst (jobStep_of_ok h)⟩
  · exact Or.inr ⟨ws, _, _, h2, h3, congrArg Prod.fst (jobStep_of_sync h)⟩

theorem syncJobs_ext (o : Opts) (l : List (Name × Node)) (a : Acc) : Ext o.dry a (syncJobs o l a).acc := by
  rw [syncJobs_eq]
  refine foldE_inv (fun x _ s hs => hs.trans ?_) (Ext.refl _ _)
  rcases syncJobs_cons_all o x.1 x.2 s with ⟨_, h⟩ | ⟨_, ws, _, h2, _, h4, h5, h⟩ | ⟨sjob, ws, djob, _, h2, _, h4, h⟩
  · rw [jobStep_of_ok h]; exact Ext.refl _ _
  · rw [jobStep_of_ok h, h5]
    exact Ext.under h2 (Ext.pPut false x.1 _ ⟨ws, []⟩)
  · rw [jobStep_of_sync h]; exact Ext.inJob h2 h4 (syncJobDirs_ext o sjob djob)

theorem syncJobs_root_other (o : Opts) (n : Name) (hn : n ≠ WS) (l : List (Name × Node)) :
    ∀ a, getE n (syncJobs o l a).d = getE n a.d := by
  intro a
  rw [syncJobs_eq]
  refine foldE_inv (I := fun s : Acc => getE n s.d = getE n a.d) (fun x _ s hs => Eq.trans ?_ hs) rfl
  rcases jobStep_fst o x s with h | ⟨_, _, _, _, _, h⟩ <;> rw [h]
  exact getE_setE_other hn _ _

/-- `unselected_never_touched` (and: jobs the source does not have): the job loop leaves every
    destination job alone that is not a selected source job -/
theorem syncJobs_job_other (o : Opts) (id : Name) (l : List (Name × Node))
    (h : ∀ sn, (id, sn) ∈ l → selected o id = false) :
    ∀ a, getE id (wsOf (syncJobs o l a).d) = getE id (wsOf a.d) := by
  intro a
  rw [syncJobs_eq]
  refine foldE_inv (I := fun s : Acc => getE id (wsOf s.d) = getE id (wsOf a.d)) (fun x hx s hs => Eq.trans ?_ hs) rfl
  rcases jobStep_fst o x s with he | ⟨_, _, _, hws, hsel, he⟩ <;> rw [he]
  refine wsOf_step _ hws (fun e => ?_)
  rw [← e, h x.2 (e ▸ hx)] at hsel
  cases hsel

theorem syncJobs_ws_dir (o : Opts) (l : List (Name × Node)) :
    ∀ a ws, getE WS a.d = some (.dir ws) → ∃ ws', getE WS (syncJobs o l a).d = some (.dir ws') := by
  intro a ws hws
  rw [syncJobs_eq]
  refine foldE_inv (I := fun s : Acc => ∃ ws', getE WS s.d = some (.dir ws')) (fun x _ s hs => ?_) ⟨ws, hws⟩
  rcases jobStep_fst o x s with h | ⟨_, _, _, _, _, h⟩ <;> rw [h]
  · exact hs
  · exact ⟨_, getE_setE_same _ _ _⟩

/-- the destination job `id`, provided the workspace directory exists -/
def jobOf (id : Name) (root : Entries) : Option (Option Node) :=
  match getE WS root with
  | some (.dir ws) => some (getE id ws)
  | _ => none

theorem jobOf_of_ws {id : Name} {root ws : Entries} (h : getE WS root = some (.dir ws)) :
    jobOf id root = some (getE id ws) := by
  simp only [jobOf, h]

theorem ws_of_jobOf {id : Name} {root : Entries} {x : Option Node} (h : jobOf id root = some x) :
    ∃ ws, getE WS root = some (.dir ws) ∧ getE id ws = x ∧ getE id (wsOf root) = x := by
  unfold jobOf at h
  split at h
  · next ws hws => exact ⟨ws, hws, Option.some.inj h, by rw [wsOf, hws]; exact Option.some.inj h⟩
  · cases h

theorem jobOf_jobAcc (id k : Name) (c : Node) (ss : List Step) (ws : Entries) (a : Acc) :
    jobOf id (jobAcc k c ss ws a).d = some (getE id (setE k c ws)) :=
  jobOf_of_ws (getE_setE_same _ _ _)

theorem jobStep_other (o : Opts) {id : Name} (k : Name) (v : Node) (a : Acc) (h : k ≠ id) :
    jobOf id (jobStep o (k, v) a).1.d = jobOf id a.d := by
  rcases jobStep_fst o (k, v) a with he | ⟨ws, c, ss, hws, _, he⟩ <;> rw [he]
  rw [jobOf_jobAcc, getE_setE_other h.symm, jobOf_of_ws hws]

/-- what a selected source job has become in the destination after a successful real run:
    a clone if it did not exist, the result of `sync_jobs` (which succeeded) if it did -/
theorem syncJobs_job (o : Opts) (hdry : o.dry = false) (id : Name) (sjob : Entries) (l : List (Name × Node)) :
    ∀ a ws, (names l).Nodup → getE id l = some (.dir sjob) → selected o id = true →
    getE WS a.d = some (.dir ws) → (syncJobs o l a).err = none →
    (getE id ws = none ∧
      getE id (wsOf (syncJobs o l a).d) = some (.dir (cloneJob o sjob)))
    ∨ (∃ djob, getE id ws = some (.dir djob) ∧ (syncJobDirs o sjob djob).err = none ∧
      getE id (wsOf (syncJobs o l a).d) = some (.dir (syncJobDirs o sjob djob).d))
    ∨ (∃ m, getE id ws = some (.file m)) := by
  intro a ws hnd hl hsel hws hok
  rw [syncJobs_eq] at hok ⊢
  rcases foldE_proj_mem (π := fun s : Acc => jobOf id s.d) (jobStep_other o) a hnd (mem_of_getE hl) with
    ⟨_, h⟩ | ⟨a', h1, h2, h3⟩
  · exact absurd hok h
  · rw [jobOf_of_ws hws] at h1
    obtain ⟨ws', hws', hid, _⟩ := ws_of_jobOf h1
    rcases syncJobs_cons_all o id (.dir sjob) a' with ⟨hc, _⟩ | ⟨_, w, hs, hw, _, hj, _, he⟩ | ⟨_, w, djob, hs, hw, _, hj, he⟩
    · rcases hc sjob ws' rfl hws' hsel with ⟨_, hd⟩ | ⟨m, hm⟩
      · rw [hdry] at hd; cases hd
      · exact Or.inr (Or.inr ⟨m, hid ▸ hm⟩)
    · cases hs
      rw [hws'] at hw; cases hw
      rw [jobStep_of_ok he, jobOf_jobAcc, getE_setE_same] at h2
      obtain ⟨_, _, _, hr⟩ := ws_of_jobOf h2
      exact Or.inl ⟨hid ▸ hj, hr⟩
    · cases hs
      rw [hws'] at hw; cases hw
      rw [jobStep_of_sync he] at h3
      rw [jobStep_of_sync he, jobOf_jobAcc, getE_setE_same] at h2
      obtain ⟨_, _, _, hr⟩ := ws_of_jobOf h2
      exact Or.inr (Or.inl ⟨djob, hid ▸ hj, h3 hok, hr⟩)

/-! ### the entry points -/

theorem syncProjects_ext (o : Opts) (src dst : Entries) :
    Ext o.dry ⟨dst, []⟩ (syncProjects o src dst).acc := by
  have hd := (syncDoc_docExt o Extracted.FN_PROJECT_DOCUMENT src ⟨dst, []⟩).1
  unfold syncProjects
  split
  · exact Ext.refl _ _
  · dsimp only
    split
    · exact hd
    · exact hd.trans (syncJobs_ext o _ _)

theorem syncJobEntry_ext (o : Opts) (s d : Name) (c : Nat) (src dst : Entries) :
    Ext o.dry ⟨dst, []⟩ (syncJobEntry o s d c src dst).acc := by
  unfold syncJobEntry
  split
  · next sjob ws _ hws =>
    split
    · next djob hj => exact Ext.inJob (a := ⟨dst, []⟩) hws hj (syncJobDirs_ext o sjob djob)
    · exact Ext.refl _ _
    · next hj =>
      split
      · exact Ext.refl _ _
      · next hdry =>
        -- `init()` of the missing job is one logged step, `sync_jobs` on it continues from there
        have h1 : Ext o.dry ⟨dst, []⟩ (jobAcc d (.dir (initJob o.now c)) [.put WS [d] (.dir (initJob o.now c))] ws ⟨dst, []⟩) := by
          rw [Bool.not_eq_true] at hdry
          rw [hdry]
          exact Ext.under (a := ⟨dst, []⟩) hws (Ext.pPut false d _ ⟨ws, []⟩)
        have h2 := h1.trans (Ext.inJob (getE_setE_same _ _ _) (getE_setE_same _ _ _) (syncJobDirs_ext o sjob (initJob o.now c)))
        simp only [jobAcc, setE_setE] at h2
        exact h2
  · exact Ext.refl _ _

theorem run_ext (o : Opts) (e : Entry) (w : World) : Ext o.dry ⟨w.dst, []⟩ (run o e w).acc := by
  cases e with
  | project => exact syncProjects_ext o w.src w.dst
  | job s d c => exact syncJobEntry_ext o s d c w.src w.dst

/-- every mutation of the model is a logged step on the destination tree -/
theorem run_refines (o : Opts) (e : Entry) (w : World) :
    applyAll w.dst (run o e w).log = (run o e w).d :=
  (run_ext o e w).refines (a0 := w.dst) rfl

/-- `dry_run_no_step`: a dry run performs no mutating step and returns the
    destination unchanged — at every entry point, whatever the outcome -/
theorem run_dry (o : Opts) (h : o.dry = true) (e : Entry) (w : World) :
    (run o e w).log = [] ∧ (run o e w).d = w.dst :=
  (h ▸ run_ext o e w).of_dry.symm

theorem pdoc_ne_ws : WS ≠ Extracted.FN_PROJECT_DOCUMENT := by
  simp [WS, Extracted.FN_PROJECT_DOCUMENT]
theorem pdoc_bak_ne_ws : WS ≠ Extracted.FN_PROJECT_DOCUMENT ++ "~" := by decide +kernel

theorem getE_WS_syncDoc (o : Opts) (src : Entries) (a : Acc) :
    getE WS (syncDoc o Extracted.FN_PROJECT_DOCUMENT src a).d = getE WS a.d :=
  getE_syncDoc_other o _ src a WS pdoc_ne_ws pdoc_bak_ne_ws

/-! ### unfolding a successful project sync -/

theorem syncProjects_ok (o : Opts) (src dst : Entries) (h : (syncProjects o src dst).err = none) :
    (syncDoc o Extracted.FN_PROJECT_DOCUMENT src ⟨dst, []⟩).err = none ∧
    syncProjects o src dst =
      syncJobs o (wsOf src) ⟨(syncDoc o Extracted.FN_PROJECT_DOCUMENT src ⟨dst, []⟩).d,
                            (syncDoc o Extracted.FN_PROJECT_DOCUMENT src ⟨dst, []⟩).log⟩ := by
  unfold syncProjects at h ⊢
  by_cases hg : (o.checkSchema && o.gate) = true
  · simp [hg] at h
  · simp only [hg, Bool.false_eq_true, if_false] at h ⊢
    cases he : (syncDoc o Extracted.FN_PROJECT_DOCUMENT src ⟨dst, []⟩).err with
    | some e => simp [he] at h
    | none => simp

/-- the job directories of the destination after a project sync, in any case (also on failure):
    the job loop's result, or — when it was not reached — the old ones -/
theorem syncProjects_ws (o : Opts) (src dst : Entries) :
    wsOf (syncProjects o src dst).d = wsOf dst ∨
    wsOf (syncProjects o src dst).d =
      wsOf (syncJobs o (wsOf src) ⟨(syncDoc o Extracted.FN_PROJECT_DOCUMENT src ⟨dst, []⟩).d,
                                  (syncDoc o Extracted.FN_PROJECT_DOCUMENT src ⟨dst, []⟩).log⟩).d := by
  unfold syncProjects
  by_cases hg : (o.checkSchema && o.gate) = true
  · left; simp [hg]
  · simp only [hg, Bool.false_eq_true, if_false]
    cases he : (syncDoc o Extracted.FN_PROJECT_DOCUMENT src ⟨dst, []⟩).err with
    | some e =>
      left
      simp only [wsOf, getE_WS_syncDoc]
    | none => right; rfl

theorem wsOf_syncDoc (o : Opts) (src dst : Entries) :
    wsOf (syncDoc o Extracted.FN_PROJECT_DOCUMENT src ⟨dst, []⟩).d = wsOf dst := by
  simp only [wsOf, getE_WS_syncDoc]

/-! ### state points -/

theorem cloneIgnored_sp (o : Opts) : cloneIgnored o Extracted.FN_STATE_POINT = false := by
  simp [cloneIgnored]

theorem clone_sp (o : Opts) (sjob : Entries) (m : FMeta)
    (h : getE Extracted.FN_STATE_POINT sjob = some (.file m)) :
    getE Extracted.FN_STATE_POINT (cloneJob o sjob) = some (.file (touch o.now m)) := by
  rw [cloneJob, getE_copyTop, cloneIgnored_sp]
  simp [h, copyNode]

theorem sp_ne_doc : Extracted.FN_STATE_POINT ≠ Extracted.FN_JOB_DOCUMENT := by
  simp [Extracted.FN_STATE_POINT, Extracted.FN_JOB_DOCUMENT]
theorem sp_ne_doc_bak : Extracted.FN_STATE_POINT ≠ Extracted.FN_JOB_DOCUMENT ++ "~" := by decide +kernel

theorem syncJobDirs_sp (o : Opts) (sjob djob : Entries) (m : FMeta) (hw : WFEntries sjob)
    (hsp : o.spPat Extracted.FN_STATE_POINT = true)
    (h : getE Extracted.FN_STATE_POINT djob = some (.file m)) :
    getE Extracted.FN_STATE_POINT (syncJobDirs o sjob djob).d = some (.file m) := by
  have hx : excluded o Extracted.FN_STATE_POINT = true := by simp [excluded, hsp]
  have h1 := syncJobDirs_lookup o sjob djob Extracted.FN_STATE_POINT [] sp_ne_doc sp_ne_doc_bak
  simp only [lookupP] at h1
  rw [h1]
  exact (walk_excluded o [] Extracted.FN_STATE_POINT [] sjob djob hw hx (by simp [lookupP, h])).trans h

end Signac.Sync
