/-
  The limits of "a run that returns normally is the event-free run": re-key, remove and clear
  read ENOENT as "not there" and go on, so an INJECTED ENOENT is swallowed and the call returns
  normally with work left undone (concrete schedules on the world of `LifeCex`).
-/
import Signac.Proofs.LifeAllOps
import Signac.Proofs.LifeCex
namespace Signac.Life
variable {Sp : Type}

def bakPresent (w : World Sp) (k : Key) : Bool :=
  match w k with
  | some d => d.bak.isSome
  | none => false

/-- re-key `j → x` of the job of `cexW`; the removal of the parked backup `x/signac_statepoint.json~`
    (step 2) fails with an injected ENOENT.  The code reads this as "no backup there", goes on,
    writes the new state-point file and returns normally — the backup file with the OLD state point
    stays in the new directory.  The event-free run leaves no backup. -/
theorem rekey_enoent_swallowed :
    let o := run cexCodec (faultAt 2 .ENOENT) (rekeyProg cexCodec cexSrc (0, "x") 2) cexW
    let o0 := run cexCodec noEv (rekeyProg cexCodec cexSrc (0, "x") 2) cexW
    o.res = .ok ∧ o.faulted = true ∧ validAt cexCodec o.w (0, "x") = true ∧
      bakPresent o.w (0, "x") = true ∧ o0.res = .ok ∧ bakPresent o0.w (0, "x") = false := by
  decide +kernel

/-- `remove` of the job of `cexW`; the first unlink (step 0, the state-point file) fails with an
    injected ENOENT.  `rmErr` reads it as "already gone" and returns normally at once: the directory
    and its data file are still there.  The event-free run removes the directory. -/
theorem remove_enoent_swallowed :
    let o := run cexCodec (faultAt 0 .ENOENT) (removeProg (Sp := Nat) cexSrc cexOrder) cexW
    let o0 := run cexCodec noEv (removeProg (Sp := Nat) cexSrc cexOrder) cexW
    o.res = .ok ∧ o.faulted = true ∧ (o.w cexSrc).isSome = true ∧ validAt cexCodec o.w cexSrc = true ∧
      o0.res = .ok ∧ (o0.w cexSrc).isSome = false := by
  decide +kernel

def hasFile (w : World Sp) (k : Key) (p : String) : Bool :=
  match w k with
  | some d => (getEntry p d.entries).isSome
  | none => false

/-- `clear` of the job of `cexW`; the unlink of the data file `f` (step 0) fails with an injected
    ENOENT: normal return, `f` still there, the document is not reset.  The event-free run deletes
    `f` and writes the empty document. -/
theorem clear_enoent_swallowed :
    let o := run cexCodec (faultAt 0 .ENOENT) (clearProg (Sp := Nat) cexSrc cexOrder) cexW
    let o0 := run cexCodec noEv (clearProg (Sp := Nat) cexSrc cexOrder) cexW
    o.res = .ok ∧ o.faulted = true ∧ hasFile o.w cexSrc "f" = true ∧ hasFile o.w cexSrc docName = false ∧
      o0.res = .ok ∧ hasFile o0.w cexSrc "f" = false ∧ hasFile o0.w cexSrc docName = true := by
  decide +kernel

/-- the statement without the ENOENT proviso (already its weakest form: final worlds only) -/
def ok_run_is_event_free_full : Prop :=
  ∀ (Sp : Type) (C : Codec Sp) (op : Op Sp) (ev : Nat → Option Ev) (w : World Sp), op.covered →
    (run C ev (op.prog C) w).res = .ok → (run C ev (op.prog C) w).w = (run C noEv (op.prog C) w).w

/-- … is false of the model — for re-key, for remove and for clear -/
theorem ok_run_is_event_free_full_false : ¬ ok_run_is_event_free_full := by
  intro h
  have h1 := h Nat cexCodec (.remove cexSrc cexOrder) (faultAt 0 .ENOENT) cexW trivial
    remove_enoent_swallowed.1
  have h2 := remove_enoent_swallowed.2.2.1
  have h3 := remove_enoent_swallowed.2.2.2.2.2
  simp only [Op.prog] at h1
  rw [h1, h3] at h2
  cases h2

theorem ok_run_is_event_free_false_rekey :
    ¬ ∀ (ev : Nat → Option Ev), (run cexCodec ev (rekeyProg cexCodec cexSrc (0, "x") 2) cexW).res = .ok →
      (run cexCodec ev (rekeyProg cexCodec cexSrc (0, "x") 2) cexW).w =
        (run cexCodec noEv (rekeyProg cexCodec cexSrc (0, "x") 2) cexW).w := by
  intro h
  have h1 := h (faultAt 2 .ENOENT) rekey_enoent_swallowed.1
  have h2 := rekey_enoent_swallowed.2.2.2.1
  have h3 := rekey_enoent_swallowed.2.2.2.2.2
  rw [h1, h3] at h2
  cases h2

theorem ok_run_is_event_free_false_clear :
    ¬ ∀ (ev : Nat → Option Ev), (run cexCodec ev (clearProg (Sp := Nat) cexSrc cexOrder) cexW).res = .ok →
      (run cexCodec ev (clearProg (Sp := Nat) cexSrc cexOrder) cexW).w =
        (run cexCodec noEv (clearProg (Sp := Nat) cexSrc cexOrder) cexW).w := by
  intro h
  have h1 := h (faultAt 0 .ENOENT) clear_enoent_swallowed.1
  have h2 := clear_enoent_swallowed.2.2.1
  have h3 := clear_enoent_swallowed.2.2.2.2.2.1
  rw [h1, h3] at h2
  cases h2

end Signac.Life
