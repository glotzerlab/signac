/-
  Lemmas about `diff_jobs`: the set algebra on flattened pairs.  Core only.
-/
import Signac.Proofs.SchemaPyEq
import Signac.Proofs.SchemaFlatten
namespace Signac.Schema
open Signac

theorem memPair_iff {x : String × JVal} {s : List (String × JVal)} :
    memPair x s = true ↔ ∃ y ∈ s, pairEq y x = true := by
  simp [memPair, List.any_eq_true]

theorem memPair_false_iff {x : String × JVal} {s : List (String × JVal)} :
    memPair x s = false ↔ ∀ y ∈ s, pairEq y x = false := by
  simp [memPair, List.any_eq_false]

theorem mem_inter_cons {x : String × JVal} {sp : KVs} {rest : List KVs} :
    x ∈ inter (sp :: rest) ↔ x ∈ flatten sp ∧ ∀ o ∈ rest, ∃ y ∈ flatten o, pairEq y x = true := by
  simp only [inter, List.mem_filter, List.all_eq_true, memPair_iff]

theorem diff_common_perm (all : List KVs) (sp : KVs) :
    (diffOf all sp ++ commonOf all sp).Perm (flatten sp) := by
  have h := List.filter_append_perm (fun x => !memPair x (inter all)) (flatten sp)
  simpa [diffOf, commonOf, Bool.not_not] using h

theorem mem_diffOf {all : List KVs} {sp : KVs} {x : String × JVal} :
    x ∈ diffOf all sp ↔ x ∈ flatten sp ∧ ∀ y ∈ inter all, pairEq y x = false := by
  simp only [diffOf, List.mem_filter, Bool.not_eq_true', memPair_false_iff]

theorem mem_commonOf {all : List KVs} {sp : KVs} {x : String × JVal} :
    x ∈ commonOf all sp ↔ x ∈ flatten sp ∧ ∃ y ∈ inter all, pairEq y x = true := by
  simp only [commonOf, List.mem_filter, memPair_iff]

/-! ### the set algebra read as "pairs not shared by all jobs" (needs `==` to be an equivalence) -/

theorem flattenVal_nodupKeys : ∀ (v : JVal) (k : String), NodupKeysVal v →
      ∀ p ∈ flattenVal k v, NodupKeysVal p.2 := by
  intro v
  induction v using flattenVal_induction with
  | leaf v h =>
    intro k hv p hp
    rw [h, List.mem_singleton] at hp
    exact hp ▸ hv
  | node kvs _ ih h =>
    intro k hv p hp
    rw [h, flattenKVs_eq, List.mem_flatMap] at hp
    obtain ⟨kv, hkv, hp⟩ := hp
    exact ih kv hkv _ (NodupKeysObj_mem hv kv hkv) p hp

theorem flatten_nodupKeys {sp : KVs} (h : NodupKeysObj sp) : ∀ p ∈ flatten sp, NodupKeysVal p.2 := by
  intro p hp
  rw [flatten, flattenKVs_eq, List.mem_flatMap] at hp
  obtain ⟨kv, hkv, hp⟩ := hp
  exact flattenVal_nodupKeys kv.2 _ (NodupKeysObj_mem h kv hkv) p hp

theorem pairEq_symm {a b : String × JVal} (ha : NodupKeysVal a.2) (hb : NodupKeysVal b.2)
    (h : pairEq a b = true) : pairEq b a = true := by
  simp only [pairEq, Bool.and_eq_true, beq_iff_eq] at h ⊢
  exact ⟨h.1.symm, pyEq_symm ha hb h.2⟩

theorem pairEq_trans {a b c : String × JVal} (h1 : pairEq a b = true) (h2 : pairEq b c = true) :
    pairEq a c = true := by
  simp only [pairEq, Bool.and_eq_true, beq_iff_eq] at h1 h2 ⊢
  exact ⟨h1.1.trans h2.1, pyEq_trans h1.2 h2.2⟩

/-- a pair is held (up to Python `==`) by every job -/
def SharedByAll (all : List KVs) (x : String × JVal) : Prop :=
  ∀ o ∈ all, ∃ y ∈ flatten o, pairEq y x = true

theorem memPair_inter_iff {all : List KVs} (hall : ∀ o ∈ all, NodupKeysObj o) (hne : all ≠ [])
    {x : String × JVal} (hx : NodupKeysVal x.2) :
    memPair x (inter all) = true ↔ SharedByAll all x := by
  rw [memPair_iff]
  cases all with
  | nil => exact absurd rfl hne
  | cons sp0 rest =>
    rw [SharedByAll, List.forall_mem_cons]
    constructor
    · rintro ⟨y, hy, hyx⟩
      obtain ⟨hy0, hyr⟩ := mem_inter_cons.mp hy
      exact ⟨⟨y, hy0, hyx⟩, fun o ho => (hyr o ho).imp fun z hz => ⟨hz.1, pairEq_trans hz.2 hyx⟩⟩
    · rintro ⟨⟨y0, hy0, hy0x⟩, h⟩
      have hxy0 := pairEq_symm (flatten_nodupKeys (hall sp0 List.mem_cons_self) y0 hy0) hx hy0x
      exact ⟨y0, mem_inter_cons.mpr ⟨hy0, fun o ho =>
        (h o ho).imp fun z hz => ⟨hz.1, pairEq_trans hz.2 hxy0⟩⟩, hy0x⟩

end Signac.Schema
