/- The world of the S-11 counter-example (job `j` with one data file `f`; the copy order is
   state-point file first), used by all concrete witnesses, and the single-event schedules. -/
import Signac.Proofs.LifeClone
namespace Signac.Life

def cexCodec : Codec Nat := ⟨fun n => if n = 1 then "j" else "x", fun _ => "{}"⟩
def cexS : JobDir Nat := { sp := some (.ok 1), entries := [("f", some "data")] }
def cexW : World Nat := fun k => if k = (0, "j") then some cexS else none
def cexOrder : List Ref := [.sp, .file "f"]
def cexSrc : Key := (0, "j")
def cexDst : Key := (1, "j")

theorem exists_of_any {α : Type} {o : Option α} {p : α → Prop} [DecidablePred p]
    (h : o.any (fun d => decide (p d)) = true) : ∃ d, o = some d ∧ p d := by
  cases o with
  | none => cases h
  | some d => exact ⟨d, rfl, of_decide_eq_true h⟩

theorem noENOENT_crashAt (k : Nat) : NoENOENT (crashAt k) := by
  intro n; simp only [crashAt]; split <;> simp

theorem noENOENT_faultAt (k : Nat) (e : Errno) (he : e ≠ .ENOENT) : NoENOENT (faultAt k e) := by
  intro n; simp only [faultAt]; split
  · exact fun h => he (Ev.fault.inj (Option.some.inj h))
  · exact fun h => nomatch h

end Signac.Life
