/-
  Reading a literal directory listing without comparing names: the workspace and the document of a
  listing are the entries that are in it (`wsOf_of_getE`, `docOf_eq`, with `getE_of_mem`), and the
  hypothesis `SyncHyp` of the idempotence theorems job by job.  Core only.
-/
import Signac.Proofs.SyncIdemFull
namespace Signac.Sync

theorem docOf_eq {fn : Name} {es : Entries} {m : FMeta} {kvs : Doc}
    (h : getE fn es = some (.file m)) (hj : m.js = some (.obj kvs)) : docOf fn es = kvs := by
  simp only [docOf, h, hj]

/-- `SyncHyp` from the workspace listing: the project document, and every job directory listed -/
theorem SyncHyp.of_listing {o : Opts} {src ws : Entries} (hws : getE WS src = some (.dir ws))
    (hd : DocHyp o (docOf Extracted.FN_PROJECT_DOCUMENT src))
    (hj : ∀ e ∈ ws, ∀ sjob, e.2 = .dir sjob → JobHyp o sjob) : SyncHyp o src :=
  ⟨hd, fun _ sjob h => hj _ (mem_of_getE (wsOf_of_getE hws ▸ h)) sjob rfl⟩

end Signac.Sync
