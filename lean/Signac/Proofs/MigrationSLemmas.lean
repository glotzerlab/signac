/- Helper lemmas for the string-typed migration layer (Signac/MigrationS.lean): where every
   declared version is a non-negative integer literal the chain is the numeric chain on
   `ProjS.toProj`; a version string `int()` rejects makes `apply_migrations` raise ValueError
   with nothing changed.  Property theorems: end of Signac/Properties/C20.lean. -/
import Signac.MigrationS
import Signac.Proofs.MigChain
import Signac.Proofs.PyIntLemmas
namespace Signac.MigS
open Signac Signac.Mig Signac.PyInt

/-! ### loaders -/

theorem loadV1S_toProj (P : ProjS) : loadV1 P.toProj = (loadV1S P).map ConfS.toConf := by
  unfold loadV1 loadV1S
  show (match P.rc.map ConfS.toConf with | some c => _ | none => _) = _
  cases P.rc with
  | none => rfl
  | some c => exact (apply_ite (Option.map ConfS.toConf) (c.project.isSome = true) (some c) none).symm

theorem loadV2S_toProj (P : ProjS) : loadV2 P.toProj = (loadV2S P).map ConfS.toConf := rfl

theorem loaderS_toProj (n : Nat) (P : ProjS) :
    loader n P.toProj = (loaderS n P).map ConfS.toConf := by
  unfold loader loaderS
  rw [loadV1S_toProj, apply_ite (Option.map ConfS.toConf), apply_ite (Option.map ConfS.toConf)]
  rfl

theorem firstLoadS_toProj (P : ProjS) :
    ∀ l, firstLoad P.toProj l = (firstLoadS P l).map ConfS.toConf
  | [] => rfl
  | n :: ns => by
    rw [firstLoad, firstLoadS, loaderS_toProj]
    cases loaderS n P with
    | some c => rfl
    | none => exact firstLoadS_toProj P ns

theorem loadV1S_eq_some {P : ProjS} {c : ConfS} (h : loadV1S P = some c) : P.rc = some c := by
  unfold loadV1S at h
  split at h
  · rename_i c' hr
    split at h
    · exact hr.trans h
    · cases h
  · cases h

theorem firstLoadS_eq_some {P : ProjS} {c : ConfS} :
    ∀ {l}, firstLoadS P l = some c → P.rc = some c ∨ P.cfg = some c
  | [], h => by cases h
  | n :: ns, h => by
    rw [firstLoadS] at h
    split at h
    · rename_i c' hl
      cases h
      unfold loaderS at hl
      split at hl
      · exact .inl (loadV1S_eq_some hl)
      · split at hl
        · exact .inr hl
        · cases hl
    · exact firstLoadS_eq_some h

/-! ### `IntLit`, file by file -/

/-- the version declared in a config file, if the file is there, is a non-negative integer literal -/
def LitConf (o : Option ConfS) : Prop :=
  ∀ c, o = some c → ∀ s, c.version = some s → (declared s).isSome = true

theorem intLit_iff (P : ProjS) : IntLit P ↔ LitConf P.rc ∧ LitConf P.cfg :=
  ⟨fun h => ⟨fun c hc => h c (.inl hc), fun c hc => h c (.inr hc)⟩,
   fun h c hc => hc.elim (h.1 c) (h.2 c)⟩

theorem litConf_none : LitConf none := fun _ h => nomatch h

theorem LitConf.congr {c c' : ConfS} (h : LitConf (some c)) (hv : c'.version = c.version) :
    LitConf (some c') := by
  intro _ e s hs
  cases e
  exact h c rfl s (hv ▸ hs)

theorem litConf_toString (c : ConfS) (n : Nat) :
    LitConf (some { c with version := some (toString n) }) := by
  intro _ e s hs
  cases e; cases hs
  rw [declared_toString]; rfl

/-! ### `_get_config_schema_version` -/

theorem detectS_toProj (P : ProjS) (h : IntLit P) (g : Nat) :
    detectS P g = (match detect P.toProj g with
      | none => .unable
      | some n => .ver (Int.ofNat n)) := by
  unfold detectS detect
  simp only [firstLoadS_toProj]
  cases hf : firstLoadS P (if g = 1 ∨ g = 2 then [g, 2, 1] else [2, 1]) with
  | none => rfl
  | some c =>
    simp only [Option.map_some]
    cases hv : c.version with
    | none => simp [ConfS.toConf, hv]
    | some s =>
      have hd := h c (firstLoadS_eq_some hf) s hv
      cases hds : declared s with
      | none => rw [hds] at hd; cases hd
      | some n =>
        simp only [(declared_eq_some s n).mp hds, ConfS.toConf, hv, Option.map_some, hds,
          Option.getD_some]

private theorem detectS_valueError (P : ProjS) (g : Nat) (c : ConfS) (s : String)
    (hf : firstLoadS P (if g = 1 ∨ g = 2 then [g, 2, 1] else [2, 1]) = some c)
    (hv : c.version = some s) (hs : pyInt s = none) : detectS P g = .valueError := by
  unfold detectS
  simp only [hf, hv, hs]

/-! ### `_migrate_v1_to_v2`, the bump -/

/-- the two definitions are the same chain of `if`s, and `toProj` passes through it -/
theorem migrate12S_toProj (P : ProjS) :
    migrate12 P.toProj = (migrate12S P).map ProjS.toProj id := by
  unfold migrate12S migrate12
  rw [loadV1S_toProj]
  cases loadV1S P with
  | none => rfl
  | some c =>
    simp only [Option.map_some, apply_ite (Prod.map ProjS.toProj id)]
    rfl

/-- every branch writes back either the old files or `c` with `project` / `wsDir` cleared: no
    version string changes -/
theorem migrate12S_intLit (P : ProjS) (h : IntLit P) : IntLit (migrate12S P).1 := by
  rw [intLit_iff] at h ⊢
  unfold migrate12S
  cases hl : loadV1S P with
  | none => exact h
  | some c =>
    have hc : LitConf (some { c with project := none, wsDir := none }) :=
      (loadV1S_eq_some hl ▸ h.1).congr rfl
    simp only [apply_ite Prod.fst, apply_ite ProjS.rc, apply_ite ProjS.cfg, apply_ite LitConf,
      h.1, h.2, hc, litConf_none, ite_self, and_self]

theorem bumpS_toProj (d : Nat) (P : ProjS) :
    bump d P.toProj = (bumpS d P).map ProjS.toProj := by
  unfold bump bumpS
  rw [loadV1S_toProj, loadV2S_toProj, apply_ite (Option.map ProjS.toProj),
    apply_ite (Option.map ProjS.toProj)]
  simp only [Option.map_map]
  rfl

theorem bumpS_intLit {d : Nat} {P P' : ProjS} (h : IntLit P) (hb : bumpS d P = some P') :
    IntLit P' := by
  rw [intLit_iff] at h ⊢
  unfold bumpS at hb
  split at hb
  · obtain ⟨c, -, rfl⟩ := Option.map_eq_some_iff.mp hb
    exact ⟨litConf_toString c 1, h.2⟩
  · split at hb
    · obtain ⟨c, -, rfl⟩ := Option.map_eq_some_iff.mp hb
      exact ⟨h.1, litConf_toString c 2⟩
    · cases hb

/-! ### the chain -/

/-- a string-level outcome is the numeric outcome `q`, read back, and stays within `IntLit` -/
structure Refines (r : ProjS × MigResultS) (q : Proj × MigResult) : Prop where
  proj : r.1.toProj = q.1
  result : r.2 = .base q.2
  lit : IntLit r.1

theorem refines_base {P : ProjS} (h : IntLit P) (r : MigResult) :
    Refines (P, .base r) (P.toProj, r) := ⟨rfl, rfl, h⟩

/-- `loopS` and `loop` branch on the same tests, read in `Int` resp. `Nat` -/
theorem refines_ite {c c' : Prop} [Decidable c] [Decidable c'] {a b : ProjS × MigResultS}
    {a' b' : Proj × MigResult} (hc : c ↔ c') (ha : c → Refines a a') (hb : ¬ c → Refines b b') :
    Refines (if c then a else b) (if c' then a' else b') := by
  by_cases h : c
  · rw [if_pos h, if_pos (hc.mp h)]; exact ha h
  · rw [if_neg h, if_neg (mt hc.mpr h)]; exact hb h

theorem Refines.unlock {r : ProjS × MigResultS} {q : Proj × MigResult} (h : Refines r q) :
    Refines ({ r.1 with lock := false }, r.2) ({ q.1 with lock := false }, q.2) :=
  ⟨h.proj ▸ rfl, h.result, h.lit⟩

theorem loopS_toProj : ∀ (fuel guess : Nat) (P : ProjS), IntLit P →
    Refines (loopS fuel guess P) (loop fuel guess P.toProj)
  | 0, _, P, h => refines_base h _
  | fuel + 1, guess, P, h => by
    unfold loopS loop
    rw [detectS_toProj P h guess]
    cases detect P.toProj guess with
    | none => exact refines_base h _
    | some n =>
      refine refines_ite Int.ofNat_lt (fun _ => refines_ite Int.natCast_eq_zero (fun _ => ?_)
        fun _ => refines_ite (Int.ofNat_inj (n := 1)) (fun _ => ?_) fun _ => refines_base h _)
        fun _ => refines_base h _
      · rw [bumpS_toProj]
        cases hb : bumpS 1 P with
        | none => exact refines_base h _
        | some P' => exact loopS_toProj fuel 1 P' (bumpS_intLit h hb)
      · have hi := migrate12S_intLit P h
        rw [migrate12S_toProj]
        generalize migrate12S P = r at hi ⊢
        obtain ⟨P', _ | _⟩ := r
        · exact refines_base hi _
        · show Refines (match bumpS 2 P' with | none => _ | some P'' => _)
            (match bump 2 P'.toProj with | none => _ | some P'' => _)
          rw [bumpS_toProj]
          cases hb : bumpS 2 P' with
          | none => exact refines_base (P := P') hi _
          | some P'' => exact loopS_toProj fuel 2 P'' (bumpS_intLit (P := P') hi hb)

theorem applyMigrationsS_toProj (P : ProjS) (h : IntLit P) :
    Refines (applyMigrationsS P) (applyMigrations P.toProj) := by
  have hL : IntLit { P with lock := true } := h
  unfold applyMigrationsS applyMigrations
  simp only []
  rw [detectS_toProj _ hL SCHEMA]
  show Refines _ (match detect { P with lock := true }.toProj SCHEMA with | none => _ | some v => _)
  cases detect { P with lock := true }.toProj SCHEMA with
  | none => exact ⟨rfl, rfl, h⟩
  | some n =>
    refine refines_ite Int.ofNat_lt (fun _ => ⟨rfl, rfl, h⟩) fun _ => ?_
    exact (loopS_toProj (SCHEMA + 1) n _ hL).unlock

/-! ### a version string that `int()` rejects -/

theorem applyMigrationsS_valueError (P : ProjS)
    (hd : detectS { P with lock := true } SCHEMA = .valueError) :
    applyMigrationsS P = ({ P with lock := false }, .valueError) := by
  unfold applyMigrationsS
  simp only [hd]

theorem detectS_cfg_valueError (P : ProjS) (c : ConfS) (s : String) (hc : P.cfg = some c)
    (hv : c.version = some s) (hs : pyInt s = none) : detectS P SCHEMA = .valueError := by
  refine detectS_valueError P SCHEMA c s ?_ hv hs
  simp [schema_eq, firstLoadS, loaderS, loadV2S, hc]

theorem detectS_rc_valueError (P : ProjS) (c : ConfS) (s : String) (hcfg : P.cfg = none)
    (hc : P.rc = some c) (hp : c.project.isSome = true)
    (hv : c.version = some s) (hs : pyInt s = none) : detectS P SCHEMA = .valueError := by
  refine detectS_valueError P SCHEMA c s ?_ hv hs
  simp [schema_eq, firstLoadS, loaderS, loadV2S, loadV1S, hc, hcfg, hp]

/-! ### the embedding of numeric projects -/

theorem toConf_ofConf (c : Conf) : (ofConf c).toConf = c := by
  obtain ⟨_ | n, p, w⟩ := c
  · rfl
  · show Conf.mk (some ((declared (toString n)).getD 0)) p w = _
    rw [declared_toString]; rfl

theorem toProj_ofProj (P : Proj) : (ofProj P).toProj = P := by
  cases P with
  | mk rc cfg =>
    simp only [ofProj, ProjS.toProj, Option.map_map]
    have : ConfS.toConf ∘ ofConf = id := funext toConf_ofConf
    simp [this]

theorem litConf_ofConf (o : Option Conf) : LitConf (o.map ofConf) := by
  intro c hc s hs
  obtain ⟨c0, _, rfl⟩ := Option.map_eq_some_iff.mp hc
  obtain ⟨n, _, rfl⟩ := Option.map_eq_some_iff.mp hs
  rw [declared_toString]; rfl

theorem intLit_ofProj (P : Proj) : IntLit (ofProj P) :=
  (intLit_iff _).mpr ⟨litConf_ofConf _, litConf_ofConf _⟩

theorem unlockS_eq {P : ProjS} (h : P.lock = false) : { P with lock := false } = P := by
  cases P; cases h; rfl

end Signac.MigS
