/-
  Association lists with string keys (`alookup`, `aset`, `aerase` of the workspace model, also
  used by the cache model): membership, key lists, lookups after an edit.  Core only.
-/
import Signac.Workspace
namespace Signac.Ws

variable {β : Type} {k k' : String} {v : β} {x : String × β} {l : List (String × β)}

theorem alookup_cons (k k' : String) (v : β) (l : List (String × β)) :
    alookup k ((k', v) :: l) = if k = k' then some v else alookup k l := rfl

theorem alookup_some_mem (h : alookup k l = some v) : (k, v) ∈ l := by
  fun_induction alookup k l with
  | case1 => cases h
  | case2 => cases h; exact List.mem_cons_self
  | case3 k' v' r hk ih => exact List.mem_cons_of_mem _ (ih h)

theorem alookup_eq_none_iff : alookup k l = none ↔ k ∉ l.map Prod.fst := by
  fun_induction alookup k l with
  | case1 => exact iff_of_true rfl List.not_mem_nil
  | case2 => exact iff_of_false nofun fun h => h List.mem_cons_self
  | case3 k' v' r hk ih => rw [ih, List.map_cons, List.mem_cons, not_or]; exact (and_iff_right hk).symm

theorem alookup_isSome_iff : (alookup k l).isSome = true ↔ k ∈ l.map Prod.fst := by
  rw [Option.isSome_iff_ne_none, Ne, alookup_eq_none_iff, Classical.not_not]

theorem alookup_of_mem_nodup (hm : (k, v) ∈ l) (hn : (l.map Prod.fst).Nodup) : alookup k l = some v := by
  fun_induction alookup k l with
  | case1 => cases hm
  | case2 v' r =>
    rcases List.mem_cons.mp hm with h | h
    · cases h; rfl
    · exact absurd (List.mem_map.mpr ⟨_, h, rfl⟩) (List.nodup_cons.mp hn).1
  | case3 k' v' r hk ih =>
    rcases List.mem_cons.mp hm with h | h
    · cases h; exact absurd rfl hk
    · exact ih h (List.nodup_cons.mp hn).2

theorem alookup_append_new (v : β) (l : List (String × β)) :
    alookup k' (l ++ [(k, v)]) = match alookup k' l with
      | some x => some x
      | none => if k' = k then some v else none := by
  fun_induction alookup k' l with
  | case1 => rfl
  | case2 v' r => exact if_pos rfl
  | case3 k2 v' r hk ih => rw [List.cons_append, alookup_cons, if_neg hk, ih]

theorem mem_aerase_iff : x ∈ aerase k l ↔ x ∈ l ∧ x.1 ≠ k := by
  fun_induction aerase k l with
  | case1 => exact iff_of_false List.not_mem_nil fun h => List.not_mem_nil h.1
  | case2 v' r ih =>
    rw [ih, List.mem_cons]
    exact ⟨fun h => ⟨Or.inr h.1, h.2⟩, fun h => ⟨h.1.resolve_left fun e => h.2 (e ▸ rfl), h.2⟩⟩
  | case3 k' v' r hk ih =>
    rw [List.mem_cons, List.mem_cons, ih, or_and_right]
    exact or_congr_left (iff_self_and.mpr fun e => e ▸ Ne.symm hk)

theorem mem_keys_aerase_iff {j : String} :
    j ∈ (aerase k l).map Prod.fst ↔ j ∈ l.map Prod.fst ∧ j ≠ k := by
  simp only [List.mem_map, mem_aerase_iff]
  exact ⟨fun ⟨e, ⟨hm, hne⟩, he⟩ => he ▸ ⟨⟨e, hm, rfl⟩, hne⟩, fun ⟨⟨e, hm, he⟩, hne⟩ => ⟨e, ⟨hm, he ▸ hne⟩, he⟩⟩

theorem aerase_nodup (h : (l.map Prod.fst).Nodup) : ((aerase k l).map Prod.fst).Nodup := by
  fun_induction aerase k l with
  | case1 => exact h
  | case2 v' r ih => exact ih (List.nodup_cons.mp h).2
  | case3 k' v' r hk ih =>
    exact List.nodup_cons.mpr ⟨fun hm => (List.nodup_cons.mp h).1 (mem_keys_aerase_iff.mp hm).1,
      ih (List.nodup_cons.mp h).2⟩

theorem aerase_of_not_mem (h : k ∉ l.map Prod.fst) : aerase k l = l := by
  fun_induction aerase k l with
  | case1 => rfl
  | case2 v' r ih => exact absurd List.mem_cons_self h
  | case3 k' v' r hk ih => rw [ih fun hm => h (List.mem_cons_of_mem _ hm)]

theorem alookup_aerase_self (k : String) (l : List (String × β)) : alookup k (aerase k l) = none :=
  alookup_eq_none_iff.mpr fun h => (mem_keys_aerase_iff.mp h).2 rfl

theorem alookup_aerase_ne (hne : k' ≠ k) (l : List (String × β)) :
    alookup k' (aerase k l) = alookup k' l := by
  fun_induction aerase k l with
  | case1 => rfl
  | case2 v' r ih => rw [ih, alookup_cons, if_neg hne]
  | case3 k2 v' r hk ih => rw [alookup_cons, alookup_cons, ih]

theorem perm_aerase (hnd : (l.map Prod.fst).Nodup) (h : alookup k l = some v) :
    l.Perm (aerase k l ++ [(k, v)]) := by
  fun_induction alookup k l with
  | case1 => cases h
  | case2 v' r =>
    cases h
    rw [aerase, if_pos rfl, aerase_of_not_mem (List.nodup_cons.mp hnd).1]
    exact (List.perm_append_singleton _ _).symm
  | case3 k' v' r hk ih =>
    rw [aerase, if_neg hk]
    exact (ih (List.nodup_cons.mp hnd).2 h).cons _

/- an entry moved to a new key: erased, then appended -/

theorem alookup_moved_new (hne : k' ≠ k) (hfree : alookup k' l = none) (v : β) :
    alookup k' (aerase k l ++ [(k', v)]) = some v := by
  rw [alookup_append_new, alookup_aerase_ne hne, hfree]
  exact if_pos rfl

theorem alookup_moved_old (hne : k' ≠ k) (v : β) (l : List (String × β)) :
    alookup k (aerase k l ++ [(k', v)]) = none := by
  rw [alookup_append_new, alookup_aerase_self]
  exact if_neg (Ne.symm hne)

theorem alookup_moved_other {j : String} (h1 : j ≠ k) (h2 : j ≠ k') (v : β) (l : List (String × β)) :
    alookup j (aerase k l ++ [(k', v)]) = alookup j l := by
  rw [alookup_append_new, alookup_aerase_ne h1]
  cases alookup j l with
  | some _ => rfl
  | none => exact if_neg h2

theorem mem_moved_iff : x ∈ aerase k l ++ [(k', v)] ↔ (x ∈ l ∧ x.1 ≠ k) ∨ x = (k', v) := by
  rw [List.mem_append, mem_aerase_iff, List.mem_singleton]

theorem nodup_keys_append (hnd : (l.map Prod.fst).Nodup) (hfree : k ∉ l.map Prod.fst) (v : β) :
    ((l ++ [(k, v)]).map Prod.fst).Nodup := by
  rw [List.map_append, List.nodup_append]
  refine ⟨hnd, List.nodup_cons.mpr ⟨List.not_mem_nil, .nil⟩, fun a ha b hb e => ?_⟩
  cases List.mem_singleton.mp hb
  cases e
  exact hfree ha

theorem nodup_moved (hnd : (l.map Prod.fst).Nodup) (hfree : k' ∉ l.map Prod.fst) (k : String) (v : β) :
    ((aerase k l ++ [(k', v)]).map Prod.fst).Nodup :=
  nodup_keys_append (aerase_nodup hnd) (fun h => hfree (mem_keys_aerase_iff.mp h).1) v

theorem alookup_aset_self (k : String) (v : β) (l : List (String × β)) :
    alookup k (aset k v l) = some v := by
  fun_induction aset k v l with
  | case1 => exact if_pos rfl
  | case2 => exact if_pos rfl
  | case3 k' v' r hk ih => rw [alookup_cons, if_neg hk, ih]

theorem alookup_aset_ne (hne : k' ≠ k) (v : β) (l : List (String × β)) :
    alookup k' (aset k v l) = alookup k' l := by
  fun_induction aset k v l with
  | case1 => exact if_neg hne
  | case2 v' r => rw [alookup_cons, alookup_cons, if_neg hne, if_neg hne]
  | case3 k2 v' r hk ih => rw [alookup_cons, alookup_cons, ih]

theorem aset_lookup_self (h : alookup k l = some v) : aset k v l = l := by
  fun_induction alookup k l with
  | case1 => cases h
  | case2 v' r => cases h; exact if_pos rfl
  | case3 k' v' r hk ih => rw [aset, if_neg hk, ih h]

theorem mem_aset (h : x ∈ aset k v l) : x = (k, v) ∨ x ∈ l := by
  fun_induction aset k v l with
  | case1 => exact Or.inl (List.mem_singleton.mp h)
  | case2 v' r => exact (List.mem_cons.mp h).imp_right (List.mem_cons_of_mem _)
  | case3 k' v' r hk ih =>
    rcases List.mem_cons.mp h with h | h
    · exact Or.inr (h ▸ List.mem_cons_self)
    · exact (ih h).imp_right (List.mem_cons_of_mem _)

theorem aset_keys_of_mem (h : k ∈ l.map Prod.fst) : (aset k v l).map Prod.fst = l.map Prod.fst := by
  fun_induction aset k v l with
  | case1 => cases h
  | case2 v' r => rfl
  | case3 k' v' r hk ih =>
    rw [List.map_cons, List.map_cons, ih ((List.mem_cons.mp h).resolve_left hk)]

theorem aset_keys_of_not_mem (h : k ∉ l.map Prod.fst) :
    (aset k v l).map Prod.fst = l.map Prod.fst ++ [k] := by
  fun_induction aset k v l with
  | case1 => rfl
  | case2 v' r => exact absurd List.mem_cons_self h
  | case3 k' v' r hk ih =>
    rw [List.map_cons, ih fun hm => h (List.mem_cons_of_mem _ hm), List.map_cons, List.cons_append]

theorem mem_keys_aset_iff {j : String} :
    j ∈ (aset k v l).map Prod.fst ↔ j = k ∨ j ∈ l.map Prod.fst := by
  by_cases hk : k ∈ l.map Prod.fst
  · rw [aset_keys_of_mem hk]
    exact ⟨Or.inr, fun h => h.elim (· ▸ hk) id⟩
  · rw [aset_keys_of_not_mem hk, List.mem_append, List.mem_singleton, or_comm]

theorem map_aset_congr {γ : Type} {g1 g : String × β → γ} {v' : β} (hnd : (l.map Prod.fst).Nodup)
    (h : alookup k l = some v) (hk : g1 (k, v') = g (k, v)) (ho : ∀ e, e ∈ l → e.1 ≠ k → g1 e = g e) :
    (aset k v' l).map g1 = l.map g := by
  fun_induction alookup k l with
  | case1 => cases h
  | case2 w r =>
    cases h
    rw [aset, if_pos rfl, List.map_cons, List.map_cons, hk]
    congr 1
    exact List.map_congr_left fun e he => ho e (List.mem_cons_of_mem _ he)
      fun e1 => (List.nodup_cons.mp hnd).1 (List.mem_map.mpr ⟨e, he, e1⟩)
  | case3 k' w r hne ih =>
    rw [aset, if_neg hne, List.map_cons, List.map_cons, ho _ List.mem_cons_self (Ne.symm hne),
      ih (List.nodup_cons.mp hnd).2 h fun e he => ho e (List.mem_cons_of_mem _ he)]

theorem eq_of_nodup_map {α γ : Type} {f : α → γ} {l : List α} (h : (l.map f).Nodup) {a b : α}
    (ha : a ∈ l) (hb : b ∈ l) (he : f a = f b) : a = b := by
  induction l with
  | nil => cases ha
  | cons x xs ih =>
    rw [List.map_cons, List.nodup_cons] at h
    rcases List.mem_cons.mp ha with rfl | ha' <;> rcases List.mem_cons.mp hb with rfl | hb'
    · rfl
    · exact absurd (List.mem_map.mpr ⟨b, hb', he.symm⟩) h.1
    · exact absurd (List.mem_map.mpr ⟨a, ha', he⟩) h.1
    · exact ih h.2 ha' hb'

end Signac.Ws
