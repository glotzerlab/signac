import Signac.Json
namespace Signac

/-- Induction over a value; the hypothesis holds of every member of a list and of the value of every
    entry of a mapping. -/
theorem JVal.rec_mem {P : JVal → Prop} (null : P .null) (bool : ∀ b, P (.bool b))
    (int : ∀ i, P (.int i)) (flt : ∀ n e r, P (.flt n e r)) (str : ∀ s, P (.str s))
    (arr : ∀ xs, (∀ x ∈ xs, P x) → P (.arr xs))
    (obj : ∀ kvs, (∀ kv ∈ kvs, P kv.2) → P (.obj kvs)) (v : JVal) : P v :=
  JVal.rec (motive_1 := P) (motive_2 := fun xs => ∀ x ∈ xs, P x)
    (motive_3 := fun kvs => ∀ kv ∈ kvs, P kv.2) (motive_4 := fun kv => P kv.2)
    null bool int flt str arr obj
    (fun _ h => nomatch h) (fun _ _ h t => List.forall_mem_cons.mpr ⟨h, t⟩)
    (fun _ h => nomatch h) (fun _ _ h t => List.forall_mem_cons.mpr ⟨h, t⟩)
    (fun _ _ h => h) v

end Signac
