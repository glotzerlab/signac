/-
  Proofs/ConcTerm — every actor terminates (a variant decreases with every step, whatever the
  primitives answer), hence the schedule that runs the actors one after another completes; an actor
  that is done without an exception has worked off its script (`FinOk`); what a finished run
  leaves behind as a function of the inputs (`final_spec`) (C12).
-/
import Signac.Proofs.ConcSeq
namespace Signac.Conc
variable {SP DV : Type} {hash : SP → JobId}

def ProjPc.rank : ProjPc → Nat
  | .isdir3 => 1 | .mkdir => 2 | .isdir2 => 3 | .isdir1 => 4

def IniPc.rank : IniPc → Nat
  | .load2 => 6 | .isfile => 11 | .isdir2 => 12 | .mkdir => 13 | .existsWs => 14 | .isdir => 15 | .load1 => 16

def SavePc.rank : SavePc → Nat
  | .rename => 1 | .close => 2 | .write => 3 | .openw => 4

def Kind.base : Kind → Nat
  | .doc => 0 | .sp => 6

/-- Remaining steps of the operation in progress (upper bound): the length of the longest path from
    the program counter to the end of the operation.  `Kind.base .sp = 6` is the rank of
    `.ini .load2`, with which `init` goes on after the state point save; the 18 of `fuel` is one more
    than the largest rank of a first program counter (`rank_firstPhase`). -/
def rank : Phase SP DV → Nat
  | .fin => 0
  | .proj n => n.rank
  | .len => 1
  | .save n _ k _ => n.rank + k.base
  | .dload _ => 5
  | .ini n _ => n.rank
  | .lite _ => 17

def fuel (st : AState SP DV) : Nat := st.script.length * 18 + rank st.phase

theorem rank_firstPhase (op : Op SP DV) : rank (firstPhase op) ≤ 17 := by
  cases op <;> exact Nat.le_of_ble_eq_true rfl

theorem rank_pos {p : Phase SP DV} (h : p ≠ .fin) : 0 < rank p := by
  cases p with
  | fin => exact absurd rfl h
  | proj n | ini n => cases n <;> exact Nat.succ_pos _
  | save n _ k => cases n <;> cases k <;> exact Nat.succ_pos _
  | _ => exact Nat.succ_pos _

theorem Edge.rank_lt {s : List (Op SP DV)} {r : Res SP DV} {p q : Phase SP DV}
    (e : Edge hash s r p q) : 0 < rank q ∧ rank q < rank p := by
  induction e with
  | openw _ k | write _ k | close _ k =>
    cases k <;> exact ⟨Nat.le_of_ble_eq_true rfl, Nat.le_of_ble_eq_true rfl⟩
  | initLoad _ _ hn | initAssign _ _ _ _ _ hn =>
    rcases hn with rfl | rfl <;> exact ⟨Nat.le_of_ble_eq_true rfl, Nat.le_of_ble_eq_true rfl⟩
  | _ => exact ⟨Nat.le_of_ble_eq_true rfl, Nat.le_of_ble_eq_true rfl⟩

/-- completing an operation: one operation less pays for the first program counter of the next -/
theorem fuel_finishOp (st st' : AState SP DV) (hsc : st'.script = st.script) (h : 0 < rank st.phase) :
    fuel (finishOp st') < fuel st := by
  unfold fuel
  rw [finishOp_script, hsc]
  have hp : rank (finishOp st').phase ≤ 17 := by
    simp only [finishOp, startNext]
    split
    · exact Nat.zero_le _
    · exact rank_firstPhase _
  cases hs : st.script with
  | nil =>
    have : (finishOp st').phase = .fin := by simp [finishOp, startNext, hsc, hs]
    rw [this]; exact Nat.add_lt_add_left h _
  | cons op t => simp only [List.tail_cons, List.length_cons]; omega

theorem Move.fuel_lt {r : Res SP DV} {st st' : AState SP DV} (m : Move hash r st st')
    (hne : st.phase ≠ .fin) : fuel st' < fuel st := by
  cases m with
  | fail => exact Nat.add_lt_add_left (rank_pos hne) _
  | goto q e => exact Nat.add_lt_add_left e.rank_lt.2 _
  | exit => exact fuel_finishOp st _ rfl (rank_pos hne)

/-! ### termination -/

/-- actor `a` (if there is one) is done -/
def ActorDone (s : Sys SP DV) (a : Nat) : Prop := ∀ st, s.actors[a]? = some st → st.phase = .fin

theorem fin_step {s : Sys SP DV} {b : Nat} (h : ActorDone s b) (a : Nat) : ActorDone (sysStep hash s a) b :=
  fun st' hb => actors_step (P := fun a' st => a' = b → st.phase = .fin)
    (fun _ st hst e => h st (e ▸ hst))
    (fun st _ hst hn e => absurd (h st (e ▸ hst)) (next_ne_fin hn)) b st' hb rfl

theorem other_solo {s : Sys SP DV} {a b : Nat} (hab : b ≠ a) (n : Nat) :
    (run hash s (List.replicate n a)).actors[b]? = s.actors[b]? := by
  induction n generalizing s with
  | zero => rfl
  | succ n ih => simp only [List.replicate_succ, run]; rw [ih, actors_sysStep_ne hab]

/-- actor `a` is done or at most `n` steps from it -/
def Within (s : Sys SP DV) (a n : Nat) : Prop :=
  ∀ st, s.actors[a]? = some st → st.phase = .fin ∨ fuel st ≤ n

theorem within_step {s : Sys SP DV} {a n : Nat} (h : Within s a (n + 1)) :
    Within (sysStep hash s a) a n := by
  intro st' hst'
  rcases sysStep_cases (hash := hash) s a with ⟨e, hf⟩ | ⟨st, ins, hst, hn, _⟩
  · exact .inl (hf st' (e ▸ hst'))
  · cases (actors_sysStep_self hst hn).symm.trans hst'
    have hne := next_ne_fin hn
    have := (resume_move (hash := hash) hne (exec s.fs ins).2).fuel_lt hne
    exact .inr (by have := (h st hst).resolve_left hne; omega)

theorem solo_fin {s : Sys SP DV} {a : Nat} (n : Nat) (h : Within s a n) :
    ActorDone (run hash s (List.replicate n a)) a := by
  induction n generalizing s with
  | zero =>
    intro st hst
    refine (h st hst).elim id fun hf => Classical.byContradiction fun hne => ?_
    have := rank_pos hne
    unfold fuel at hf; omega
  | succ n ih => exact ih (within_step h)

theorem run_append (s : Sys SP DV) (l1 l2 : List Nat) :
    run hash s (l1 ++ l2) = run hash (run hash s l1) l2 := by
  induction l1 generalizing s with
  | nil => rfl
  | cons a r ih => simp only [List.cons_append, run]; exact ih _

/-- running the actors of `as` one after another, each for `F a` steps -/
def blocks (F : Nat → Nat) (as : List Nat) : List Nat := as.flatMap (fun a => List.replicate (F a) a)

theorem blocks_fin (F : Nat → Nat) (as : List Nat) (s : Sys SP DV)
    (h : ∀ a ∈ as, Within s a (F a)) :
    ∀ a ∈ as, ActorDone (run hash s (blocks F as)) a := by
  induction as generalizing s with
  | nil => intro a ha; cases ha
  | cons a0 rest ih =>
    intro a ha
    simp only [blocks, List.flatMap_cons] at ih ⊢
    rw [run_append]
    have h0 : ActorDone (run hash s (List.replicate (F a0) a0)) a0 := solo_fin _ (h a0 (by simp))
    have hrest : ∀ a ∈ rest, Within (run hash s (List.replicate (F a0) a0)) a (F a) := by
      intro a' ha' st hst
      by_cases he : a' = a0
      · subst he; exact Or.inl (h0 st hst)
      · rw [other_solo he] at hst
        exact h a' (by simp [ha']) st hst
    rcases List.mem_cons.1 ha with rfl | ha
    · exact run_invariant (I := fun s => ActorDone s a) (fun _ b h => fin_step h b) h0 _
    · exact ih _ hrest a ha

/-- the number of solo steps that surely finish actor `a` -/
def fuelAt (s : Sys SP DV) (a : Nat) : Nat :=
  match s.actors[a]? with
  | some st => fuel st
  | none => 0

/-- the sequential schedule: actor 0 until it is done, then actor 1, … -/
def seqSched (s : Sys SP DV) : List Nat := blocks (fuelAt s) (List.range s.actors.length)

theorem run_length (s : Sys SP DV) (sched : List Nat) : (run hash s sched).actors.length = s.actors.length :=
  run_invariant (I := fun t => t.actors.length = s.actors.length)
    (fun t a h => by
      rcases sysStep_cases (hash := hash) t a with ⟨e, _⟩ | ⟨_, _, _, _, e⟩ <;> rw [e]
      · exact h
      · exact (List.length_set ..).trans h) rfl sched

theorem seq_completes (s : Sys SP DV) : AllDone (run hash s (seqSched s)) := by
  intro st hm
  obtain ⟨a, ha, rfl⟩ := List.mem_iff_getElem.1 hm
  have hlen := run_length (hash := hash) s (seqSched s)
  have ha' : a < s.actors.length := hlen ▸ ha
  have := blocks_fin (hash := hash) (fuelAt s) (List.range s.actors.length) s
    (by intro a _ st' hst; right; simp [fuelAt, hst]) a (List.mem_range.2 ha')
  exact this _ (List.getElem?_eq_getElem ha)

/-! ### final states -/

/-- done without an exception means: script worked off -/
def FinOk (st : AState SP DV) : Prop := st.failed = none → st.phase = .fin → st.script = []

theorem finOk_finishOp (st : AState SP DV) : FinOk (finishOp st) := by
  intro _ hp
  simp only [finishOp, startNext] at hp ⊢
  split at hp
  · assumption
  · next op _ _ => cases op <;> cases hp

theorem Move.finOk {r : Res SP DV} {st st' : AState SP DV} (m : Move hash r st st') : FinOk st' := by
  cases m with
  | fail => exact fun h => nomatch h
  | goto q e =>
    intro _ hp
    have h0 := e.rank_lt.1
    rw [show q = .fin from hp] at h0
    exact absurd h0 (Nat.lt_irrefl 0)
  | exit => exact finOk_finishOp _

def AllFinOk (s : Sys SP DV) : Prop := ∀ (a : Nat) (st : AState SP DV), s.actors[a]? = some st → FinOk st

theorem allFinOk_step {s : Sys SP DV} (h : AllFinOk s) (b : Nat) : AllFinOk (sysStep hash s b) :=
  actors_step h fun _ _ _ hn => (resume_move (next_ne_fin hn) _).finOk

theorem allFinOk_run {s : Sys SP DV} (h : AllFinOk s) (sched : List Nat) : AllFinOk (run hash s sched) :=
  run_invariant (I := AllFinOk) (fun _ a h => allFinOk_step h a) h sched

theorem allFinOk_start (fs : FS SP DV) (scripts : List (List (Op SP DV))) :
    AllFinOk (startSys fs scripts) := by
  intro a st hst
  obtain ⟨_, _, rfl⟩ := getElem?_start hst
  exact fun _ h => nomatch h

theorem done_jobs {s0 s : Sys SP DV} (h : SysInv hash s) (hf : AllFinOk s) (hj : JobsInv hash s0 s)
    (hd : AllDone s) (hmono : ∀ p, IsDir s0.fs p → IsDir s.fs p)
    (hlen : s.actors.length = s0.actors.length) (i : JobId) :
    IsDir s.fs (.jobdir i) ↔ Requested hash s0 i := by
  constructor
  · exact hj.sound i
  · rintro (h0 | ⟨a, st0, op, hst0, hop, hm⟩)
    · exact hmono _ h0
    · have ha : a < s.actors.length := by
        rw [hlen]; exact (List.getElem?_eq_some_iff.1 hst0).1
      have hst := List.getElem?_eq_getElem ha
      obtain ⟨st0', pre, h1, h2, h3⟩ := hj.prog a _ hst
      rw [hst0] at h1; cases h1
      have hmem := List.mem_of_getElem? hst
      have hnil := hf a _ hst (h.actors a _ hst).noFail (hd _ hmem)
      rw [hnil, List.append_nil] at h2
      exact h3 op (h2 ▸ hop) i hm

theorem wPending_done {s : Sys SP DV} (h : SysInv hash s) (hd : AllDone s) (hf : AllFinOk s)
    (i : JobId) (w : Nat) : wPending hash i w s = [] := by
  simp only [wPending]
  cases hst : s.actors[w]? with
  | none => rfl
  | some st =>
    have hm := List.mem_of_getElem? hst
    have := hf w st hst (h.actors w st hst).noFail (hd st hm)
    simp [this, pendingSets]

theorem done_no_tmp {s : Sys SP DV} (h : SysInv hash s) (hd : AllDone s) (i : JobId) (k : Kind) (a : Nat) :
    s.fs.get (.tmp i k a) = none :=
  Classical.byContradiction fun hne => by
    obtain ⟨st, hst, hp⟩ := tmp_owner h hne
    rw [hd st (List.mem_of_getElem? hst)] at hp
    exact hp

/-- an initial configuration of the property: a valid workspace (well-shaped, no temp files, every
    job directory has its state point file) and processes about to start -/
structure ValidStart (hash : SP → JobId) (fs : FS SP DV) : Prop where
  inv : FsInv hash fs
  noTmp : ∀ i k a, fs.get (.tmp i k a) = none
  complete : ∀ i, IsDir fs (.jobdir i) → IsFile fs (.file i .sp)

/-- What a finished run leaves behind, as a function of the inputs only (no schedule in sight). -/
structure FinalSpec (hash : SP → JobId) (fs : FS SP DV) (scripts : List (List (Op SP DV)))
    (f : FS SP DV) : Prop where
  jobs : ∀ i, IsDir f (.jobdir i) ↔ Requested hash (startSys fs scripts) i
  check : ∀ i, IsDir f (.jobdir i) → ∃ v, f.get (.file i .sp) = some (.file (.spc v)) ∧ hash v = i
  spOnlyInJob : ∀ i, IsFile f (.file i .sp) → IsDir f (.jobdir i)
  docs : ∀ i w, SingleWriter hash i w scripts →
    docNow f i = applySets (docNow fs i) (writesOf hash i w scripts)
  clean : ∀ i k a, f.get (.tmp i k a) = none

theorem final_spec {fs : FS SP DV} (hv : ValidStart hash fs) (scripts : List (List (Op SP DV)))
    (sched : List Nat) (hd : AllDone (run hash (startSys fs scripts) sched)) :
    FinalSpec hash fs scripts (run hash (startSys fs scripts) sched).fs := by
  have h0 : SysInv hash (startSys fs scripts) := initial_inv hv.inv hv.noTmp scripts
  obtain ⟨hS, hO, _, hJ, hF⟩ := run_invariant
    (I := fun s => SysInv hash s ∧ DirOwner hash s ∧ AllHeadOk hash s ∧
      JobsInv hash (startSys fs scripts) s ∧ AllFinOk s)
    (fun _ a ⟨h1, h2, h3, h4, h5⟩ => ⟨(sysStep_inv_guar h1 a).1, dirOwner_step h1 h2 a,
      allHeadOk_step h3 a, jobsInv_step h1 h3 h4 a, allFinOk_step h5 a⟩)
    ⟨h0, fun i hdir => .inl (hv.complete i hdir), allHeadOk_start fs scripts, jobsInv_refl _,
      allFinOk_start fs scripts⟩ sched
  refine ⟨?_, ?_, ?_, ?_, ?_⟩
  · exact done_jobs hS hF hJ hd (run_monotone h0 sched).1 (run_length ..)
  · exact fun i hdir => done_check_passes hS hO hd i hdir
  · intro i ⟨c, hc⟩; exact parent_dir hS.fs hc rfl
  · intro i w hsw
    have hD := docInv_run h0 (docInv_initially (fs := fs) hsw) sched
    have := hD.target
    rw [wPending_done hS hd hF] at this
    simpa [applySets] using this
  · exact done_no_tmp hS hd

/-- same job directories, same state point files present, same documents, no temp files -/
structure AbsEq (f1 f2 : FS SP DV) : Prop where
  jobs : ∀ i, IsDir f1 (.jobdir i) ↔ IsDir f2 (.jobdir i)
  sps : ∀ i, IsFile f1 (.file i .sp) ↔ IsFile f2 (.file i .sp)
  docs : ∀ i, docNow f1 i = docNow f2 i
  clean : ∀ i k a, f1.get (.tmp i k a) = none ∧ f2.get (.tmp i k a) = none

theorem absEq_of_spec {fs : FS SP DV} {scripts : List (List (Op SP DV))} {f1 f2 : FS SP DV}
    (h1 : FinalSpec hash fs scripts f1) (h2 : FinalSpec hash fs scripts f2)
    (hsw : ∀ i, ∃ w, SingleWriter hash i w scripts) : AbsEq f1 f2 := by
  refine ⟨fun i => (h1.jobs i).trans (h2.jobs i).symm, ?_, ?_, fun i k a => ⟨h1.clean i k a, h2.clean i k a⟩⟩
  · intro i
    constructor
    · intro hf
      obtain ⟨v, hv, _⟩ := h2.check i (((h1.jobs i).trans (h2.jobs i).symm).1 (h1.spOnlyInJob i hf))
      exact ⟨_, hv⟩
    · intro hf
      obtain ⟨v, hv, _⟩ := h1.check i (((h1.jobs i).trans (h2.jobs i).symm).2 (h2.spOnlyInJob i hf))
      exact ⟨_, hv⟩
  · intro i
    obtain ⟨w, hw⟩ := hsw i
    rw [h1.docs i w hw, h2.docs i w hw]

/-- executable form of `AllDone` (for concrete instances) -/
def allDoneB (s : Sys SP DV) : Bool :=
  s.actors.all (fun st => match st.phase with | .fin => true | _ => false)

theorem allDone_of_B {s : Sys SP DV} (h : allDoneB s = true) : AllDone s := by
  intro st hm
  simp only [allDoneB, List.all_eq_true] at h
  have := h st hm
  split at this
  · assumption
  · cases this

end Signac.Conc
