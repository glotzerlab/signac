/-
  Helper lemmas for C07 (groupby): sorting mutually orderable, well-formed labels with Python's
  `<` puts `==` labels next to each other, so `itertools.groupby` never opens two groups with
  `==` labels.
-/
import Signac.Proofs.QueryOrder
import Signac.Proofs.QueryFront
namespace Signac.Query
open Signac

def leL (a b : JVal) : Prop := pyCmp a b = .lt ∨ pyCmp a b = .eq

def Orderable (a b : JVal) : Prop := pyCmp a b ≠ .typeError ∧ pyCmp b a ≠ .typeError

theorem lt_of_lt_of_leL {a b c : JVal} (ha : keysOK a = true) (hb : keysOK b = true)
    (hc : keysOK c = true) (h1 : pyCmp a b = .lt) (h2 : leL b c) : pyCmp a c = .lt := by
  rcases h2 with h2 | h2
  · exact pyCmp_lt_trans a ha b c hb hc h1 h2
  · rw [← pyCmp_congr_right ha hb hc (pyEq_of_pyCmp_eq hb h2)]; exact h1

theorem leL_trans {a b c : JVal} (ha : keysOK a = true) (hb : keysOK b = true)
    (hc : keysOK c = true) (h1 : leL a b) (h2 : leL b c) : leL a c := by
  rcases h1 with h1 | h1
  · exact Or.inl (lt_of_lt_of_leL ha hb hc h1 h2)
  · unfold leL
    rw [pyCmp_congr_wf a ha b c (pyEq_of_pyCmp_eq ha h1)]; exact h2

theorem comparableWithAll_iff (l : JVal) : ∀ (rest : List (JVal × JobId)),
    comparableWithAll l rest = true ↔ ∀ q ∈ rest, Orderable l q.1
  | [] => by simp [comparableWithAll]
  | (l', i) :: rest => by
    simp only [comparableWithAll, Bool.and_eq_true, comparableWithAll_iff l rest, List.mem_cons,
      forall_eq_or_imp, Orderable, bne_iff_ne, ne_eq, and_assoc]

theorem allComparable_iff : ∀ (ls : List (JVal × JobId)),
    allComparable ls = true ↔ ls.Pairwise (fun p q => Orderable p.1 q.1)
  | [] => by simp [allComparable]
  | (l, i) :: rest => by
    simp only [allComparable, Bool.and_eq_true, comparableWithAll_iff, allComparable_iff rest,
      List.pairwise_cons]

theorem Orderable.symm {a b : JVal} (h : Orderable a b) : Orderable b a := ⟨h.2, h.1⟩

theorem insertSorted_sorted (x : JVal × JobId) (hx : keysOK x.1 = true) (ys : List (JVal × JobId)) :
    (∀ y ∈ ys, keysOK y.1 = true) → (∀ y ∈ ys, Orderable x.1 y.1) →
    ys.Pairwise (fun p q => leL p.1 q.1) → (insertSorted x ys).Pairwise (fun p q => leL p.1 q.1) := by
  induction ys with
  | nil => intro _ _ _; simp [insertSorted]
  | cons y ys ih =>
    intro hw ho hs
    rw [List.pairwise_cons] at hs
    have hy := hw y List.mem_cons_self
    simp only [insertSorted]
    split
    · rename_i hgt
      have hgt' : pyCmp x.1 y.1 = .gt := by simpa using hgt
      rw [List.pairwise_cons]
      refine ⟨?_, ih (fun z hz => hw z (List.mem_cons_of_mem _ hz))
        (fun z hz => ho z (List.mem_cons_of_mem _ hz)) hs.2⟩
      intro z hz
      rcases List.mem_cons.mp ((insertSorted_perm x ys).mem_iff.mp hz) with e | hz
      · rw [e]; left
        rw [pyCmp_flip x.1 hx y.1 hy, hgt']; rfl
      · exact hs.1 z hz
    · rename_i hgt
      have hgt' : pyCmp x.1 y.1 ≠ .gt := by simpa using hgt
      have hxy : leL x.1 y.1 := by
        have := (ho y List.mem_cons_self).1
        unfold leL
        cases hc : pyCmp x.1 y.1 with
        | lt => exact Or.inl rfl
        | eq => exact Or.inr rfl
        | gt => exact absurd hc hgt'
        | typeError => exact absurd hc this
      rw [List.pairwise_cons]
      refine ⟨?_, List.pairwise_cons.mpr hs⟩
      intro z hz
      rcases List.mem_cons.mp hz with e | hz
      · rw [e]; exact hxy
      · exact leL_trans hx hy (hw z (List.mem_cons_of_mem _ hz)) hxy (hs.1 z hz)

theorem sortLabelled_sorted (ls : List (JVal × JobId)) : (∀ p ∈ ls, keysOK p.1 = true) →
    ls.Pairwise (fun p q => Orderable p.1 q.1) →
    (sortLabelled ls).Pairwise (fun p q => leL p.1 q.1) := by
  induction ls with
  | nil => intro _ _; simp [sortLabelled]
  | cons x xs ih =>
    intro hw ho
    rw [List.pairwise_cons] at ho
    simp only [sortLabelled]
    refine insertSorted_sorted x (hw x List.mem_cons_self) _ ?_ ?_
      (ih (fun p hp => hw p (List.mem_cons_of_mem _ hp)) ho.2)
    · intro y hy
      exact hw y (List.mem_cons_of_mem _ ((sortLabelled_perm xs).mem_iff.mp hy))
    · intro y hy
      exact ho.1 y ((sortLabelled_perm xs).mem_iff.mp hy)

/-- groups opened along a sorted run carry pairwise non-`==` labels; the second conjunct (every
    label is `l` or a label of `rest`) is what the induction carries -/
theorem groupFrom_distinct (rest : List (JVal × JobId)) : ∀ (l : JVal) (acc : List JobId),
    keysOK l = true → (∀ p ∈ rest, keysOK p.1 = true) → (∀ p ∈ rest, leL l p.1) →
    rest.Pairwise (fun p q => leL p.1 q.1) →
    (groupFrom l acc rest).Pairwise (fun g g' => pyEq g.1 g'.1 = false)
      ∧ ∀ g ∈ groupFrom l acc rest, g.1 = l ∨ ∃ p ∈ rest, g.1 = p.1 := by
  induction rest with
  | nil =>
    intro l acc _ _ _ _
    simp only [groupFrom, List.pairwise_cons, List.not_mem_nil, false_implies, implies_true,
      List.Pairwise.nil, and_self, List.mem_singleton, true_and]
    intro g hg; left; rw [hg]
  | cons p rest ih =>
    obtain ⟨l', i⟩ := p
    intro l acc hl hw hle hs
    rw [List.pairwise_cons] at hs
    have hl' := hw (l', i) List.mem_cons_self
    have hw' : ∀ p ∈ rest, keysOK p.1 = true := fun p hp => hw p (List.mem_cons_of_mem _ hp)
    simp only [groupFrom]
    split
    · obtain ⟨h1, h2⟩ := ih l (i :: acc) hl hw' (fun p hp => hle p (List.mem_cons_of_mem _ hp)) hs.2
      refine ⟨h1, ?_⟩
      intro g hg
      rcases h2 g hg with e | ⟨p, hp, e⟩
      · exact Or.inl e
      · exact Or.inr ⟨p, List.mem_cons_of_mem _ hp, e⟩
    · rename_i hne
      have hne' : pyEq l l' = false := by simpa using hne
      obtain ⟨h1, h2⟩ := ih l' [i] hl' hw' hs.1 hs.2
      have hlt : pyCmp l l' = .lt := by
        rcases hle (l', i) List.mem_cons_self with h | h
        · exact h
        · have := pyEq_of_pyCmp_eq hl h
          rw [hne'] at this; cases this
      constructor
      · rw [List.pairwise_cons]
        refine ⟨?_, h1⟩
        intro g hg
        rcases h2 g hg with e | ⟨p, hp, e⟩
        · show pyEq l g.1 = false
          rw [e]; exact hne'
        · show pyEq l g.1 = false
          rw [e]
          exact pyCmp_lt_ne hl (lt_of_lt_of_leL hl hl' (hw' p hp) hlt (hs.1 p hp))
      · intro g hg
        rcases List.mem_cons.mp hg with e | hg
        · left; rw [e]
        · rcases h2 g hg with e | ⟨p, hp, e⟩
          · exact Or.inr ⟨(l', i), List.mem_cons_self, e⟩
          · exact Or.inr ⟨p, List.mem_cons_of_mem _ hp, e⟩

theorem groupAdjacent_distinct : ∀ (ls : List (JVal × JobId)), (∀ p ∈ ls, keysOK p.1 = true) →
    ls.Pairwise (fun p q => leL p.1 q.1) →
    (groupAdjacent ls).Pairwise (fun g g' => pyEq g.1 g'.1 = false)
  | [], _, _ => by simp [groupAdjacent]
  | (l, i) :: rest, hw, hs => by
    rw [List.pairwise_cons] at hs
    simp only [groupAdjacent]
    exact (groupFrom_distinct rest l [i] (hw (l, i) List.mem_cons_self)
      (fun p hp => hw p (List.mem_cons_of_mem _ hp)) hs.1 hs.2).1

theorem keysOK_getPath {nodes : List String} {d w : JVal} :
    keysOK d = true → getPath nodes d = some w → keysOK w = true :=
  getPath_preserves (Q := fun v => keysOK v = true) fun _ n x hf hl => (keysOK_obj.mp hf).2 n x (lookupKV_mem hl)

theorem keysOK_job {j : Job} (h : keysOK (fullDoc j) = true) :
    keysOK j.sp = true ∧ keysOK (j.doc.getD (.obj [])) = true := by
  cases hd : j.doc with
  | none =>
    simp only [fullDoc, indexedDoc, hd] at h
    exact ⟨(keysOK_obj.mp h).2 "sp" j.sp (by simp), rfl⟩
  | some d =>
    simp only [fullDoc, indexedDoc, hd] at h
    exact ⟨(keysOK_obj.mp h).2 "sp" j.sp (by simp), (keysOK_obj.mp h).2 "doc" d (by simp)⟩

theorem keyValue_wf {j : Job} {key : String} {dflt : Option JVal} {v : JVal}
    (hj : keysOK (fullDoc j) = true) (hd : ∀ d, dflt = some d → keysOK d = true)
    (h : keyValue j key dflt = .ok v) : keysOK v = true := by
  unfold keyValue at h
  obtain ⟨h1, h2⟩ := keysOK_job hj
  have hsrc : keysOK (if isDocKey key then j.doc.getD (.obj []) else j.sp) = true := by
    split <;> assumption
  simp only at h
  cases hp : getPath (nodesOf (stripPrefix key)) (if isDocKey key then j.doc.getD (.obj []) else j.sp) with
  | some w =>
    rw [hp] at h
    simp only [Except.ok.injEq] at h
    rw [← h]; exact keysOK_getPath hsrc hp
  | none =>
    rw [hp] at h
    cases dflt with
    | none => cases h
    | some d =>
      simp only [Except.ok.injEq] at h
      rw [← h]; exact hd d rfl

theorem keyValues_wf {j : Job} {dflt : Option JVal}
    (hj : keysOK (fullDoc j) = true) (hd : ∀ d, dflt = some d → keysOK d = true) {ks : List String} :
    ∀ {vs : List JVal}, keyValues j dflt ks = .ok vs → ∀ v ∈ vs, keysOK v = true := by
  induction ks with
  | nil => intro vs h; cases h; nofun
  | cons k ks ih =>
    intro vs h
    simp only [keyValues] at h
    cases hv : keyValue j k dflt with
    | error e => rw [hv] at h; cases h
    | ok v =>
      rw [hv] at h
      cases hr : keyValues j dflt ks with
      | error e => rw [hr] at h; cases h
      | ok r =>
        rw [hr] at h
        cases h
        exact List.forall_mem_cons.mpr ⟨keyValue_wf hj hd hv, ih hr⟩

theorem labelOf_wf {j : Job} {gk : GroupKeys} {dflt : Option JVal} {l : JVal}
    (hj : keysOK (fullDoc j) = true) (hd : ∀ d, dflt = some d → keysOK d = true)
    (h : labelOf j gk dflt = .ok l) : keysOK l = true := by
  cases gk with
  | byId => cases h; rfl
  | single k => exact keyValue_wf (key := k) hj hd h
  | multi ks =>
    simp only [labelOf] at h
    cases hv : keyValues j dflt (ks.filter (fun k => !isDocKey k) ++ ks.filter isDocKey) with
    | error e => rw [hv] at h; cases h
    | ok vs =>
      rw [hv] at h
      cases h
      exact keysOK_arr.mpr (keyValues_wf hj hd hv)

/-- two different groups returned by `groupby` never carry `==` labels, for jobs (and a default)
    whose mappings have distinct keys -/
theorem groupby_distinct {P : Params} {c : Corpus} {flt : JVal} {gk : GroupKeys} {dflt : Option JVal}
    {gs : List (JVal × List JobId)} (hc : Full.CorpusKeysNodup c)
    (hd : ∀ d, dflt = some d → keysOK d = true) (h : groupby P c flt gk dflt = .ok gs) :
    gs.Pairwise (fun g g' => pyEq g.1 g'.1 = false) := by
  obtain ⟨_, ls, _, _, hlab, hcmp, rfl⟩ := groupby_ok h
  have hw : ∀ p ∈ ls, keysOK p.1 = true := by
    intro p hp
    obtain ⟨j, hj, _, hl⟩ := hlab p hp
    exact labelOf_wf (hc j hj) hd hl
  have hw' : ∀ p ∈ sortLabelled ls, keysOK p.1 = true :=
    fun p hp => hw p ((sortLabelled_perm ls).mem_iff.mp hp)
  exact groupAdjacent_distinct _ hw' (sortLabelled_sorted ls hw ((allComparable_iff ls).mp hcmp))

end Signac.Query
