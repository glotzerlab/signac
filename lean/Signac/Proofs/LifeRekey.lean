/- `Job.move` is one rename (`move_rule`); the state-point change satisfies `RekeySpec` under every
   schedule that does not inject ENOENT; the steps of both stay in the two directories. -/
import Signac.Proofs.LifeInit
namespace Signac.Life
variable {Sp : Type}

theorem moveProg_all (a b : Key) {ks : List Key} (ha : a ∈ ks) (hb : b ∈ ks) :
    Prog.All (Within (Sp := Sp) ks) (moveProg a b) :=
  .step' (within_two ha hb) (.done _) fun _ => .ite (.done _) (.ite (.done _) (.ite (.done _) (.done _)))

/-- `Job.move` under any schedule: nothing happened and no normal return, or the one rename -/
theorem move_rule (C : Codec Sp) (ev : Nat → Option Ev) (a b : Key) (acc : Acc Sp) (w : World Sp)
    (Q : Outcome Sp → Prop) (hfail : ∀ r acc', r ≠ .ok → Q ⟨w, r, acc'⟩)
    (hdone : ∀ d, w a = some d → DstFree w b →
      Q ⟨upd (upd w b (some d)) a none, .ok, acc.ok (.renameDir a b)⟩) :
    Q (exec C ev (moveProg a b) acc w) := by
  have hexc : ∀ n acc', Q ⟨w, .exc n, acc'⟩ := fun n acc' => hfail _ acc' Res.noConfusion
  refine exec_step_raise C ev Q _ _ acc w (hfail _ _ Res.noConfusion) (fun _ => hfail _ _ Res.noConfusion) ?_ ?_
  · exact fun e a' => exec_ite C ev Q _ _ a' w (fun _ => hexc _ _) fun _ =>
      exec_ite C ev Q _ _ a' w (fun _ => hexc _ _) fun _ =>
        exec_ite C ev Q _ _ a' w (fun _ => hexc _ _) fun _ => hexc _ _
  · intro w' hw'
    obtain ⟨d, hd, hfree, rfl⟩ := apply_renameDir_ok C hw'
    exact hdone d hd hfree

theorem move_okClean (C : Codec Sp) (ev : Nat → Option Ev) (a b : Key) (acc : Acc Sp) (w : World Sp) :
    OkClean acc (exec C ev (moveProg a b) acc w) :=
  move_rule C ev a b acc w (OkClean acc) (fun _ _ hr => .of_not_ok hr) (fun _ _ _ _ => rfl)

/-- the tail shared by all non-raising paths: drop `y/sp~` (ENOENT is fine), then maybe init -/
def rekeyFinish (C : Codec Sp) (y : Key) (v : Sp) (shouldInit : Bool) : Prog Sp :=
  .step (.rmBak y) fun
    | none => if shouldInit then initProg C y v false else .done .ok
    | some e => if e = .ENOENT then (if shouldInit then initProg C y v false else .done .ok)
                else .done (osExc e)

/-- the rollback after the rename failed with `e`: put the state-point file back and reload it -/
def rekeyRollback (C : Codec Sp) (x y : Key) (v : Sp) (e : Errno) : Prog Sp :=
  .step (.bakToSp x) fun
    | some e2 => if e2 = .ENOENT then rekeyFinish C y v false else .done (osExc e2)
    | none => .look fun w =>
      if !validAt C w x then .done (.exc "JobsCorruptedError")
      else if e = .EEXIST ∨ e = .ENOTEMPTY ∨ e = .EACCES then .done (.exc "DestinationExistsError")
      else if e = .ENOENT then rekeyFinish C y v false
      else .done (osExc e)

theorem rekeyProg_eq (C : Codec Sp) (x y : Key) (v : Sp) :
    rekeyProg C x y v = .step (.spToBak x) fun
      | some e => if e = .ENOENT then rekeyFinish C y v false else .done (osExc e)
      | none => .step (.renameDir x y) fun
        | none => rekeyFinish C y v true
        | some e => rekeyRollback C x y v e := rfl

theorem rekeyProg_all (C : Codec Sp) (x y : Key) (v : Sp) {ks : List Key} (hx : x ∈ ks) (hy : y ∈ ks) :
    Prog.All (Within ks) (rekeyProg C x y v) := by
  have hfin : ∀ b, Prog.All (Within ks) (rekeyFinish C y v b) := fun b =>
    have hi : Prog.All (Within ks) (if b then initProg C y v false else .done .ok) :=
      .ite (initProg_all C y v false hy) (.done _)
    .step' (within_one hy) hi fun _ => .ite hi (.done _)
  rw [rekeyProg_eq]
  exact .step' (within_one hx)
    (.step' (within_two hx hy) (hfin true) fun _ =>
      .step' (within_one hx)
        (.look _ fun _ => .ite (.done _) (.ite (.done _) (.ite (hfin false) (.done _))))
        fun _ => .ite (hfin false) (.done _))
    fun _ => .ite (hfin false) (.done _)

section rekey
variable (C : Codec Sp) (ev : Nat → Option Ev) (x y : Key) (v : Sp) (w : World Sp) (D : JobDir Sp)

/-- (A) with any result but a normal return -/
theorem rekeySpec_A (w' : World Sp) (r : Res) (acc : Acc Sp) (d : JobDir Sp)
    (hx : w' x = some d) (he : d.entries = D.entries) (hy : w' y = w y) (hsp : d.sp = D.sp ∨ d.sp = none)
    (hr : r ≠ .ok) : RekeySpec C x y v w D ⟨w', r, acc⟩ := by
  refine ⟨Or.inl ⟨d, hx, he, hy, hsp⟩, fun h => absurd h hr, fun n _ => ?_⟩
  rcases hsp with hsp | hsp
  · exact Or.inl ⟨d, hx, he, hsp, hy⟩
  · exact Or.inr (Or.inl (corrupt_of_sp_none C w' x d hx hsp))

/-- (B) without a state-point file, with any result but a normal return -/
theorem rekeySpec_B (w' : World Sp) (r : Res) (acc : Acc Sp) (d : JobDir Sp)
    (hx : w' x = none) (hf : DstFree w y) (hy : w' y = some d) (he : d.entries = D.entries) (hsp : d.sp = none)
    (hr : r ≠ .ok) : RekeySpec C x y v w D ⟨w', r, acc⟩ :=
  ⟨Or.inr ⟨hx, hf, d, hy, he, fun hv => by rw [not_valid_of_sp_none C w' y d hy hsp] at hv; cases hv⟩,
   fun h => absurd h hr,
   fun _ _ => Or.inr (Or.inr (corrupt_of_sp_none C w' y d hy hsp))⟩

theorem rekey_rollback (hxy : x ≠ y) (hne : NoENOENT ev) (c : Content Sp) (hsp : D.sp = some c)
    (e : Errno) (hee : e ≠ .ENOENT) (acc : Acc Sp) :
    RekeySpec C x y v w D (exec C ev (rekeyRollback C x y v e) acc
      (upd w x (some { D with sp := none, bak := some c }))) := by
  have hy : ∀ d, upd w x (some d) y = w y := fun d => upd_other _ _ (Ne.symm hxy)
  have hA1 : ∀ acc r, r ≠ Res.ok →
      RekeySpec C x y v w D ⟨upd w x (some { D with sp := none, bak := some c }), r, acc⟩ :=
    fun acc r hr => rekeySpec_A C x y v w D _ r acc _ (upd_same ..) rfl (hy _) (Or.inr rfl) hr
  refine exec_step_ok C ev _ (apply_bakToSp C (upd_same ..) rfl) (hA1 _ _ Res.noConfusion)
    (fun _ => hA1 _ _ Res.noConfusion) ?_ ?_
  · intro e2 he2
    exact exec_ite C ev _ _ _ _ _ (fun h => absurd h (hne.ne_of_fault he2)) fun _ => hA1 _ _ Res.noConfusion
  · rw [upd_upd_same, exec]
    have hA2 : ∀ acc n, RekeySpec C x y v w D
        ⟨upd w x (some { D with sp := some c, bak := none }), .exc n, acc⟩ :=
      fun acc n => rekeySpec_A C x y v w D _ _ acc _ (upd_same ..) rfl (hy _) (Or.inl hsp.symm) Res.noConfusion
    exact exec_ite C ev _ _ _ _ _ (fun _ => hA2 _ _) fun _ => exec_ite C ev _ _ _ _ _ (fun _ => hA2 _ _)
      fun _ => exec_ite C ev _ _ _ _ _ (fun h => absurd h hee) fun _ => hA2 _ _

theorem rekey_spec (hxy : x ≠ y) (hne : NoENOENT ev) (hD : w x = some D) (c : Content Sp) (hsp : D.sp = some c) :
    RekeySpec C x y v w D (run C ev (rekeyProg C x y v) w) := by
  have hA0 : ∀ acc r, r ≠ Res.ok → RekeySpec C x y v w D ⟨w, r, acc⟩ :=
    fun acc r hr => rekeySpec_A C x y v w D w r acc D hD rfl rfl (Or.inl rfl) hr
  rw [run, rekeyProg_eq]
  -- step 0: park the state-point file
  refine exec_step_ok C ev _ (apply_spToBak C hD hsp) (hA0 _ _ Res.noConfusion) (fun _ => hA0 _ _ Res.noConfusion)
    (fun e he => exec_ite C ev _ _ _ _ _ (fun h => absurd h (hne.ne_of_fault he)) fun _ => hA0 _ _ Res.noConfusion) ?_
  have hx1 : upd w x (some { D with sp := none, bak := some c }) x = some _ := upd_same ..
  have hy1 : upd w x (some { D with sp := none, bak := some c }) y = w y := upd_other _ _ (Ne.symm hxy)
  have hA1 : ∀ acc r, r ≠ Res.ok → RekeySpec C x y v w D ⟨_, r, acc⟩ :=
    fun acc r hr => rekeySpec_A C x y v w D _ r acc _ hx1 rfl hy1 (Or.inr rfl) hr
  -- step 1: rename the directory
  refine exec_step C ev _ _ _ _ _ (hA1 _ _ Res.noConfusion) (fun _ => hA1 _ _ Res.noConfusion)
    (fun e he => rekey_rollback C ev x y v w D hxy hne c hsp e (hne.ne_of_fault he) _) ?_
    (fun e he => rekey_rollback C ev x y v w D hxy hne c hsp e
      (apply_renameDir_err C hx1 he ▸ Errno.noConfusion) _)
  intro w2 hw2
  -- the rename happened: `y` was free
  obtain ⟨d1, hd1, hfree, rfl⟩ := apply_renameDir_ok C hw2
  cases hx1.symm.trans hd1
  have hfree : DstFree w y := by rwa [DstFree, hy1] at hfree
  have hy2 : ∀ (wz : World Sp) (d : JobDir Sp), upd (upd wz y (some d)) x none y = some d :=
    fun _ _ => (upd_other _ _ (Ne.symm hxy)).trans (upd_same ..)
  have hB2 : ∀ acc r, r ≠ Res.ok → RekeySpec C x y v w D
      ⟨upd (upd (upd w x (some { D with sp := none, bak := some c })) y
        (some { D with sp := none, bak := some c })) x none, r, acc⟩ :=
    fun acc r hr => rekeySpec_B C x y v w D _ r acc _ (upd_same ..) hfree (hy2 _ _) rfl rfl hr
  -- step 2: drop the backup in the new directory
  refine exec_step_ok C ev _ (apply_rmBak C (hy2 _ _) rfl) (hB2 _ _ Res.noConfusion)
    (fun _ => hB2 _ _ Res.noConfusion)
    (fun e he => exec_ite C ev _ _ _ _ _ (fun h => absurd h (hne.ne_of_fault he)) fun _ => hB2 _ _ Res.noConfusion) ?_
  simp only [if_true]
  -- init of the new directory
  generalize hw3 : upd (upd (upd (upd w x _) y _) x none) y (some { D with sp := none, bak := none }) = w3
  have h3y : w3 y = some { D with sp := none, bak := none } := hw3 ▸ upd_same ..
  have h3x : w3 x = none := by rw [← hw3, upd_other _ _ hxy, upd_same]
  generalize hacc : (((({} : Acc Sp).ok (Step.spToBak x)).ok (Step.renameDir x y)).ok (Step.rmBak y)) = a3
  have hI := init_spec C y v w3 ev a3
  have hfr := exec_frame C ev [y] (initProg_all C y v false (List.mem_singleton.mpr rfl)) w3 a3
    (k := x) (fun h => hxy (List.mem_singleton.mp h))
  generalize exec C ev (initProg C y v false) a3 w3 = o at hI hfr ⊢
  obtain ⟨h1, h2, h3, h4⟩ := hI
  rw [h3y] at h1 h2 h4
  rw [h3x] at hfr
  obtain ⟨d', hd', hent, _⟩ := h1
  have hnf : validAt C o.w y = true → d'.sp = some (.ok v) := by
    intro hv
    rcases h2 hv with h | ⟨_, d'', hd'', hs''⟩
    · rw [not_valid_of_sp_none C o.w y _ h rfl] at hv; cases hv
    · cases hd'.symm.trans hd''; exact hs''
  refine ⟨Or.inr ⟨hfr, hfree, d', hd', hent, hnf⟩, ?_, ?_⟩
  · intro hr
    obtain ⟨hv, hf⟩ := h3 hr
    exact ⟨hf.trans (hacc ▸ rfl), hfr, d', hd', hent, hnf hv, hv⟩
  · intro n hn
    rcases h4 n hn with h | h
    · exact Or.inr (Or.inr (corrupt_of_sp_none C o.w y _ h rfl))
    · exact Or.inr (Or.inr h)

/-- state-point change of a job without state-point file (read as "not initialised"): the
    only steps are the failing `sp → sp~` and the removal of `y/sp~`; a normal return consumed no
    fault -/
theorem rekey_uninit_okClean (hne : NoENOENT ev) (happ : apply C w (.spToBak x) = .error .ENOENT) :
    OkClean {} (run C ev (rekeyProg C x y v) w) := by
  rw [run, rekeyProg_eq]
  refine .step C ev (fun e he => raises_of_ne_ENOENT C ev _ _ _ (hne.ne_of_fault he)) (fun _ h => nomatch happ.symm.trans h) fun e he => ?_
  cases happ.symm.trans he
  refine exec_ite C ev (OkClean {}) _ _ _ _ (fun _ => ?_) (fun h => absurd rfl h)
  exact .step C ev (fun e he => raises_of_ne_ENOENT C ev _ _ _ (hne.ne_of_fault he)) (fun _ _ _ => rfl)
    (fun e _ => exec_ite C ev (OkClean {}) _ _ _ _ (fun _ _ => rfl) fun _ => .of_not_ok Res.noConfusion)

theorem rekey_okClean (hxy : x ≠ y) (hne : NoENOENT ev) : OkClean {} (run C ev (rekeyProg C x y v) w) := by
  cases hD : w x with
  | none => exact rekey_uninit_okClean C ev x y v w hne (by simp only [apply, hD])
  | some D =>
    cases hs : D.sp with
    | none => exact rekey_uninit_okClean C ev x y v w hne (by simp only [apply, hD, hs])
    | some c => exact fun hok => ((rekey_spec C ev x y v w D hxy hne hD c hs).2.1 hok).1
end rekey

end Signac.Life
