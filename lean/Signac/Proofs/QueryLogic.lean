/-
  Helper lemmas for C06, layer 2: the set algebra of `_find_result` (intersection of atom
  results, complement for `$not`, `$and`, `$or`, early exits) computes exactly the jobs the
  structural evaluator `evalRef` accepts — given that every atom's index lookup is exact
  (`AtomGood`, proved in Proofs/QueryMain.lean).
-/
import Signac.Proofs.QueryDoc
namespace Signac.Query
open Signac

/-! Core Lean cannot decide equations between `Except` values; the closed examples of C06 and C07
    (`decide +kernel` on `findFlt … = .ok […]`, `∃ b, evalRef … = .ok b`) need these two. -/

instance {ε α : Type} [DecidableEq ε] [DecidableEq α] : DecidableEq (Except ε α)
  | .ok a, .ok b => if h : a = b then isTrue (h ▸ rfl) else isFalse (fun e => h (Except.ok.inj e))
  | .error a, .error b => if h : a = b then isTrue (h ▸ rfl) else isFalse (fun e => h (Except.error.inj e))
  | .ok _, .error _ => isFalse nofun
  | .error _, .ok _ => isFalse nofun

instance {ε α : Type} (x : Except ε α) : Decidable (∃ b, x = .ok b) :=
  match x with
  | .ok b => isTrue ⟨b, rfl⟩
  | .error _ => isFalse nofun

/-- `r` holds exactly the ids of the documents satisfying `p` -/
def Sel (docs : List (JobId × JVal)) (p : JVal → Prop) (r : List JobId) : Prop :=
  ∀ i, i ∈ r ↔ ∃ d, (i, d) ∈ docs ∧ p d

theorem mem_allIds {docs : List (JobId × JVal)} {i : JobId} :
    i ∈ allIds docs ↔ ∃ d, (i, d) ∈ docs := by
  simp only [allIds, List.mem_map]
  constructor
  · rintro ⟨⟨j, d⟩, h, rfl⟩; exact ⟨d, h⟩
  · rintro ⟨d, h⟩; exact ⟨(i, d), h, rfl⟩

theorem mem_interIds {a b : List JobId} {i : JobId} : i ∈ interIds a b ↔ i ∈ a ∧ i ∈ b := by
  simp [interIds, List.mem_filter]

theorem mem_diffIds {a b : List JobId} {i : JobId} : i ∈ diffIds a b ↔ i ∈ a ∧ i ∉ b := by
  simp [diffIds, List.mem_filter]

theorem sel_all (docs : List (JobId × JVal)) : Sel docs (fun _ => True) (allIds docs) := by
  intro i; rw [mem_allIds]; simp

theorem Sel.congr {docs : List (JobId × JVal)} {p q : JVal → Prop} {r : List JobId}
    (h : Sel docs p r) (hpq : ∀ i d, (i, d) ∈ docs → (p d ↔ q d)) : Sel docs q r := fun i =>
  (h i).trans ⟨fun ⟨d, hd, hp⟩ => ⟨d, hd, (hpq i d hd).mp hp⟩, fun ⟨d, hd, hq⟩ => ⟨d, hd, (hpq i d hd).mpr hq⟩⟩

theorem Sel.append {docs : List (JobId × JVal)} {p q : JVal → Prop} {m r : List JobId}
    (h1 : Sel docs p m) (h2 : Sel docs q r) : Sel docs (fun d => p d ∨ q d) (m ++ r) := by
  intro i
  rw [List.mem_append, h1 i, h2 i]
  constructor
  · rintro (⟨d, hd, h⟩ | ⟨d, hd, h⟩)
    · exact ⟨d, hd, Or.inl h⟩
    · exact ⟨d, hd, Or.inr h⟩
  · rintro ⟨d, hd, h | h⟩
    · exact Or.inl ⟨d, hd, h⟩
    · exact Or.inr ⟨d, hd, h⟩

def UniqueIds (docs : List (JobId × JVal)) : Prop :=
  ∀ i d d', (i, d) ∈ docs → (i, d') ∈ docs → d = d'

theorem Sel.compl {docs : List (JobId × JVal)} (hu : UniqueIds docs) {p : JVal → Prop} {m : List JobId}
    (h : Sel docs p m) : Sel docs (fun d => ¬ p d) (diffIds (allIds docs) m) := by
  intro i
  rw [mem_diffIds, mem_allIds, h i]
  constructor
  · rintro ⟨⟨d, hd⟩, hn⟩
    exact ⟨d, hd, fun hp => hn ⟨d, hd, hp⟩⟩
  · rintro ⟨d, hd, hn⟩
    refine ⟨⟨d, hd⟩, ?_⟩
    rintro ⟨d', hd', hp⟩
    rw [hu i d d' hd hd'] at hn
    exact hn hp

/-- what the accumulator `result_ids` of `_find_result` stands for: `none` = nothing reduced yet -/
def AccInv (docs : List (JobId × JVal)) (acc : Option (List JobId)) (q : JVal → Prop) : Prop :=
  match acc with
  | none => ∀ d, q d
  | some r => Sel docs q r

theorem stepE_spec {docs : List (JobId × JVal)} (hu : UniqueIds docs)
    {acc : Option (List JobId)} {q p : JVal → Prop} {r : Except Err (List JobId)}
    (hacc : AccInv docs acc q) (hr : ∃ m, r = .ok m ∧ Sel docs p m) :
    ∃ r', stepE acc r = .ok (some r') ∧ Sel docs (fun d => q d ∧ p d) r' := by
  obtain ⟨m, rfl, hm⟩ := hr
  cases acc with
  | none =>
    exact ⟨m, rfl, hm.congr fun _ d _ => ⟨fun hp => ⟨hacc d, hp⟩, fun h => h.2⟩⟩
  | some l =>
    cases l with
    | nil =>
      refine ⟨[], rfl, ?_⟩
      intro i
      constructor
      · intro h; cases h
      · rintro ⟨d, hd, hq, _⟩
        exact (hacc i).mpr ⟨d, hd, hq⟩
    | cons x xs =>
      refine ⟨interIds (x :: xs) m, rfl, ?_⟩
      intro i
      rw [mem_interIds, hacc i, hm i]
      constructor
      · rintro ⟨⟨d, hd, hq⟩, ⟨d', hd', hp⟩⟩
        have : d = d' := hu i d d' hd hd'
        subst this
        exact ⟨d, hd, hq, hp⟩
      · rintro ⟨d, hd, hq, hp⟩
        exact ⟨⟨d, hd, hq⟩, ⟨d, hd, hp⟩⟩

theorem accInv_congr {docs : List (JobId × JVal)} {acc : Option (List JobId)} {q q' : JVal → Prop}
    (h : ∀ d, q d ↔ q' d) (hacc : AccInv docs acc q) : AccInv docs acc q' := by
  cases acc with
  | none => intro d; exact (h d).mp (hacc d)
  | some r => exact Sel.congr hacc fun _ d _ => h d

/-- the index lookup for one flattened atom is exact -/
def AtomGood (P : Params) (docs : List (JobId × JVal)) (k : String) (v : JVal) : Prop :=
  ∃ m, findExpression P docs k v = .ok m ∧ Sel docs (fun d => evalAtom P d k v = .ok true) m

/-! ### strict folds

`evalAtoms`, `evalAll` and `evalAny` combine the verdicts of the elements of a list and raise as
soon as one element does; what they have in common is proved once, for any `F` with that
equation. -/

section strict
variable {α : Type} {g : α → Except Err Bool} {F : List α → Except Err Bool} {op : Bool → Bool → Bool}
  (hcons : ∀ x xs, F (x :: xs) = (match g x with
      | .error e => .error e
      | .ok b => match F xs with
        | .error e => .error e
        | .ok r => .ok (op b r)))
include hcons

theorem strict_ok_mem {l : List α} : ∀ {b : Bool}, F l = .ok b → ∀ x ∈ l, ∃ b', g x = .ok b' := by
  induction l with
  | nil => intro _ _ x hx; cases hx
  | cons y ys ih =>
    intro b he x hx
    rw [hcons] at he
    cases h1 : g y with
    | error e => rw [h1] at he; cases he
    | ok b1 =>
      rw [h1] at he
      cases h2 : F ys with
      | error e => rw [h2] at he; cases he
      | ok b2 =>
        rcases List.mem_cons.mp hx with rfl | hx
        · exact ⟨b1, h1⟩
        · exact ih h2 x hx

theorem strict_and_true (hop : op = and) (hnil : F [] = .ok true) {l : List α} :
    F l = .ok true ↔ ∀ x ∈ l, g x = .ok true := by
  subst hop
  induction l with
  | nil => simp [hnil]
  | cons y ys ih =>
    rw [hcons, List.forall_mem_cons, ← ih]
    cases g y with
    | error e => simp
    | ok b1 =>
      cases F ys with
      | error e => simp
      | ok b2 => simp

end strict

theorem evalAtoms_cons (P : Params) (d : JVal) (kv : String × JVal) (rest : List (String × JVal)) :
    evalAtoms P d (kv :: rest) = (match evalAtom P d kv.1 kv.2 with
      | .error e => .error e
      | .ok b => match evalAtoms P d rest with
        | .error e => .error e
        | .ok r => .ok (b && r)) := by
  obtain ⟨k, v⟩ := kv
  simp only [evalAtoms]
  cases evalAtom P d k v with
  | error e => rfl
  | ok b => cases evalAtoms P d rest <;> rfl

theorem evalAtoms_true {P : Params} {d : JVal} {l : List (String × JVal)} :
    evalAtoms P d l = .ok true ↔ ∀ kv ∈ l, evalAtom P d kv.1 kv.2 = .ok true :=
  strict_and_true (evalAtoms_cons P d) rfl rfl

theorem evalAtoms_ok_mem {P : Params} {d : JVal} {l : List (String × JVal)} {b : Bool} :
    evalAtoms P d l = .ok b → ∀ kv ∈ l, ∃ b', evalAtom P d kv.1 kv.2 = .ok b' :=
  strict_ok_mem (evalAtoms_cons P d)

/-- The third conjunct (shared by the `find*_spec` lemmas below) records that a step returns the
    accumulator unreduced only if it had nothing to do: it is what makes `.ok none` at the end of
    a non-empty filter unreachable in `findResult_spec`. -/
theorem findAtoms_spec {P : Params} {docs : List (JobId × JVal)} (hu : UniqueIds docs)
    (l : List (String × JVal)) :
    ∀ (acc : Option (List JobId)) (q : JVal → Prop),
      (∀ kv ∈ l, AtomGood P docs kv.1 kv.2) → AccInv docs acc q →
      ∃ acc', findAtoms P docs acc l = .ok acc'
        ∧ AccInv docs acc' (fun d => q d ∧ ∀ kv ∈ l, evalAtom P d kv.1 kv.2 = .ok true)
        ∧ (acc' = none → acc = none ∧ l = []) := by
  induction l with
  | nil =>
    intro acc q _ hacc
    refine ⟨acc, rfl, ?_, fun h => ⟨h, rfl⟩⟩
    exact accInv_congr (fun d => ⟨fun hq => ⟨hq, by simp⟩, fun h => h.1⟩) hacc
  | cons kv rest ih =>
    intro acc q hg hacc
    obtain ⟨k, v⟩ := kv
    have hkv : AtomGood P docs k v := hg (k, v) (by simp)
    obtain ⟨m, hm, hsel⟩ := hkv
    obtain ⟨r', hstep, hsel'⟩ := stepE_spec hu (r := findExpression P docs k v) hacc ⟨m, hm, hsel⟩
    have hrest : ∀ kv ∈ rest, AtomGood P docs kv.1 kv.2 := fun kv h => hg kv (by simp [h])
    obtain ⟨acc', h1, h2, h3⟩ := ih (some r') _ hrest hsel'
    refine ⟨acc', ?_, ?_, ?_⟩
    · simp only [findAtoms, hstep, h1]
    · cases acc' with
      | none => exact absurd (h3 rfl).1 (by simp)
      | some r2 =>
        intro i; rw [h2 i]
        constructor
        · rintro ⟨d, hd, ⟨hq, hp⟩, hall⟩
          refine ⟨d, hd, hq, ?_⟩
          intro kv hkv
          rcases List.mem_cons.mp hkv with rfl | h
          · exact hp
          · exact hall kv h
        · rintro ⟨d, hd, hq, hall⟩
          exact ⟨d, hd, ⟨hq, hall (k, v) (by simp)⟩, fun kv h => hall kv (by simp [h])⟩
    · intro h; exact absurd (h3 h).1 (by simp)

/-- the filter is well-typed on the corpus: direct evaluation raises for no job
    (`WTon` of QueryMain with the documents of the corpus as domain) -/
def WT (P : Params) (docs : List (JobId × JVal)) (f : Flt) : Prop :=
  ∀ i d, (i, d) ∈ docs → ∃ b, evalRef P d f = .ok b

mutual
  /-- every atom lookup anywhere in the filter is exact, logical operators have operands, and
      every sub-filter is well-typed (`WT` of the operands, not of the filter itself: `evalAny` is
      strict while `findOr` unites whatever its operands return, and `$not` complements) -/
  def Good (P : Params) (docs : List (JobId × JVal)) : Flt → Prop
    | .mk atoms n a o =>
      (∀ kv ∈ flatten atoms, AtomGood P docs kv.1 kv.2) ∧ GoodOpt P docs n
        ∧ GoodOptList P docs a ∧ GoodOptList P docs o
  def GoodOpt (P : Params) (docs : List (JobId × JVal)) : Option Flt → Prop
    | none => True
    | some f => WT P docs f ∧ Good P docs f
  def GoodOptList (P : Params) (docs : List (JobId × JVal)) : Option (List Flt) → Prop
    | none => True
    | some fs => fs ≠ [] ∧ GoodList P docs fs
  def GoodList (P : Params) (docs : List (JobId × JVal)) : List Flt → Prop
    | [] => True
    | f :: fs => WT P docs f ∧ Good P docs f ∧ GoodList P docs fs
end

theorem evalNot_true {P : Params} {d : JVal} {f : Flt} :
    evalNot P d (some f) = .ok true ↔ evalRef P d f = .ok false := by
  simp only [evalNot]
  cases evalRef P d f with
  | error e => simp
  | ok b => cases b <;> simp

theorem evalAll_true {P : Params} {d : JVal} {fs : List Flt} :
    evalAll P d fs = .ok true ↔ ∀ f ∈ fs, evalRef P d f = .ok true :=
  strict_and_true (g := evalRef P d) (F := evalAll P d) (fun _ _ => rfl) rfl rfl

theorem evalAll_ok_mem {P : Params} {d : JVal} {l : List Flt} {b : Bool} :
    evalAll P d l = .ok b → ∀ f ∈ l, ∃ b', evalRef P d f = .ok b' :=
  strict_ok_mem (g := evalRef P d) (F := evalAll P d) (fun _ _ => rfl)

theorem evalAny_ok_mem {P : Params} {d : JVal} {l : List Flt} {b : Bool} :
    evalAny P d l = .ok b → ∀ f ∈ l, ∃ b', evalRef P d f = .ok b' :=
  strict_ok_mem (g := evalRef P d) (F := evalAny P d) (fun _ _ => rfl)

/-- `evalAny` is strict: it is `ok` only if every operand is, and then it is their disjunction -/
theorem evalAny_ok {P : Params} {d : JVal} {fs : List Flt} {b : Bool} (h : evalAny P d fs = .ok b) :
    (b = true ↔ ∃ f ∈ fs, evalRef P d f = .ok true) := by
  induction fs generalizing b with
  | nil =>
    simp only [evalAny, Except.ok.injEq] at h
    subst h; simp
  | cons f rest ih =>
    simp only [evalAny] at h
    cases h1 : evalRef P d f with
    | error e => rw [h1] at h; cases h
    | ok b1 =>
      rw [h1] at h
      cases h2 : evalAny P d rest with
      | error e => rw [h2] at h; cases h
      | ok r =>
        rw [h2] at h
        simp only [Except.ok.injEq] at h
        subst h
        have := ih h2
        simp only [Bool.or_eq_true, List.mem_cons, exists_eq_or_imp]
        rw [this, h1]
        simp

theorem evalAny_cons_true {P : Params} {d : JVal} {f : Flt} {fs : List Flt}
    (h1 : ∃ b, evalRef P d f = .ok b) (h2 : ∃ b, evalAny P d fs = .ok b) :
    evalAny P d (f :: fs) = .ok true ↔ (evalRef P d f = .ok true ∨ evalAny P d fs = .ok true) := by
  obtain ⟨b1, e1⟩ := h1
  obtain ⟨b2, e2⟩ := h2
  simp only [evalAny, e1, e2]
  cases b1 <;> cases b2 <;> simp

theorem evalAllOpt_cons {P : Params} {d : JVal} {f : Flt} {fs : List Flt} :
    evalAllOpt P d (some (f :: fs)) = evalAll P d (f :: fs) := rfl

theorem evalAnyOpt_cons {P : Params} {d : JVal} {f : Flt} {fs : List Flt} :
    evalAnyOpt P d (some (f :: fs)) = evalAny P d (f :: fs) := rfl

theorem evalRef_true {P : Params} {d : JVal} {atoms : List (String × JVal)} {n : Option Flt}
    {a o : Option (List Flt)}
    (hne : (atoms.isEmpty && n.isNone && a.isNone && o.isNone) = false) :
    evalRef P d (.mk atoms n a o) = .ok true ↔
      (evalAtoms P d (flatten atoms) = .ok true ∧ evalNot P d n = .ok true
        ∧ evalAllOpt P d a = .ok true ∧ evalAnyOpt P d o = .ok true) := by
  simp only [evalRef, hne, Bool.false_eq_true, if_false]
  cases evalAtoms P d (flatten atoms) with
  | error e => simp
  | ok b1 =>
    cases evalNot P d n with
    | error e => simp
    | ok b2 =>
      cases evalAllOpt P d a with
      | error e => simp
      | ok b3 =>
        cases evalAnyOpt P d o with
        | error e => simp
        | ok b4 => simp [Bool.and_eq_true, and_assoc]

theorem evalRef_ok_parts {P : Params} {d : JVal} {atoms : List (String × JVal)} {n : Option Flt}
    {a o : Option (List Flt)} {b : Bool}
    (hne : (atoms.isEmpty && n.isNone && a.isNone && o.isNone) = false)
    (h : evalRef P d (.mk atoms n a o) = .ok b) :
    (∃ b1, evalAtoms P d (flatten atoms) = .ok b1) ∧ (∃ b2, evalNot P d n = .ok b2)
      ∧ (∃ b3, evalAllOpt P d a = .ok b3) ∧ (∃ b4, evalAnyOpt P d o = .ok b4) := by
  simp only [evalRef, hne, Bool.false_eq_true, if_false] at h
  cases h1 : evalAtoms P d (flatten atoms) with
  | error e => rw [h1] at h; cases h
  | ok b1 =>
    rw [h1] at h
    cases h2 : evalNot P d n with
    | error e => rw [h2] at h; cases h
    | ok b2 =>
      rw [h2] at h
      cases h3 : evalAllOpt P d a with
      | error e => rw [h3] at h; cases h
      | ok b3 =>
        rw [h3] at h
        cases h4 : evalAnyOpt P d o with
        | error e => rw [h4] at h; cases h
        | ok b4 => exact ⟨⟨b1, rfl⟩, ⟨b2, rfl⟩, ⟨b3, rfl⟩, ⟨b4, rfl⟩⟩

theorem sel_complement {P : Params} {docs : List (JobId × JVal)} (hu : UniqueIds docs) {f : Flt}
    (hwt : WT P docs f) {m : List JobId} (hm : Sel docs (fun d => evalRef P d f = .ok true) m) :
    Sel docs (fun d => evalNot P d (some f) = .ok true) (diffIds (allIds docs) m) := by
  refine (hm.compl hu).congr fun i d hd => ?_
  rw [evalNot_true]
  obtain ⟨b, hb⟩ := hwt i d hd
  rw [hb]
  cases b <;> decide

theorem goodList_evalAny_ok {P : Params} {docs : List (JobId × JVal)} :
    ∀ {fs : List Flt}, GoodList P docs fs → ∀ i d, (i, d) ∈ docs → ∃ b, evalAny P d fs = .ok b
  | [], _, _, _, _ => ⟨false, rfl⟩
  | f :: fs, hg, i, d, hd => by
    obtain ⟨b1, h1⟩ := hg.1 i d hd
    obtain ⟨b2, h2⟩ := goodList_evalAny_ok hg.2.2 i d hd
    exact ⟨b1 || b2, by simp only [evalAny, h1, h2]⟩

/-- early exit: `findAnd` on an empty accumulator returns it unchanged -/
theorem findAnd_exit (P : Params) (docs : List (JobId × JVal)) (fs : List Flt) :
    findAnd P docs (some []) fs = .ok (some []) := by
  induction fs with
  | nil => rfl
  | cons g gs ih => simp only [findAnd, stepE, ih]

theorem findAndOpt_cons (P : Params) (docs : List (JobId × JVal)) (acc : Option (List JobId))
    (f : Flt) (fs : List Flt) : findAndOpt P docs acc (some (f :: fs)) = findAnd P docs acc (f :: fs) := by
  rcases acc with _ | _ | _
  · rfl
  · exact (findAnd_exit P docs _).symm
  · rfl

theorem findOrOpt_cons (P : Params) (docs : List (JobId × JVal)) (acc : Option (List JobId))
    (f : Flt) (fs : List Flt) :
    findOrOpt P docs acc (some (f :: fs)) = stepE acc (findOr P docs (f :: fs)) := by
  rcases acc with _ | _ | _ <;> rfl

mutual
  theorem findResult_spec {P : Params} {docs : List (JobId × JVal)} (hu : UniqueIds docs) :
      ∀ f : Flt, Good P docs f →
        ∃ r, findResult P docs f = .ok r ∧ Sel docs (fun d => evalRef P d f = .ok true) r
    | .mk atoms n a o, hg => by
      obtain ⟨hat, hn, ha, ho⟩ := hg
      cases hne : (atoms.isEmpty && n.isNone && a.isNone && o.isNone) with
      | true =>
        exact ⟨allIds docs, by simp only [findResult, hne, if_true],
          (sel_all docs).congr fun _ _ _ => by simp only [evalRef, hne, if_true]⟩
      | false =>
        obtain ⟨acc1, e1, i1, z1⟩ := findAtoms_spec hu (flatten atoms) none (fun _ => True) hat (fun _ => trivial)
        obtain ⟨acc2, e2, i2, z2⟩ := findNot_spec hu n acc1 _ hn i1
        obtain ⟨acc3, e3, i3, z3⟩ := findAndOpt_spec hu a acc2 _ ha i2
        obtain ⟨acc4, e4, i4, z4⟩ := findOrOpt_spec hu o acc3 _ ho i3
        cases acc4 with
        | none =>
          exfalso
          obtain ⟨h3, ho'⟩ := z4 rfl
          obtain ⟨h2, ha'⟩ := z3 h3
          obtain ⟨h1, hn'⟩ := z2 h2
          obtain ⟨_, hat'⟩ := z1 h1
          subst ho' ha' hn'
          have : atoms = [] := by
            cases atoms with
            | nil => rfl
            | cons kv rest => exact absurd hat' (flatten_cons_ne_nil kv rest)
          subst this
          simp at hne
        | some r =>
          refine ⟨r, by simp only [findResult, hne, Bool.false_eq_true, if_false, e1, e2, e3, e4],
            Sel.congr i4 fun _ d _ => ?_⟩
          rw [evalRef_true hne, evalAtoms_true]
          exact ⟨fun h => ⟨h.1.1.1.2, h.1.1.2, h.1.2, h.2⟩,
            fun h => ⟨⟨⟨⟨trivial, h.1⟩, h.2.1⟩, h.2.2.1⟩, h.2.2.2⟩⟩
  theorem findNot_spec {P : Params} {docs : List (JobId × JVal)} (hu : UniqueIds docs) :
      ∀ (n : Option Flt) (acc : Option (List JobId)) (q : JVal → Prop),
        GoodOpt P docs n → AccInv docs acc q →
        ∃ acc', findNot P docs acc n = .ok acc'
          ∧ AccInv docs acc' (fun d => q d ∧ evalNot P d n = .ok true)
          ∧ (acc' = none → acc = none ∧ n = none)
    | none, acc, q, _, hacc =>
      ⟨acc, rfl, accInv_congr (fun _ => ⟨fun h => ⟨h, rfl⟩, And.left⟩) hacc, fun h => ⟨h, rfl⟩⟩
    | some f, acc, q, hg, hacc => by
      obtain ⟨hwt, hgf⟩ := hg
      obtain ⟨m, hm, hsel⟩ := findResult_spec hu f hgf
      have hc : complementE (allIds docs) (findResult P docs f) = .ok (diffIds (allIds docs) m) := by
        rw [hm]; rfl
      obtain ⟨r', hstep, hsel'⟩ := stepE_spec hu (r := complementE (allIds docs) (findResult P docs f))
        hacc ⟨_, hc, sel_complement hu hwt hsel⟩
      exact ⟨some r', by simp only [findNot, hstep], hsel', fun h => by cases h⟩
  theorem findAndOpt_spec {P : Params} {docs : List (JobId × JVal)} (hu : UniqueIds docs) :
      ∀ (a : Option (List Flt)) (acc : Option (List JobId)) (q : JVal → Prop),
        GoodOptList P docs a → AccInv docs acc q →
        ∃ acc', findAndOpt P docs acc a = .ok acc'
          ∧ AccInv docs acc' (fun d => q d ∧ evalAllOpt P d a = .ok true)
          ∧ (acc' = none → acc = none ∧ a = none)
    | none, acc, q, _, hacc =>
      ⟨acc, rfl, accInv_congr (fun _ => ⟨fun h => ⟨h, rfl⟩, And.left⟩) hacc, fun h => ⟨h, rfl⟩⟩
    | some [], _, _, hg, _ => absurd rfl hg.1
    | some (f :: fs), acc, q, hg, hacc => by
      obtain ⟨acc', e, i, z⟩ := findAnd_spec hu (f :: fs) acc q hg.2 hacc
      exact ⟨acc', by rw [findAndOpt_cons, e], i, fun h => nomatch (z h).2⟩
  theorem findAnd_spec {P : Params} {docs : List (JobId × JVal)} (hu : UniqueIds docs) :
      ∀ (fs : List Flt) (acc : Option (List JobId)) (q : JVal → Prop),
        GoodList P docs fs → AccInv docs acc q →
        ∃ acc', findAnd P docs acc fs = .ok acc'
          ∧ AccInv docs acc' (fun d => q d ∧ evalAll P d fs = .ok true)
          ∧ (acc' = none → acc = none ∧ fs = [])
    | [], acc, q, _, hacc =>
      ⟨acc, rfl, accInv_congr (fun _ => ⟨fun h => ⟨h, rfl⟩, And.left⟩) hacc, fun h => ⟨h, rfl⟩⟩
    | f :: fs, acc, q, hg, hacc => by
      obtain ⟨_, hgf, hgs⟩ := hg
      obtain ⟨m, hm, hsel⟩ := findResult_spec hu f hgf
      obtain ⟨r', hstep, hsel'⟩ := stepE_spec hu (r := findResult P docs f) hacc ⟨m, hm, hsel⟩
      obtain ⟨acc', e, i, z⟩ := findAnd_spec hu fs (some r') _ hgs hsel'
      refine ⟨acc', by simp only [findAnd, hstep, e], ?_, fun h => by have := (z h).1; cases this⟩
      refine accInv_congr (fun d => ?_) i
      rw [evalAll_true, evalAll_true]
      simp only [List.mem_cons, forall_eq_or_imp, and_assoc]
  theorem findOrOpt_spec {P : Params} {docs : List (JobId × JVal)} (hu : UniqueIds docs) :
      ∀ (o : Option (List Flt)) (acc : Option (List JobId)) (q : JVal → Prop),
        GoodOptList P docs o → AccInv docs acc q →
        ∃ acc', findOrOpt P docs acc o = .ok acc'
          ∧ AccInv docs acc' (fun d => q d ∧ evalAnyOpt P d o = .ok true)
          ∧ (acc' = none → acc = none ∧ o = none)
    | none, acc, q, _, hacc =>
      ⟨acc, rfl, accInv_congr (fun _ => ⟨fun h => ⟨h, rfl⟩, And.left⟩) hacc, fun h => ⟨h, rfl⟩⟩
    | some [], _, _, hg, _ => absurd rfl hg.1
    | some (f :: fs), acc, q, hg, hacc => by
      obtain ⟨m, hm, hsel⟩ := findOr_spec hu (f :: fs) hg.2
      obtain ⟨r', hstep, hsel'⟩ := stepE_spec hu (r := findOr P docs (f :: fs)) hacc ⟨m, hm, hsel⟩
      exact ⟨some r', by rw [findOrOpt_cons, hstep], hsel', nofun⟩
  /-- the union of the operands' results is exact for `evalAny`, given that the disjunction is
      well-typed for every job (`evalAny` is strict) -/
  theorem findOr_spec {P : Params} {docs : List (JobId × JVal)} (hu : UniqueIds docs) :
      ∀ (fs : List Flt), GoodList P docs fs →
        ∃ m, findOr P docs fs = .ok m ∧ Sel docs (fun d => evalAny P d fs = .ok true) m
    | [], _ => ⟨[], rfl, fun i => by simp [evalAny]⟩
    | f :: fs, hg => by
      obtain ⟨hwt, hgf, hgs⟩ := hg
      obtain ⟨m, hm, hsel⟩ := findResult_spec hu f hgf
      obtain ⟨r, hr, hsel'⟩ := findOr_spec hu fs hgs
      exact ⟨m ++ r, by simp only [findOr, hm, hr], (hsel.append hsel').congr fun i d hd =>
        (evalAny_cons_true (hwt i d hd) (goodList_evalAny_ok hgs i d hd)).symm⟩
end

end Signac.Query
