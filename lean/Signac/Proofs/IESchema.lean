/-
  C16, schema strings: a schema string parses back the path layout it describes
  (ints, word-like strings, bools; floats under the hypothesis `float(repr x) = x`).
-/
import Signac.ImportExport
import Signac.Proofs.IEChecks
import Signac.Proofs.PyEq
namespace Signac.IE
open Signac

theorem stripSign_digits {cs : List Char} (h : ∀ c ∈ cs, c.isDigit = true) :
    stripSign cs = cs ∧ isNeg cs = false := by
  cases cs with
  | nil => exact ⟨rfl, rfl⟩
  | cons c r =>
    have hc := h c List.mem_cons_self
    have h1 : c ≠ '+' := fun hx => by rw [hx] at hc; cases hc
    have h2 : c ≠ '-' := fun hx => by rw [hx] at hc; cases hc
    constructor
    · unfold stripSign
      split
      · rename_i heq; cases heq; exact absurd rfl h1
      · rename_i heq; cases heq; exact absurd rfl h2
      · rfl
    · unfold isNeg
      split
      · rename_i heq; cases heq; exact absurd rfl h2
      · rfl

theorem digits_all (m : Nat) : ∀ c ∈ Nat.toDigits 10 m, c.isDigit = true :=
  fun _ hc => Nat.isDigit_of_mem_toDigits (by decide) (by decide) hc

theorem int_roundtrip (i : Int) :
    matchInt (toString i).toList = true ∧ convInt (toString i).toList = i := by
  cases i with
  | ofNat m =>
    have hs : (toString (Int.ofNat m)).toList = Nat.toDigits 10 m := by
      show (Int.repr (Int.ofNat m)).toList = _
      simp [Int.repr]
    rw [hs]
    have hd := digits_all m
    have hstrip := stripSign_digits hd
    constructor
    · simp only [matchInt, hstrip.1, Bool.and_eq_true, Bool.not_eq_eq_eq_not, Bool.not_true,
        List.isEmpty_eq_false_iff, List.all_eq_true]
      exact ⟨Nat.toDigits_ne_nil, hd⟩
    · simp only [convInt, hstrip.1, hstrip.2, Nat.ofDigitChars_ten_toDigits, Bool.false_eq_true, if_false]
      rfl
  | negSucc m =>
    have hs : (toString (Int.negSucc m)).toList = '-' :: Nat.toDigits 10 (m + 1) := by
      show (Int.repr (Int.negSucc m)).toList = _
      simp [Int.repr, String.toList_append]
    rw [hs]
    have hd := digits_all (m + 1)
    constructor
    · simp only [matchInt, stripSign, Bool.and_eq_true, Bool.not_eq_eq_eq_not, Bool.not_true,
        List.isEmpty_eq_false_iff, List.all_eq_true]
      exact ⟨Nat.toDigits_ne_nil, hd⟩
    · simp only [convInt, stripSign, isNeg, Nat.ofDigitChars_ten_toDigits, if_true]
      rfl

theorem bool_roundtrip (b : Bool) :
    matchWord (pyStr (.bool b)).toList = true ∧ convBool (pyStr (.bool b)).toList = b := by
  cases b <;> decide +kernel

theorem field_roundtrip {ty : FType} {v : JVal} (h : Representable ty v) :
    matchType ty (pyStr v).toList = true ∧ convType ty (pyStr v).toList = v := by
  cases ty with
  | int =>
    rcases h with ⟨i, rfl⟩
    exact ⟨(int_roundtrip i).1, congrArg JVal.int (int_roundtrip i).2⟩
  | bool =>
    rcases h with ⟨b, rfl⟩
    exact ⟨(bool_roundtrip b).1, congrArg JVal.bool (bool_roundtrip b).2⟩
  | str =>
    rcases h with ⟨s, rfl, hw⟩
    exact ⟨hw, congrArg JVal.str String.ofList_toList⟩
  | float =>
    rcases h with ⟨n, e, r, rfl, hm, hc⟩
    exact ⟨hm, hc⟩

/-- a representable value is a scalar: the layout prints it with `str` -/
theorem formatPath_fld {k : String} {ty : FType} {rest : List SComp} {sp v : JVal}
    (hv : getPath (splitOnChar '.' k) sp = some v) (h : Representable ty v) :
    formatPath (.fld k ty :: rest) sp = (formatPath rest sp).map (pyStr v :: ·) := by
  rw [formatPath, hv]
  cases ty with
  | int => rcases h with ⟨i, rfl⟩; rfl
  | bool => rcases h with ⟨b, rfl⟩; rfl
  | str => rcases h with ⟨s, rfl, _⟩; rfl
  | float => rcases h with ⟨n, e, r, rfl, _⟩; rfl

theorem parseFlat_formatPath (sc : List SComp) (sp : JVal) (h : AllRepresentable sc sp) :
    ∃ cs, formatPath sc sp = some cs ∧ parseFlat sc cs = some (fieldVals sc sp) := by
  induction sc with
  | nil => exact ⟨[], rfl, rfl⟩
  | cons c rest ih =>
    rcases ih (fun k ty hm => h k ty (List.mem_cons_of_mem _ hm)) with ⟨cs, hcs, hp⟩
    cases c with
    | lit s =>
      refine ⟨s :: cs, by rw [formatPath, hcs]; rfl, ?_⟩
      rw [parseFlat, if_pos rfl, fieldVals]
      exact hp
    | fld k ty =>
      rcases h k ty List.mem_cons_self with ⟨v, hv, hrep⟩
      have hfr := field_roundtrip hrep
      refine ⟨pyStr v :: cs, by rw [formatPath_fld hv hrep, hcs]; rfl, ?_⟩
      simp only [parseFlat, hfr.1, if_true, hp, fieldVals, hv, hfr.2]

/-! ### the flat case: the parsed value IS the state point -/

theorem splitOnChar_no_dot {k : String} (h : '.' ∉ k.toList) : splitOnChar '.' k = [k] := by
  rw [splitOnChar, splitC_no_sep '.' k.toList h, List.map_singleton, String.ofList_toList]

theorem getPath_single (k : String) (kvs : List (String × JVal)) :
    getPath [k] (.obj kvs) = lookupKV k kvs := by
  rw [getPath]
  cases lookupKV k kvs <;> rfl

theorem fieldVals_eq {sp : JVal} (sc : List SComp) : ∀ kvs : List (String × JVal),
    sc.filterMap fldKey = kvs.map (·.1) → (∀ kv ∈ kvs, getPath (splitOnChar '.' kv.1) sp = some kv.2) →
    fieldVals sc sp = kvs := by
  induction sc with
  | nil => exact fun kvs hk _ => (List.map_eq_nil_iff.mp hk.symm).symm
  | cons c rest ih =>
    intro kvs hk hv
    cases c with
    | lit s => exact ih kvs hk hv
    | fld k ty =>
      cases kvs with
      | nil => cases hk
      | cons kv kvs =>
        obtain ⟨k', v⟩ := kv
        have hkk : k = k' := (List.cons.inj hk).1
        subst hkk
        rw [fieldVals, hv (k, v) List.mem_cons_self]
        exact congrArg _ (ih kvs (List.cons.inj hk).2 fun kv h => hv kv (List.mem_cons_of_mem _ h))

theorem fieldVals_flat (kvs : List (String × JVal)) (hnodot : ∀ kv ∈ kvs, '.' ∉ kv.1.toList)
    (sc : List SComp) (hnd : (kvs.map (·.1)).Nodup) (hk : sc.filterMap fldKey = kvs.map (·.1)) :
    fieldVals sc (.obj kvs) = kvs :=
  fieldVals_eq sc kvs hk fun kv h => by
    rw [splitOnChar_no_dot (hnodot kv h), getPath_single]
    exact lookupKV_of_mem hnd h

theorem nestFlat_flat (rest : List (String × JVal)) : ∀ acc : List (String × JVal),
    ((acc ++ rest).map (·.1)).Nodup → (∀ kv ∈ rest, '.' ∉ kv.1.toList) →
    nestFlat rest acc = some (acc ++ rest) := by
  induction rest with
  | nil => exact fun acc _ _ => congrArg some (List.append_nil acc).symm
  | cons kv rest ih =>
    intro acc hnd hnodot
    obtain ⟨k, v⟩ := kv
    have hfresh : acc.any (fun kv => decide (kv.1 = k)) = false := by
      rw [List.any_eq_false]
      intro kv hkv hdec
      rw [List.map_append, List.nodup_append] at hnd
      exact hnd.2.2 kv.1 (List.mem_map.mpr ⟨kv, hkv, rfl⟩) k List.mem_cons_self (of_decide_eq_true hdec)
    rw [nestFlat, splitOnChar_no_dot (hnodot (k, v) List.mem_cons_self), nestInsert, if_neg (by rw [hfresh]; decide)]
    have := ih (acc ++ [(k, v)]) (by rwa [List.append_assoc])
      (fun kv hkv => hnodot kv (List.mem_cons_of_mem _ hkv))
    dsimp only
    rw [this, List.append_assoc]
    rfl

end Signac.IE
