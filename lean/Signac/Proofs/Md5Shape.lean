/-
  Shape of the digest: 16 bytes, 32 lower-case hex characters.  Core only.
-/
import Signac.Md5
namespace Signac

def hexAlphabet : List Char := "0123456789abcdef".toList

theorem hexDigit_mem (n : Nat) (h : n < 16) : hexDigit n ∈ hexAlphabet := by
  have : ∀ m : Fin 16, hexDigit m.val ∈ hexAlphabet := by decide +kernel
  exact this ⟨n, h⟩

theorem md5_length (msg : List UInt8) : (md5 msg).length = 16 := by
  simp only [md5, wordBytes, List.length_append, List.length_cons, List.length_nil]

theorem hexOfBytes_length (bs : List UInt8) : (hexOfBytes bs).length = 2 * bs.length := by
  induction bs with
  | nil => rfl
  | cons b bs ih => simp [hexOfBytes, byteHex, ih]; omega

theorem hexOfBytes_hex (bs : List UInt8) : ∀ c ∈ hexOfBytes bs, c ∈ hexAlphabet := by
  induction bs with
  | nil => intro c h; simp [hexOfBytes] at h
  | cons b bs ih =>
    intro c h
    simp only [hexOfBytes, byteHex, List.cons_append, List.nil_append, List.mem_cons] at h
    rcases h with h | h | h
    · subst h
      apply hexDigit_mem
      have := b.toNat_lt
      omega
    · subst h
      apply hexDigit_mem
      omega
    · exact ih c h

theorem md5hexChars_length (msg : List UInt8) : (md5hexChars msg).length = 32 := by
  simp [md5hexChars, hexOfBytes_length, md5_length]

theorem md5hexChars_hex (msg : List UInt8) : ∀ c ∈ md5hexChars msg, c ∈ hexAlphabet :=
  hexOfBytes_hex _

end Signac
