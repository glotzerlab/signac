/-
  Proofs/ConcInv — the per-actor invariant of the C12 model and its preservation by every step
  (own step: case analysis on the program counter; other actors' steps: rely/guarantee).
-/
import Signac.Proofs.ConcFs
namespace Signac.Conc
variable {SP DV : Type} {hash : SP → JobId}

/-- `next` looks at the program counter only -/
theorem nextOf {st : AState SP DV} {ph : Phase SP DV} (a : Nat) (hph : st.phase = ph) :
    next hash a st = next hash a { st with phase := ph } := by
  cases st; simp only at hph; subst hph; rfl

/-- The pending instruction at a known program counter.  Use as `obtain rfl := next_at a hph hn`:
    `ins'` is found by the default proof, which evaluates `next`. -/
theorem next_at {st : AState SP DV} {ph : Phase SP DV} {ins ins' : Instr SP DV} (a : Nat)
    (hph : st.phase = ph) (hn : next hash a st = some ins)
    (h : next hash a { st with phase := ph } = some ins' := by rfl) : ins' = ins :=
  Option.some.inj (h.symm.trans ((nextOf a hph).symm.trans hn))

theorem next_none_iff (a : Nat) (st : AState SP DV) : next hash a st = none ↔ st.phase = .fin := by
  refine ⟨fun h => ?_, fun h => nextOf a h⟩
  cases hph : st.phase with
  | fin => rfl
  | proj n | ini n => cases n <;> cases (nextOf a hph).symm.trans h
  | save n => cases n <;> cases (nextOf a hph).symm.trans h
  | _ => cases (nextOf a hph).symm.trans h

theorem next_ne_fin {a : Nat} {st : AState SP DV} {ins : Instr SP DV} (hn : next hash a st = some ins) :
    st.phase ≠ .fin := fun h => by cases (nextOf a h).symm.trans hn

/-- what the program counter of actor `a` knows about the file system -/
def PhaseInv (hash : SP → JobId) (fs : FS SP DV) (a : Nat) : Phase SP DV → Prop
  | .proj .isdir3 => IsDir fs .ws
  | .ini .isdir2 v => IsDir fs (.jobdir (hash v))
  | .ini .isfile v => IsDir fs (.jobdir (hash v))
  | .ini .load2 v => IsFile fs (.file (hash v) .sp)
  | .save .openw i k c => IsDir fs (.jobdir i) ∧ GoodC hash i k c
  | .save .write i k c => IsFile fs (.tmp i k a) ∧ GoodC hash i k c
  | .save .close i k c => fs.get (.tmp i k a) = some (.file c) ∧ GoodC hash i k c
  | .save .rename i k c => fs.get (.tmp i k a) = some (.file c) ∧ GoodC hash i k c
  | .dload v => IsDir fs (.jobdir (hash v))
  | _ => True

/-- while `Project()` runs the workspace directory need not exist yet (`AInv.ws`) -/
def isProj : Phase SP DV → Bool
  | .proj _ => true
  | _ => false

/-- the operation in progress loads the document (`doc[k] = x`, `doc()`) -/
def loadHead : List (Op SP DV) → Bool
  | .docSet _ _ _ :: _ => true
  | .docGet _ :: _ => true
  | _ => false

/-- the operation in progress touches the document (also `job.doc = d`, which does not load) -/
def docHead : List (Op SP DV) → Bool
  | .docSet _ _ _ :: _ => true
  | .docGet _ :: _ => true
  | .docAssign _ _ :: _ => true
  | _ => false

theorem loadHead_of_docHead {s : List (Op SP DV)} (h : docHead s = true)
    (hna : ∀ w d t, s ≠ .docAssign w d :: t) : loadHead s = true :=
  match s, h with
  | .docSet .. :: _, _ | .docGet _ :: _, _ => rfl
  | .docAssign w d :: t, _ => absurd rfl (hna w d t)

/-- what the program counter needs to know about the operation in progress for `AInv` to be kept:
    the Boolean shadow of `HeadOk` (`HeadOk.headFits`), which says which operation it is -/
def headFits : Phase SP DV → List (Op SP DV) → Bool
  | .lite _, s => docHead s
  | .dload _, s => loadHead s
  | _, _ => true

/-- inside a save of `(i, k)`, past its `open`: the only time the actor's temp file may exist -/
def tmpPhase (i : JobId) (k : Kind) : Phase SP DV → Prop
  | .save .write j k' _ => j = i ∧ k' = k
  | .save .close j k' _ => j = i ∧ k' = k
  | .save .rename j k' _ => j = i ∧ k' = k
  | _ => False

structure AInv (hash : SP → JobId) (fs : FS SP DV) (a : Nat) (st : AState SP DV) : Prop where
  noFail : st.failed = none
  ws : isProj st.phase = false → IsDir fs .ws
  phase : PhaseInv hash fs a st.phase
  own : ∀ i k, fs.get (.tmp i k a) ≠ none → tmpPhase i k st.phase
  head : headFits st.phase st.script = true

/-- an actor's invariant only speaks about things other actors never destroy -/
theorem AInv.stable {fs fs' : FS SP DV} {a b : Nat} {st : AState SP DV} (hab : a ≠ b)
    (h : AInv hash fs a st) (g : Guar b fs fs') : AInv hash fs' a st := by
  refine ⟨h.noFail, fun hp => g.dirs _ (h.ws hp), ?_,
    fun i k hne => h.own i k (g.tmps i k a hab ▸ hne), h.head⟩
  have hp := h.phase
  revert hp
  generalize st.phase = p
  intro hp
  cases p with
  | proj n => cases n with
    | isdir3 => exact g.dirs _ hp
    | _ => trivial
  | ini n v => cases n with
    | isdir2 | isfile => exact g.dirs _ hp
    | load2 => exact g.files _ _ hp
    | _ => trivial
  | dload v => exact g.dirs _ hp
  | save n i k c =>
    have e := g.tmps i k a hab
    cases n with
    | openw => exact ⟨g.dirs _ hp.1, hp.2⟩
    | write => exact ⟨Exists.imp (fun _ h => e.trans h) hp.1, hp.2⟩
    | _ => exact ⟨e.trans hp.1, hp.2⟩
  | _ => trivial

section
variable {fs : FS SP DV} {a : Nat} {st : AState SP DV} {ins : Instr SP DV}

/-- actor `a` has no temp file: so outside a save -/
def NoTmp (fs : FS SP DV) (a : Nat) : Prop := ∀ i k, fs.get (.tmp i k a) = none

theorem AInv.noTmp (h : AInv hash fs a st) (hp : ∀ i k, ¬ tmpPhase i k st.phase) : NoTmp fs a :=
  fun i k => Classical.byContradiction fun hne => hp i k (h.own i k hne)

theorem ainv_of_noTmp (h1 : st.failed = none) (h2 : isProj st.phase = false → IsDir fs .ws)
    (h3 : PhaseInv hash fs a st.phase) (h4 : NoTmp fs a)
    (h5 : headFits st.phase st.script = true) : AInv hash fs a st :=
  ⟨h1, h2, h3, fun i k hne => absurd (h4 i k) hne, h5⟩

theorem ainv_finish (h1 : st.failed = none) (h2 : IsDir fs .ws) (h4 : NoTmp fs a) :
    AInv hash fs a (finishOp st) := by
  unfold finishOp startNext
  split
  · exact ainv_of_noTmp h1 (fun _ => h2) trivial h4 rfl
  · next op _ hs =>
    refine ainv_of_noTmp h1 (fun _ => h2) ?_ h4 ?_
    · cases op <;> trivial
    · show headFits (firstPhase op) st.script.tail = true
      rw [show st.script.tail = _ from hs]; cases op <;> rfl

theorem ainv_afterInit {v : SP}
    (h1 : st.failed = none) (h2 : IsDir fs .ws) (h4 : NoTmp fs a)
    (hd : IsDir fs (.jobdir (hash v))) : AInv hash fs a (afterInit hash st v) := by
  unfold afterInit
  split
  · next hs => exact ainv_of_noTmp h1 (fun _ => h2) hd h4 (by simp only [AState.goto, headFits, hs, loadHead])
  · next hs => exact ainv_of_noTmp h1 (fun _ => h2) hd h4 (by simp only [AState.goto, headFits, hs, loadHead])
  · exact ainv_of_noTmp h1 (fun _ => h2) ⟨hd, trivial⟩ h4 rfl
  · exact ainv_finish h1 h2 h4

theorem ainv_docStart {v : SP}
    (h1 : st.failed = none) (h2 : IsDir fs .ws) (h4 : NoTmp fs a)
    (hd : IsDir fs (.jobdir (hash v))) (hh : docHead st.script = true) :
    AInv hash fs a (docStart hash st v) := by
  unfold docStart
  split
  · exact ainv_of_noTmp h1 (fun _ => h2) ⟨hd, trivial⟩ h4 rfl
  · next hna => exact ainv_of_noTmp h1 (fun _ => h2) hd h4 (loadHead_of_docHead hh hna)

theorem ainv_resumeDload {v : SP}
    (h1 : st.failed = none) (h2 : IsDir fs .ws) (h4 : NoTmp fs a)
    (hd : IsDir fs (.jobdir (hash v))) (hh : loadHead st.script = true) (d : Doc DV) :
    AInv hash fs a (resumeDload hash st v d) := by
  cases hs : st.script with
  | nil => rw [hs] at hh; cases hh
  | cons op t =>
    cases op with
    | docSet =>
      simp only [resumeDload, hs]
      exact ainv_of_noTmp h1 (fun _ => h2) ⟨hd, trivial⟩ h4 rfl
    | docGet => simp only [resumeDload, hs]; exact ainv_finish h1 h2 h4
    | _ => rw [hs] at hh; cases hh

/-- what an own step re-establishes (`step_own`) -/
def StepOk (hash : SP → JobId) (fs : FS SP DV) (a : Nat) (st : AState SP DV) (ins : Instr SP DV) : Prop :=
  FsInv hash (exec fs ins).1 ∧ Guar a fs (exec fs ins).1 ∧
    AInv hash (exec fs ins).1 a (resume hash st (exec fs ins).2)

theorem stepOk_same {r : Res SP DV} (hfs : FsInv hash fs) (he : exec fs ins = (fs, r))
    (h : AInv hash fs a (resume hash st r)) :
    StepOk hash fs a st ins := by
  unfold StepOk; rw [he]; exact ⟨hfs, Guar.refl _ _, h⟩

theorem stepOk_set {r : Res SP DV} {p : Path} {n : Node SP DV} (hfs : FsInv hash fs)
    (he : exec fs ins = (fs.set p n, r))
    (hok : NodeOk hash p n) (hp : parentOk fs p = true) (hown : ∀ i k b, p = .tmp i k b → b = a)
    (h : Guar a fs (fs.set p n) → AInv hash (fs.set p n) a (resume hash st r)) :
    StepOk hash fs a st ins := by
  unfold StepOk; rw [he]
  have hG := guar_set hfs a hok hown
  exact ⟨fsinv_set hfs hok hp, hG, h hG⟩

theorem noTmp_set {fs : FS SP DV} {a : Nat} (h : NoTmp fs a) {p : Path} (n : Node SP DV)
    (hp : ∀ i k b, p ≠ .tmp i k b) : NoTmp (fs.set p n) a := by
  intro i k; rw [get_set, if_neg (hp i k a)]; exact h i k

/-! In the step lemmas the actor state is taken apart and its program counter substituted, so that
    `next`, `resume` and `PhaseInv` compute. -/

theorem step_proj {n : ProjPc} (hfs : FsInv hash fs) (hinv : AInv hash fs a st)
    (hph : st.phase = .proj n) (hn : next hash a st = some ins) : StepOk hash fs a st ins := by
  obtain ⟨sc, _, out, fl⟩ := st; cases hph
  have hnt : NoTmp fs a := hinv.noTmp fun _ _ => id
  have hf : fl = none := hinv.noFail
  have fin : ∀ {fs'}, IsDir fs' .ws → NoTmp fs' a → AInv hash fs' a (finishOp ⟨sc, .proj n, out, fl⟩) :=
    fun hd ht => ainv_finish hf hd ht
  have go : ∀ m, PhaseInv hash fs a (.proj m) → AInv hash fs a ⟨sc, .proj m, out, fl⟩ :=
    fun m hm => ainv_of_noTmp hf (fun h => nomatch h) hm hnt rfl
  cases n <;> cases hn
  · by_cases hd : IsDir fs .ws
    · exact stepOk_same hfs (exec_isdir_T hd) (fin hd hnt)
    · exact stepOk_same hfs (exec_isdir_F hd) (go .isdir2 trivial)
  · by_cases hd : IsDir fs .ws
    · exact stepOk_same hfs (exec_isdir_T hd) (fin hd hnt)
    · exact stepOk_same hfs (exec_isdir_F hd) (go .mkdir trivial)
  · cases hg : fs.get .ws with
    | some n => exact stepOk_same hfs (exec_mkdir_some hg) (go .isdir3 (dir_node hfs (fun _ h => h) hg))
    | none =>
      exact stepOk_set hfs (exec_mkdir_none hg rfl) rfl rfl (fun _ _ _ e => nomatch e) fun _ =>
        fin (get_set_self ..) (noTmp_set hnt _ fun _ _ _ e => nomatch e)
  · exact stepOk_same hfs (exec_isdir_T hinv.phase) (fin hinv.phase hnt)

theorem step_lite {v : SP} (hfs : FsInv hash fs) (hinv : AInv hash fs a st)
    (hph : st.phase = .lite v) (hn : next hash a st = some ins) : StepOk hash fs a st ins := by
  obtain ⟨sc, _, out, fl⟩ := st; cases hph; cases hn
  have hnt : NoTmp fs a := hinv.noTmp fun _ _ => id
  have hws : IsDir fs .ws := hinv.ws rfl
  by_cases hd : IsDir fs (.jobdir (hash v))
  · exact stepOk_same hfs (exec_isdir_T hd) (ainv_docStart hinv.noFail hws hnt hd hinv.head)
  · exact stepOk_same hfs (exec_isdir_F hd) (ainv_of_noTmp hinv.noFail (fun _ => hws) trivial hnt rfl)

theorem step_ini {n : IniPc} {v : SP} (hfs : FsInv hash fs) (hinv : AInv hash fs a st)
    (hph : st.phase = .ini n v) (hn : next hash a st = some ins) : StepOk hash fs a st ins := by
  obtain ⟨sc, _, out, fl⟩ := st; cases hph
  have hnt : NoTmp fs a := hinv.noTmp fun _ _ => id
  have hws : IsDir fs .ws := hinv.ws rfl
  have hf : fl = none := hinv.noFail
  have go : ∀ {fs'} ph, IsDir fs' .ws → NoTmp fs' a → PhaseInv hash fs' a ph →
      headFits ph sc = true → AInv hash fs' a ⟨sc, ph, out, fl⟩ :=
    fun ph hw ht hm hh => ainv_of_noTmp hf (fun _ => hw) hm ht hh
  -- reading the state point file: complete and hashing to the directory, or absent
  have load : ∀ m, m = IniPc.load1 ∨ m = .load2 → ∀ c, fs.get (.file (hash v) .sp) = some (.file c) →
      AInv hash fs a (resumeIni hash ⟨sc, .ini n v, out, fl⟩ m v (.data c)) := by
    intro m hm c hc
    obtain ⟨_, e, hg⟩ := hfs.fileT hc
    cases e
    obtain ⟨w, rfl, hw⟩ := hg.sp_inv
    have := ainv_afterInit (st := ⟨sc, .ini n v, out, fl⟩) hf hws hnt (parent_dir hfs hc rfl)
    rcases hm with rfl | rfl <;> (simp only [resumeIni]; rw [if_pos hw]; exact this)
  cases n <;> cases hn
  · cases hg : fs.get (.file (hash v) .sp) with
    | none => exact stepOk_same hfs (exec_read_none hg) (go (.ini .isdir v) hws hnt trivial rfl)
    | some nd =>
      obtain ⟨c, rfl, _⟩ := hfs.fileT hg
      exact stepOk_same hfs (exec_read_file hg) (load _ (.inl rfl) c hg)
  · by_cases hd : IsDir fs (.jobdir (hash v))
    · exact stepOk_same hfs (exec_isdir_T hd) (go (.ini .isfile v) hws hnt hd rfl)
    · exact stepOk_same hfs (exec_isdir_F hd) (go (.ini .existsWs v) hws hnt trivial rfl)
  · exact stepOk_same hfs (exec_exists_T hws) (go (.ini .mkdir v) hws hnt trivial rfl)
  · cases hg : fs.get (.jobdir (hash v)) with
    | some nd =>
      exact stepOk_same hfs (exec_mkdir_some hg) (go (.ini .isdir2 v) hws hnt (dir_node hfs (fun _ h => h) hg) rfl)
    | none =>
      have hp := parentOk_of_dir (p := .jobdir (hash v)) rfl hws
      exact stepOk_set hfs (exec_mkdir_none hg hp) rfl hp (fun _ _ _ e => nomatch e) fun hG =>
        go (.ini .isfile v) (hG.dirs _ hws) (noTmp_set hnt _ fun _ _ _ e => nomatch e) (get_set_self ..) rfl
  · exact stepOk_same hfs (exec_isdir_T hinv.phase) (go (.ini .isfile v) hws hnt hinv.phase rfl)
  · by_cases hfile : IsFile fs (.file (hash v) .sp)
    · exact stepOk_same hfs (exec_isfile_T hfile) (go (.ini .load2 v) hws hnt hfile rfl)
    · exact stepOk_same hfs (exec_isfile_F hfile)
        (go (.save .openw (hash v) .sp (.spc v)) hws hnt ⟨hinv.phase, rfl⟩ rfl)
  · obtain ⟨c, hc⟩ : IsFile fs (.file (hash v) .sp) := hinv.phase
    exact stepOk_same hfs (exec_read_file hc) (load _ (.inr rfl) c hc)

theorem step_save {n : SavePc} {i : JobId} {k : Kind} {c : Content SP DV}
    (hfs : FsInv hash fs) (hinv : AInv hash fs a st)
    (hph : st.phase = .save n i k c) (hn : next hash a st = some ins) : StepOk hash fs a st ins := by
  obtain ⟨sc, _, out, fl⟩ := st; cases hph
  have hws : IsDir fs .ws := hinv.ws rfl
  have hf : fl = none := hinv.noFail
  -- the only temp file of this actor is the one of the save in progress
  have hother : ∀ j k', fs.get (.tmp j k' a) ≠ none → i = j ∧ k = k' := fun j k' hne => by
    have := hinv.own j k' hne
    cases n with
    | openw => exact this.elim
    | _ => exact this
  -- after `open` / `write` on the temp file the actor owns that file only
  have put : ∀ (m : SavePc) (c' : Content SP DV), tmpPhase i k (.save m i k c : Phase SP DV) →
      PhaseInv hash (fs.set (.tmp i k a) (.file c')) a (.save m i k c) →
      Guar a fs (fs.set (.tmp i k a) (.file c')) →
      AInv hash (fs.set (.tmp i k a) (.file c')) a ⟨sc, .save m i k c, out, fl⟩ := by
    intro m c' htp hpi hG
    refine ⟨hf, fun _ => hG.dirs _ hws, hpi, fun j k' hne => ?_, rfl⟩
    rw [get_set] at hne
    split at hne
    · next e => cases e; exact htp
    · obtain ⟨rfl, rfl⟩ := hother j k' hne; exact htp
  cases n <;> cases hn
  · obtain ⟨hd, hgood⟩ := hinv.phase
    have hp := parentOk_of_dir (p := .tmp i k a) rfl hd
    exact stepOk_set hfs (exec_openw (tmp_not_dir hfs i k a) hp) ⟨_, rfl, .inl rfl⟩ hp
      (fun _ _ _ e => by cases e; rfl) (put .write .torn ⟨rfl, rfl⟩ ⟨⟨.torn, get_set_self ..⟩, hgood⟩)
  · obtain ⟨⟨c0, hc0⟩, hgood⟩ := hinv.phase
    exact stepOk_set hfs (exec_write ⟨c0, hc0⟩) ⟨_, rfl, .inr hgood⟩ (hfs.par _ _ hc0)
      (fun _ _ _ e => by cases e; rfl) (put .close c ⟨rfl, rfl⟩ ⟨get_set_self .., hgood⟩)
  · exact stepOk_same hfs exec_close ⟨hf, fun _ => hws, hinv.phase, hinv.own, rfl⟩
  · obtain ⟨hc, hgood⟩ := hinv.phase
    have hjd : IsDir fs (.jobdir i) := parent_dir hfs hc rfl
    unfold StepOk
    rw [exec_save_rename hfs hc]
    have hG1 := guar_del_tmp hfs i k a
    have hfs1 := fsinv_del_tmp hfs i k a
    have hok : NodeOk hash (.file i k) (.file c : Node SP DV) := ⟨_, rfl, hgood⟩
    have hG := hG1.trans (guar_set hfs1 a hok fun _ _ _ e => nomatch e)
    refine ⟨fsinv_set hfs1 hok (parentOk_of_dir rfl (hG1.dirs _ hjd)), hG, ?_⟩
    have hnt : NoTmp ((fs.del (.tmp i k a)).set (.file i k) (.file c)) a := by
      intro j k'
      rw [get_set, if_neg (fun e => nomatch e), get_del]
      split
      · rfl
      · next h =>
        exact Classical.byContradiction fun hne => h (by obtain ⟨rfl, rfl⟩ := hother j k' hne; rfl)
    cases k with
    | doc => exact ainv_finish hf (hG.dirs _ hws) hnt
    | sp =>
      obtain ⟨v, rfl, rfl⟩ := hgood.sp_inv
      exact ainv_of_noTmp hf (fun _ => hG.dirs _ hws) ⟨.spc v, get_set_self ..⟩ hnt rfl

theorem step_dload {v : SP} (hfs : FsInv hash fs) (hinv : AInv hash fs a st)
    (hph : st.phase = .dload v) (hn : next hash a st = some ins) : StepOk hash fs a st ins := by
  obtain ⟨sc, _, out, fl⟩ := st; cases hph; cases hn
  have hnt : NoTmp fs a := hinv.noTmp fun _ _ => id
  have hws : IsDir fs .ws := hinv.ws rfl
  have res := ainv_resumeDload (st := ⟨sc, .dload v, out, fl⟩) hinv.noFail hws hnt hinv.phase hinv.head
  cases hg : fs.get (.file (hash v) .doc) with
  | none => exact stepOk_same hfs (exec_read_none hg) (res [])
  | some nd =>
    obtain ⟨c, rfl, hgood⟩ := hfs.fileT hg
    obtain ⟨d, rfl⟩ := hgood.doc_inv
    exact stepOk_same hfs (exec_read_file hg) (res d)

theorem step_len (hfs : FsInv hash fs) (hinv : AInv hash fs a st)
    (hph : st.phase = .len) (hn : next hash a st = some ins) : StepOk hash fs a st ins := by
  obtain ⟨sc, _, out, fl⟩ := st; cases hph; cases hn
  have hnt : NoTmp fs a := hinv.noTmp fun _ _ => id
  have hws : IsDir fs .ws := hinv.ws rfl
  exact stepOk_same hfs (exec_listdir hws) (ainv_finish hinv.noFail hws hnt)

/-- Own step: the file-system invariant, the guarantee to the others and the actor's own
    invariant (in particular: no exception) hold again afterwards. -/
theorem step_own (hfs : FsInv hash fs) (hinv : AInv hash fs a st) (hn : next hash a st = some ins) :
    StepOk hash fs a st ins := by
  cases hph : st.phase with
  | fin => exact absurd hph (next_ne_fin hn)
  | proj n => exact step_proj hfs hinv hph hn
  | lite v => exact step_lite hfs hinv hph hn
  | ini n v => exact step_ini hfs hinv hph hn
  | save n i k c => exact step_save hfs hinv hph hn
  | dload v => exact step_dload hfs hinv hph hn
  | len => exact step_len hfs hinv hph hn
end

/-! ### the whole system -/

/-- Invariant of the system: the file system is well-shaped, every actor satisfies its own
    invariant (no exception so far, what it relies on is there), temp files belong to actors. -/
structure SysInv (hash : SP → JobId) (s : Sys SP DV) : Prop where
  fs : FsInv hash s.fs
  actors : ∀ a st, s.actors[a]? = some st → AInv hash s.fs a st
  owned : ∀ i k a, s.fs.get (.tmp i k a) ≠ none → a < s.actors.length

theorem sysStep_eq {s : Sys SP DV} {a : Nat} {st : AState SP DV} {ins : Instr SP DV}
    (hst : s.actors[a]? = some st) (hn : next hash a st = some ins) :
    sysStep hash s a = { fs := (exec s.fs ins).1,
                         actors := s.actors.set a (resume hash st (exec s.fs ins).2) } := by
  simp only [sysStep, hst, hn]

/-- a step is idle (no such actor, or it has finished), or executes the actor's pending primitive
    and resumes the actor with the answer -/
theorem sysStep_cases (s : Sys SP DV) (a : Nat) :
    (sysStep hash s a = s ∧ ∀ st, s.actors[a]? = some st → st.phase = .fin) ∨
    ∃ st ins, s.actors[a]? = some st ∧ next hash a st = some ins ∧
      sysStep hash s a = { fs := (exec s.fs ins).1,
                           actors := s.actors.set a (resume hash st (exec s.fs ins).2) } := by
  cases hst : s.actors[a]? with
  | none => exact .inl ⟨by simp only [sysStep, hst], fun _ e => nomatch e⟩
  | some st =>
    cases hn : next hash a st with
    | none =>
      refine .inl ⟨by simp only [sysStep, hst, hn], fun _ e => ?_⟩
      cases e; exact (next_none_iff a st).1 hn
    | some ins => exact .inr ⟨st, ins, rfl, hn, sysStep_eq hst hn⟩

theorem getElem?_set_self' {l : List (AState SP DV)} {b : Nat} {x st : AState SP DV}
    (h : l[b]? = some st) : (l.set b x)[b]? = some x := by
  simp [(List.getElem?_eq_some_iff.1 h).1]

theorem actors_sysStep_self {s : Sys SP DV} {a : Nat} {st : AState SP DV} {ins : Instr SP DV}
    (hst : s.actors[a]? = some st) (hn : next hash a st = some ins) :
    (sysStep hash s a).actors[a]? = some (resume hash st (exec s.fs ins).2) := by
  rw [sysStep_eq hst hn]; exact getElem?_set_self' hst

theorem actors_sysStep_ne {s : Sys SP DV} {a b : Nat} (hab : a ≠ b) :
    (sysStep hash s b).actors[a]? = s.actors[a]? := by
  rcases sysStep_cases (hash := hash) s b with ⟨e, _⟩ | ⟨_, _, _, _, e⟩ <;> rw [e]
  exact List.getElem?_set_ne (Ne.symm hab)

theorem actors_step {P : Nat → AState SP DV → Prop} {s : Sys SP DV} {b : Nat}
    (h : ∀ a st, s.actors[a]? = some st → P a st)
    (hb : ∀ st ins, s.actors[b]? = some st → next hash b st = some ins →
      P b (resume hash st (exec s.fs ins).2)) :
    ∀ a st, (sysStep hash s b).actors[a]? = some st → P a st := by
  intro a st' ha
  by_cases hab : a = b
  · subst hab
    rcases sysStep_cases (hash := hash) s a with ⟨e, _⟩ | ⟨st, ins, hst, hn, _⟩
    · exact h a st' (e ▸ ha)
    · cases (actors_sysStep_self hst hn).symm.trans ha; exact hb st ins hst hn
  · exact h a st' ((actors_sysStep_ne hab).symm.trans ha)

theorem run_invariant {I : Sys SP DV → Prop} (hstep : ∀ s a, I s → I (sysStep hash s a))
    {s : Sys SP DV} (h : I s) (sched : List Nat) : I (run hash s sched) := by
  induction sched generalizing s with
  | nil => exact h
  | cons a rest ih => exact ih (hstep s a h)

theorem sysStep_inv_guar {s : Sys SP DV} (h : SysInv hash s) (a : Nat) :
    SysInv hash (sysStep hash s a) ∧ Guar a s.fs (sysStep hash s a).fs := by
  rcases sysStep_cases (hash := hash) s a with ⟨e, _⟩ | ⟨st, ins, hst, hn, e⟩ <;> rw [e]
  · exact ⟨h, Guar.refl _ _⟩
  · obtain ⟨h1, h2, h3⟩ := step_own h.fs (h.actors a st hst) hn
    refine ⟨⟨h1, fun b st' hb => ?_, fun i k b hne => ?_⟩, h2⟩
    · by_cases hab : b = a
      · subst hab
        rw [getElem?_set_self' hst] at hb; cases hb; exact h3
      · rw [List.getElem?_set_ne (Ne.symm hab)] at hb
        exact (h.actors b st' hb).stable hab h2
    · rw [List.length_set]
      by_cases hab : b = a
      · exact hab ▸ (List.getElem?_eq_some_iff.1 hst).1
      · exact h.owned i k b (h2.tmps i k b hab ▸ hne)

theorem run_inv {s : Sys SP DV} (h : SysInv hash s) (sched : List Nat) :
    SysInv hash (run hash s sched) :=
  run_invariant (I := SysInv hash) (fun _ a h => (sysStep_inv_guar h a).1) h sched

def startSys (fs : FS SP DV) (scripts : List (List (Op SP DV))) : Sys SP DV :=
  { fs := fs, actors := scripts.map AState.start }

theorem getElem?_start {scripts : List (List (Op SP DV))} {a : Nat} {st : AState SP DV}
    {fs : FS SP DV} (h : (startSys fs scripts).actors[a]? = some st) :
    ∃ sc, scripts[a]? = some sc ∧ st = .start sc := by
  rw [startSys, List.getElem?_map] at h
  cases hs : scripts[a]? with
  | none => rw [hs] at h; cases h
  | some sc => rw [hs] at h; cases h; exact ⟨sc, rfl, rfl⟩

theorem initial_inv {fs : FS SP DV} (hfs : FsInv hash fs) (hnt : ∀ i k a, fs.get (.tmp i k a) = none)
    (scripts : List (List (Op SP DV))) : SysInv hash (startSys fs scripts) := by
  refine ⟨hfs, fun a st hst => ?_, fun i k a hne => absurd (hnt i k a) hne⟩
  obtain ⟨sc, _, rfl⟩ := getElem?_start hst
  exact ainv_of_noTmp rfl (fun h => nomatch h) trivial (fun i k => hnt i k a) rfl

theorem run_monotone {s : Sys SP DV} (h : SysInv hash s) (sched : List Nat) :
    (∀ p, IsDir s.fs p → IsDir (run hash s sched).fs p) ∧
    (∀ i k, IsFile s.fs (.file i k) → IsFile (run hash s sched).fs (.file i k)) :=
  (run_invariant (I := fun t => SysInv hash t ∧ (∀ p, IsDir s.fs p → IsDir t.fs p) ∧
      ∀ i k, IsFile s.fs (.file i k) → IsFile t.fs (.file i k))
    (fun _ a ⟨ht, hd, hf⟩ =>
      have ⟨ht', g⟩ := sysStep_inv_guar ht a
      ⟨ht', fun p hp => g.dirs p (hd p hp), fun i k hp => g.files i k (hf i k hp)⟩)
    ⟨h, fun _ hp => hp, fun _ _ hp => hp⟩ sched).2

end Signac.Conc
