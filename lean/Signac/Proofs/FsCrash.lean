/-
  The step model of FsSteps for arbitrary step lists: a step changes only what it touches; crash
  states of lists framed by steps that leave the target alone; crash states are the driver's crash
  points; the crash theorem of the rename-only discipline; what a reader step sees.
-/
import Signac.FsSteps
namespace Signac.Fs
variable {α : Type}

theorem under_refl (t : Path) : under t t = true := by
  simp [under]

theorem upd_same (fs : FS α) (p : Path) (v : Option (Node α)) : upd fs p v p = v :=
  if_pos rfl

theorem upd_other (fs : FS α) {p q : Path} (v : Option (Node α)) (h : q ≠ p) : upd fs p v q = fs q :=
  if_neg h

theorem run_nil (fs : FS α) : run fs [] = fs := rfl

theorem run_cons (fs : FS α) (s : Step α) (ss : List (Step α)) :
    run fs (s :: ss) = run (apply fs s) ss := rfl

theorem run_append (fs : FS α) (xs ys : List (Step α)) : run fs (xs ++ ys) = run (run fs xs) ys :=
  List.foldl_append

theorem unrelated_iff {a b : Path} : unrelated a b = true ↔ under a b = false ∧ under b a = false := by
  simp [unrelated]

theorem unrelated_ne {a b : Path} (h : unrelated a b = true) : b ≠ a :=
  fun e => by subst e; simp [unrelated, under_refl] at h

theorem apply_untouched {t : Path} {s : Step α} (fs : FS α) (h : touches t s = false) :
    apply fs s t = fs t := by
  cases s with
  | close | fsync | read => rfl
  | rename a b =>
    have ⟨ha, hb⟩ := Bool.or_eq_false_iff.mp h
    dsimp only [apply]
    cases fs a with
    | none => rfl
    | some _ =>
      by_cases hab : (under a b || under b a) = true
      · exact congrFun (if_pos hab) t
      · exact (congrFun (if_neg hab) t).trans
          ((if_neg (Bool.eq_false_iff.mp hb)).trans (if_neg (Bool.eq_false_iff.mp ha)))
  | create p | unlink p => exact upd_other fs _ (Ne.symm (of_decide_eq_false h))
  | openAppend p | mkdir p | rmdir p | append p _ | truncate p _ | symlink _ p =>
    -- whatever is at `p`, the state stays or is updated at `p`, which is not `t`
    have hne : t ≠ p := Ne.symm (of_decide_eq_false h)
    dsimp only [apply]
    rcases fs p with _ | _ | _ | _ <;> first | rfl | exact upd_other fs _ hne

theorem run_untouched {t : Path} {ss : List (Step α)} (h : ∀ s ∈ ss, touches t s = false) (fs : FS α) :
    run fs ss t = fs t := by
  induction ss generalizing fs with
  | nil => rfl
  | cons s ss ih =>
    rw [run_cons, ih (fun x hx => h x (List.mem_cons_of_mem _ hx)),
      apply_untouched fs (h s List.mem_cons_self)]

theorem torn_untouched {t : Path} {s : Step α} (fs : FS α) (h : touches t s = false) :
    ∀ f ∈ torn fs s, f t = fs t := by
  intro f hf
  unfold torn at hf
  split at hf
  · obtain ⟨n, _, rfl⟩ := List.mem_map.mp hf
    exact apply_untouched (s := .append _ (List.take n _)) fs h
  · cases hf

theorem mem_crashStates_cons {fs f : FS α} {s : Step α} {ss : List (Step α)} :
    f ∈ crashStates fs (s :: ss) ↔ f = fs ∨ f ∈ torn fs s ∨ f ∈ crashStates (apply fs s) ss := by
  show f ∈ (fs :: torn fs s) ++ crashStates (apply fs s) ss ↔ _
  rw [List.cons_append, List.mem_cons, List.mem_append]

theorem self_mem_crashStates (fs : FS α) (ss : List (Step α)) : fs ∈ crashStates fs ss := by
  cases ss with
  | nil => exact List.mem_singleton_self fs
  | cons s ss => exact mem_crashStates_cons.mpr (Or.inl rfl)

theorem crash_untouched {t : Path} {ss : List (Step α)} (h : ∀ s ∈ ss, touches t s = false) (fs : FS α) :
    ∀ f ∈ crashStates fs ss, f t = fs t := by
  induction ss generalizing fs with
  | nil => intro f hf; rw [List.mem_singleton.mp hf]
  | cons s ss ih =>
    intro f hf
    have hs := h s List.mem_cons_self
    rcases mem_crashStates_cons.mp hf with rfl | hf | hf
    · rfl
    · exact torn_untouched fs hs f hf
    · rw [ih (fun x hx => h x (List.mem_cons_of_mem _ hx)) _ f hf, apply_untouched fs hs]

theorem crashStates_append {fs f : FS α} {xs ys : List (Step α)} :
    f ∈ crashStates fs (xs ++ ys) ↔ f ∈ crashStates fs xs ∨ f ∈ crashStates (run fs xs) ys := by
  induction xs generalizing fs with
  | nil =>
    refine (or_iff_right_of_imp fun e => ?_).symm
    rw [List.mem_singleton.mp e]
    exact self_mem_crashStates fs ys
  | cons s ss ih => simp only [List.cons_append, mem_crashStates_cons, ih, run_cons, or_assoc]

theorem run_mem_crashStates (fs : FS α) (pre post : List (Step α)) :
    run fs pre ∈ crashStates fs (pre ++ post) :=
  crashStates_append.mpr (Or.inr (self_mem_crashStates _ _))

theorem final_mem_crashStates (fs : FS α) (ss : List (Step α)) : run fs ss ∈ crashStates fs ss := by
  simpa using run_mem_crashStates fs ss []

/-- Steps before and after `mid` that leave `t` alone add no crash state that shows anything else
    at `t` than the crash states of `mid` do. -/
theorem crash_frame {t : Path} {pre mid post : List (Step α)} (hpre : ∀ s ∈ pre, touches t s = false)
    (hpost : ∀ s ∈ post, touches t s = false) (fs : FS α) {v : Option (Node α)}
    (hmid : ∀ g ∈ crashStates (run fs pre) mid, g t = run fs pre t ∨ g t = v) :
    ∀ f ∈ crashStates fs (pre ++ mid ++ post), f t = fs t ∨ f t = v := by
  intro f hf
  rw [run_untouched hpre fs] at hmid
  rcases crashStates_append.mp hf with hf | hf
  · rcases crashStates_append.mp hf with hf | hf
    · exact Or.inl (crash_untouched hpre fs f hf)
    · exact hmid f hf
  · rw [crash_untouched hpost _ f hf, run_append]
    exact hmid _ (final_mem_crashStates _ _)

/-! ### crash states are the crash points the driver evaluates -/

theorem crashAt_zero_eq (fs : FS α) (s : Step α) (ss : List (Step α)) (p : Nat) :
    crashAt fs (s :: ss) 0 p =
      match s with
      | .append q b => if p < b.length then apply fs (.append q (b.take p)) else fs
      | _ => fs := rfl

theorem crashAt_zero {fs f : FS α} {s : Step α} (ss : List (Step α)) :
    f = fs ∨ f ∈ torn fs s ↔ ∃ p, f = crashAt fs (s :: ss) 0 p := by
  simp only [crashAt_zero_eq]
  unfold torn
  split
  · rename_i q b
    simp only [List.mem_map, List.mem_range]
    constructor
    · rintro (rfl | ⟨n, hn, rfl⟩)
      · exact ⟨b.length, (if_neg (Nat.lt_irrefl _)).symm⟩
      · exact ⟨n, (if_pos hn).symm⟩
    · rintro ⟨p, rfl⟩
      split
      · exact Or.inr ⟨p, ‹_›, rfl⟩
      · exact Or.inl rfl
  · simp only [List.not_mem_nil, or_false, exists_const]

theorem mem_crashStates_iff_crashAt {fs f : FS α} {ss : List (Step α)} :
    f ∈ crashStates fs ss ↔ ∃ k p, f = crashAt fs ss k p := by
  induction ss generalizing fs with
  | nil => exact ⟨fun h => ⟨0, 0, List.mem_singleton.mp h⟩, fun ⟨_, _, h⟩ => List.mem_singleton.mpr h⟩
  | cons s ss ih =>
    rw [mem_crashStates_cons, ← or_assoc, crashAt_zero ss, ih]
    constructor
    · rintro (⟨p, h⟩ | ⟨k, p, h⟩)
      · exact ⟨0, p, h⟩
      · exact ⟨k + 1, p, h⟩
    · rintro ⟨_ | k, p, h⟩
      · exact Or.inl ⟨p, h⟩
      · exact Or.inr ⟨k, p, h⟩

theorem apply_rename_some {fs : FS α} {a t : Path} {x : Node α} (h1 : under a t = false)
    (h2 : under t a = false) (ha : fs a = some x) :
    apply fs (.rename a t) t = some x ∧ apply fs (.rename a t) a = none := by
  simp [apply, ha, h1, h2, under_refl]

theorem apply_rename_onto {fs : FS α} {a t : Path} (h1 : under a t = false) (h2 : under t a = false) :
    apply fs (.rename a t) t = fs t ∨ apply fs (.rename a t) t = fs a := by
  cases ha : fs a with
  | none => exact Or.inl (by dsimp only [apply]; rw [ha])
  | some x => exact Or.inr (apply_rename_some h1 h2 ha).1

theorem atomic_replace_framed {t tmp : Path} (hu : unrelated tmp t = true) (pre post : List (Step α))
    (hpre : ∀ s ∈ pre, touches t s = false) (hpost : ∀ s ∈ post, touches t s = false) (fs : FS α) :
    ∀ f ∈ crashStates fs (pre ++ [.rename tmp t] ++ post), f t = fs t ∨ f t = run fs pre tmp := by
  have ⟨h1, h2⟩ := unrelated_iff.mp hu
  refine crash_frame hpre hpost fs fun g hg => ?_
  -- `g` is the state before the rename or the one after it
  rcases mem_crashStates_cons.mp hg with rfl | hg | hg
  · exact Or.inl rfl
  · cases hg
  · rw [List.mem_singleton.mp hg]
    exact apply_rename_onto h1 h2

theorem atomic_replace_last {t tmp : Path} (hu : unrelated tmp t = true) (pre : List (Step α))
    (hpre : ∀ s ∈ pre, touches t s = false) (fs : FS α) :
    ∀ f ∈ crashStates fs (pre ++ [.rename tmp t]), f t = fs t ∨ f t = run fs pre tmp :=
  fun f hf => atomic_replace_framed hu pre [] hpre (fun _ h => nomatch h) fs f (by rwa [List.append_nil])

/-- Every step that touches `t` is a rename onto `t` of an unrelated path.  The third clause of
    `stepOk`, that the source is not open for writing, is left out: it is what makes the model
    (writes addressed by path) agree with the kernel and is checked on the recorded trace; no
    theorem about crash states needs it. -/
def RenameOnly (t : Path) (steps : List (Step α)) : Prop :=
  ∀ s ∈ steps, touches t s = true → ∃ a, s = .rename a t ∧ under a t = false ∧ under t a = false

theorem stepOk_iff {t : Path} {o : List Path} {s : Step α} :
    stepOk t o s = true ↔ touches t s = false ∨
      ∃ a, s = .rename a t ∧ under a t = false ∧ under t a = false ∧ o.contains a = false := by
  -- a step that is no rename onto `t` must leave `t` alone
  have other (hs : ∀ a, s ≠ .rename a t) : (!touches t s) = true ↔ touches t s = false ∨
      ∃ a, s = .rename a t ∧ under a t = false ∧ under t a = false ∧ o.contains a = false :=
    (Iff.of_eq (Bool.not_eq_true' _)).trans ⟨Or.inl, fun h => h.elim id fun ⟨a, e, _⟩ => absurd e (hs a)⟩
  unfold stepOk
  split
  · rename_i a b
    split
    · subst b
      constructor
      · intro h
        simp only [Bool.and_eq_true, Bool.not_eq_true'] at h
        exact Or.inr ⟨a, rfl, h.1.1, h.1.2, h.2⟩
      · rintro (h | ⟨_, e, h1, h2, h3⟩)
        · cases (Bool.or_eq_false_iff.mp h).2.symm.trans (under_refl t)
        · cases e
          rw [h1, h2, h3]; rfl
    · rename_i hb
      exact other fun _ e => hb (Step.rename.inj e).2
  · rename_i hs
    exact other fun _ e => hs _ _ e

theorem atomicScan_cons (t : Path) (o : List Path) (s : Step α) (ss : List (Step α)) :
    atomicScan t o (s :: ss) = (stepOk t o s && atomicScan t (track o s) ss) := rfl

theorem atomicScan_renameOnly {t : Path} {steps : List (Step α)} {o : List Path}
    (h : atomicScan t o steps = true) : RenameOnly t steps := by
  induction steps generalizing o with
  | nil => intro s hs; cases hs
  | cons s ss ih =>
    rw [atomicScan_cons, Bool.and_eq_true] at h
    intro x hx hxt
    rcases List.mem_cons.mp hx with rfl | hx
    · rcases stepOk_iff.mp h.1 with h | ⟨a, e, h1, h2, _⟩
      · rw [hxt] at h; cases h
      · exact ⟨a, e, h1, h2⟩
    · exact ih h.2 x hx hxt

theorem atomicScan_append (t : Path) (o : List Path) (xs ys : List (Step α)) :
    atomicScan t o (xs ++ ys) = (atomicScan t o xs && atomicScan t (xs.foldl track o) ys) := by
  induction xs generalizing o with
  | nil => rfl
  | cons s ss ih => exact (congrArg (stepOk t o s && ·) (ih _)).trans (Bool.and_assoc ..).symm

theorem atomicScan_untouched {t : Path} {ss : List (Step α)} (h : ∀ s ∈ ss, touches t s = false)
    (o : List Path) : atomicScan t o ss = true := by
  induction ss generalizing o with
  | nil => rfl
  | cons s ss ih =>
    rw [atomicScan_cons, stepOk_iff.mpr (Or.inl (h s List.mem_cons_self)),
      ih (fun x hx => h x (List.mem_cons_of_mem _ hx))]
    rfl

/-- The crash-prefix theorem for the rename-only discipline: in every crash state the target
    shows its old node or exactly what some rename onto it moved in. -/
theorem renameOnly_crash {t : Path} {steps : List (Step α)} (h : RenameOnly t steps) (fs : FS α) :
    ∀ f ∈ crashStates fs steps,
      f t = fs t ∨ ∃ pre a post, steps = pre ++ .rename a t :: post ∧ f t = run fs pre a := by
  induction steps generalizing fs with
  | nil => intro f hf; exact Or.inl (by rw [List.mem_singleton.mp hf])
  | cons s ss ih =>
    intro f hf
    rcases mem_crashStates_cons.mp hf with rfl | hf | hf
    · exact Or.inl rfl
    · -- only a write can be torn, and a write leaves `t` alone
      refine Or.inl (torn_untouched fs (Bool.eq_false_iff.mpr fun hts => ?_) f hf)
      obtain ⟨a, rfl, _⟩ := h s List.mem_cons_self hts
      cases hf
    · rcases ih (fun x hx => h x (List.mem_cons_of_mem _ hx)) _ f hf with h1 | ⟨pre, a, post, rfl, h2⟩
      · rw [h1]
        cases hts : touches t s with
        | false => exact Or.inl (apply_untouched fs hts)
        | true =>
          obtain ⟨a, rfl, ha1, ha2⟩ := h s List.mem_cons_self hts
          exact (apply_rename_onto ha1 ha2).imp id fun e => ⟨[], a, ss, rfl, e⟩
      · exact Or.inr ⟨s :: pre, a, post, rfl, h2⟩

theorem touches_read (t p : Path) : touches t (Step.read p : Step α) = false := rfl

theorem run_read_cons (fs : FS α) (p : Path) (ss : List (Step α)) : run fs (.read p :: ss) = run fs ss := rfl

theorem atomicScan_read_cons (t : Path) (o : List Path) (p : Path) (ss : List (Step α)) :
    atomicScan t o (.read p :: ss) = atomicScan t o ss := rfl

theorem readLog_cons (fs : FS α) (s : Step α) (ss : List (Step α)) :
    readLog fs (s :: ss) =
      match s with
      | .read p => (p, fs p) :: readLog fs ss
      | _ => readLog (apply fs s) ss := rfl

/-- A reader sees the state after a prefix of the steps (never a torn one: a read is a step). -/
theorem readLog_prefix {fs : FS α} {steps : List (Step α)} {p : Path} {v : Option (Node α)}
    (h : (p, v) ∈ readLog fs steps) : ∃ pre post, steps = pre ++ .read p :: post ∧ v = run fs pre p := by
  induction steps generalizing fs with
  | nil => cases h
  | cons s ss ih =>
    rw [readLog_cons] at h
    split at h
    · rcases List.mem_cons.mp h with e | h
      · cases e
        exact ⟨[], ss, rfl, rfl⟩
      · obtain ⟨pre, post, rfl, hv⟩ := ih h
        exact ⟨_ :: pre, post, rfl, hv⟩
    · obtain ⟨pre, post, rfl, hv⟩ := ih h
      exact ⟨s :: pre, post, rfl, hv⟩

theorem readLog_crashState {fs : FS α} {steps : List (Step α)} {p : Path} {v : Option (Node α)}
    (h : (p, v) ∈ readLog fs steps) : ∃ f ∈ crashStates fs steps, v = f p := by
  obtain ⟨pre, post, rfl, hv⟩ := readLog_prefix h
  exact ⟨run fs pre, run_mem_crashStates _ _ _, hv⟩

theorem mem_crashStates_of_insert_read {fs f : FS α} {p : Path} {pre post : List (Step α)}
    (h : f ∈ crashStates fs (pre ++ .read p :: post)) : f ∈ crashStates fs (pre ++ post) := by
  rw [crashStates_append, mem_crashStates_cons] at h
  rcases h with h | rfl | h | h
  · exact crashStates_append.mpr (Or.inl h)
  · exact run_mem_crashStates _ _ _
  · cases h
  · exact crashStates_append.mpr (Or.inr h)

end Signac.Fs
