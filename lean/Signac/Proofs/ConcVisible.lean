/-
  Proofs/ConcVisible — frame facts: who can change a published file, and the visibility of a
  completed document write (C12, "a write completed by one process is seen by every later read").
-/
import Signac.Proofs.ConcInv
namespace Signac.Conc
variable {SP DV : Type} {hash : SP → JobId}

/-- the paths an instruction may modify -/
def writes : Instr SP DV → Path → Prop
  | .mkdir q, p => p = q
  | .openw q, p => p = q
  | .write q _, p => p = q
  | .rename q r, p => p = q ∨ p = r
  | _, _ => False

theorem exec_frame (fs : FS SP DV) (ins : Instr SP DV) (p : Path) (h : ¬ writes ins p) :
    (exec fs ins).1.get p = fs.get p := by
  cases ins with
  | isdir q => simp only [exec]; split <;> rfl
  | isfile q => simp only [exec]; split <;> rfl
  | pexists q => simp only [exec]; split <;> rfl
  | read q => simp only [exec]; split <;> rfl
  | close q => rfl
  | listdir q => simp only [exec]; split <;> rfl
  | mkdir q =>
    simp only [writes] at h
    simp only [exec]; split
    · rfl
    · split
      · simp only [get_set]; split
        · rename_i e; exact absurd e.symm h
        · rfl
      · rfl
  | openw q =>
    simp only [writes] at h
    simp only [exec]; split
    · rfl
    · split
      · simp only [get_set]; split
        · rename_i e; exact absurd e.symm h
        · rfl
      · rfl
  | write q c =>
    simp only [writes] at h
    simp only [exec]; split
    · simp only [get_set]; split
      · rename_i e; exact absurd e.symm h
      · rfl
    · rfl
  | rename q r =>
    simp only [writes, not_or] at h
    simp only [exec]; split
    · split
      · rfl
      · split
        · simp only [get_set, get_del]; split
          · rename_i e; exact absurd e.symm h.2
          · split
            · rename_i e; exact absurd e.symm h.1
            · rfl
        · rfl
    · rfl
    · rfl

theorem next_writes {a : Nat} {st : AState SP DV} {ins : Instr SP DV} {p : Path}
    (hn : next hash a st = some ins) (hw : writes ins p) :
    (st.phase = .proj .mkdir ∧ p = .ws) ∨ (∃ v, st.phase = .ini .mkdir v ∧ p = .jobdir (hash v)) ∨
    ∃ n i k c, st.phase = .save n i k c ∧ (p = .tmp i k a ∨ n = .rename ∧ p = .file i k) := by
  cases hph : st.phase with
  | fin => cases (nextOf a hph).symm.trans hn
  | proj n => cases n <;> obtain rfl := next_at a hph hn <;> first | exact hw.elim | exact .inl ⟨rfl, hw⟩
  | lite v => obtain rfl := next_at a hph hn; exact hw.elim
  | ini n v =>
    cases n <;> obtain rfl := next_at a hph hn <;> first | exact hw.elim | exact .inr (.inl ⟨v, rfl, hw⟩)
  | dload v => obtain rfl := next_at a hph hn; exact hw.elim
  | len => obtain rfl := next_at a hph hn; exact hw.elim
  | save n i k c =>
    refine .inr (.inr ⟨n, i, k, c, rfl, ?_⟩)
    cases n with
    | rename => obtain rfl := next_at a hph hn; exact hw.imp id fun h => ⟨rfl, h⟩
    | _ => obtain rfl := next_at a hph hn; first | exact hw.elim | exact .inl hw

/-- a published file is only ever written by the final `rename` of a save of exactly that file -/
theorem next_writes_file {a : Nat} {st : AState SP DV} {ins : Instr SP DV} {i : JobId} {k : Kind}
    (hn : next hash a st = some ins) (hw : writes ins (.file i k)) :
    ∃ c, st.phase = .save .rename i k c := by
  obtain ⟨_, h⟩ | ⟨_, _, h⟩ | ⟨n, j, k', c, hph, h | ⟨rfl, h⟩⟩ := next_writes hn hw <;> cases h
  exact ⟨c, hph⟩

/-- a job directory that appears was made by the `mkdir` of an `init` in progress -/
theorem new_jobdir {fs : FS SP DV} {a : Nat} {st : AState SP DV} {ins : Instr SP DV} {i : JobId}
    (hn : next hash a st = some ins) (hd : ¬ IsDir fs (.jobdir i))
    (hd' : IsDir (exec fs ins).1 (.jobdir i)) : ∃ v, st.phase = .ini .mkdir v ∧ hash v = i := by
  have hw : writes ins (.jobdir i) := Classical.byContradiction fun hnw =>
    hd (by simpa only [IsDir, exec_frame _ _ _ hnw] using hd')
  obtain ⟨_, h⟩ | ⟨v, hph, h⟩ | ⟨_, _, _, _, _, h | ⟨_, h⟩⟩ := next_writes hn hw <;> cases h
  exact ⟨v, hph, rfl⟩

theorem sysStep_frame {s : Sys SP DV} {b : Nat} {i : JobId} {k : Kind}
    (h : ∀ st, s.actors[b]? = some st → ∀ c, st.phase ≠ .save .rename i k c) :
    (sysStep hash s b).fs.get (.file i k) = s.fs.get (.file i k) := by
  rcases sysStep_cases (hash := hash) s b with ⟨e, _⟩ | ⟨st, ins, hst, hn, e⟩ <;> rw [e]
  refine exec_frame _ _ _ fun hw => ?_
  obtain ⟨c, hc⟩ := next_writes_file hn hw
  exact h st hst c hc

theorem sysStep_rename {s : Sys SP DV} (h : SysInv hash s) {a : Nat} {st : AState SP DV}
    {i : JobId} {k : Kind} {c : Content SP DV}
    (hst : s.actors[a]? = some st) (hph : st.phase = .save .rename i k c) :
    sysStep hash s a = { fs := (s.fs.del (.tmp i k a)).set (.file i k) (.file c),
                         actors := s.actors.set a (resume hash st .ok) } := by
  have hp := (h.actors a st hst).phase
  rw [hph] at hp
  rw [sysStep_eq hst (nextOf a hph), exec_save_rename h.fs hp.1]

theorem rename_publishes {s : Sys SP DV} (h : SysInv hash s) {a : Nat} {st : AState SP DV}
    {i : JobId} {k : Kind} {c : Content SP DV}
    (hst : s.actors[a]? = some st) (hph : st.phase = .save .rename i k c) :
    (sysStep hash s a).fs.get (.file i k) = some (.file c) := by
  rw [sysStep_rename h hst hph]; exact get_set_self ..

/-- no step of the schedule is the completing rename of a save of `file i k` -/
def NoRenameTo (hash : SP → JobId) (i : JobId) (k : Kind) : Sys SP DV → List Nat → Prop
  | _, [] => True
  | s, b :: rest => (∀ st, s.actors[b]? = some st → ∀ c, st.phase ≠ .save .rename i k c) ∧
      NoRenameTo hash i k (sysStep hash s b) rest

def isRenameOf (i : JobId) (k : Kind) : Phase SP DV → Bool
  | .save .rename j k' _ => decide (j = i) && decide (k' = k)
  | _ => false

/-- executable form of `NoRenameTo` (for concrete instances) -/
def noRenameToB (hash : SP → JobId) (i : JobId) (k : Kind) : Sys SP DV → List Nat → Bool
  | _, [] => true
  | s, b :: rest =>
    (match s.actors[b]? with
     | some st => !isRenameOf i k st.phase
     | none => true) && noRenameToB hash i k (sysStep hash s b) rest

theorem noRenameTo_of_B {i : JobId} {k : Kind} {s : Sys SP DV} {sched : List Nat}
    (h : noRenameToB hash i k s sched = true) : NoRenameTo hash i k s sched := by
  induction sched generalizing s with
  | nil => trivial
  | cons b rest ih =>
    simp only [noRenameToB, Bool.and_eq_true] at h
    refine ⟨?_, ih h.2⟩
    intro st hst c hph
    simp [hst, hph, isRenameOf] at h

theorem run_frame {s : Sys SP DV} {i : JobId} {k : Kind} (sched : List Nat)
    (h : NoRenameTo hash i k s sched) :
    (run hash s sched).fs.get (.file i k) = s.fs.get (.file i k) := by
  induction sched generalizing s with
  | nil => rfl
  | cons b rest ih =>
    obtain ⟨h1, h2⟩ := h
    simp only [run]
    rw [ih h2, sysStep_frame h1]

end Signac.Conc
