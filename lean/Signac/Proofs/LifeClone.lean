/- `Project.clone` satisfies `CloneSpec` under every event schedule; as long as the state-point
   file is not completely copied the destination is absent or reported by check(). -/
import Signac.Proofs.LifeRemoval
namespace Signac.Life
variable {Sp : Type}

/-- the steps of a copy of `S` into `dst` -/
inductive CpLike (dst : Key) (S : JobDir Sp) : Step Sp → Prop
  | mk (p : String) : CpLike dst S (.cpMkdir dst p)
  | op (r : Ref) : CpLike dst S (.cpOpen dst r)
  | wr (r : Ref) : CpLike dst S (.cpWrite dst r (itemContent S r))

theorem copyList_cpLike (S : JobDir Sp) (dst : Key) :
    ∀ (rs : List Ref) (errs : Bool) (failed : List String), Prog.All (CpLike dst S) (copyList S dst rs errs failed)
  | [], errs, failed => .done _
  | r :: rs, errs, failed => by
    have ih := copyList_cpLike S dst rs
    simp only [copyList]
    refine .ite (ih _ _) ?_
    split
    · exact .step' (.mk _) (ih _ _) fun _ => ih _ _
    · refine .step' (.op _) ?_ fun _ => ih _ _
      dsimp only
      split
      · exact ih _ _
      · exact .step' (.wr _) (ih _ _) fun _ => ih _ _

theorem cloneProg_all (src dst : Key) (order : List Ref) {ks : List Key} (hd : dst ∈ ks) :
    Prog.All (Within (Sp := Sp) ks) (cloneProg src dst order) :=
  .look _ fun w => by
    split
    · exact .done _
    · exact .step' (within_one hd)
        ((copyList_cpLike _ dst order false []).mono fun _ hs => by cases hs <;> exact within_one hd)
        fun _ => .ite (.done _) (.ite (.done _) (.done _))

theorem copyList_ok (C : Codec Sp) (ev : Nat → Option Ev) (S : JobDir Sp) (dst : Key) :
    ∀ (rs : List Ref) (errs : Bool) (failed : List String) (a : Acc Sp) (w : World Sp),
      (exec C ev (copyList S dst rs errs failed) a w).res = .ok →
      errs = false ∧ (exec C ev (copyList S dst rs errs failed) a w).acc.faulted = a.faulted
  | [], errs, failed, a, w => by
    cases errs
    · exact fun _ => ⟨rfl, rfl⟩
    · exact fun h => Res.noConfusion h
  | r :: rs, errs, failed, a, w => by
    have ih := copyList_ok C ev S dst rs
    have ihT : ∀ failed a w, (exec C ev (copyList S dst rs true failed) a w).res ≠ .ok :=
      fun failed a w h => Bool.noConfusion (ih true failed a w h).1
    let P : Acc Sp → Outcome Sp → Prop := fun a o => o.res = .ok → errs = false ∧ o.acc.faulted = a.faulted
    simp only [copyList]
    refine exec_ite C ev (P a) _ _ a w (fun _ => ih _ _ _ _) fun _ => ?_
    split
    · exact exec_step_raise C ev (P a) _ _ a w Res.noConfusion (fun _ => Res.noConfusion)
        (fun _ _ h => absurd h (ihT _ _ _)) (fun _ _ => ih _ _ _ _)
    · refine exec_step_raise C ev (P a) _ _ a w Res.noConfusion (fun _ => Res.noConfusion)
        (fun _ _ h => absurd h (ihT _ _ _)) fun w' _ => ?_
      show P a (exec C ev (match itemContent S _ with | .junk "" => _ | c => _) _ w')
      split
      · exact ih _ _ _ _
      · exact exec_step_raise C ev (P a) _ _ _ w' Res.noConfusion (fun _ => Res.noConfusion)
          (fun _ _ h => absurd h (ihT _ _ _)) (fun _ _ => ih _ _ _ _)

/-- `clone` of an existing source under any schedule: nothing happened and no normal return, or
    the destination was absent, has been created empty, and the copy runs -/
theorem clone_rule (C : Codec Sp) (ev : Nat → Option Ev) (src dst : Key) (order : List Ref) (a : Acc Sp)
    (w : World Sp) (S : JobDir Sp) (hS : w src = some S) (Q : Outcome Sp → Prop)
    (hfail : ∀ r a', r ≠ .ok → Q ⟨w, r, a'⟩)
    (hcopy : w dst = none →
      Q (exec C ev (copyList S dst order false []) (a.ok (.cpMkdir dst "")) (upd w dst (some {})))) :
    Q (exec C ev (cloneProg src dst order) a w) := by
  have hexc : ∀ n a', Q ⟨w, .exc n, a'⟩ := fun n a' => hfail _ a' Res.noConfusion
  simp only [cloneProg]
  rw [exec]
  simp only [hS]
  refine exec_step_raise C ev Q _ _ a w (hfail _ _ Res.noConfusion) ?_ ?_ ?_
  · intro t; exact hfail _ _ Res.noConfusion
  · exact fun e a' => exec_ite C ev Q _ _ a' w (fun _ => hexc _ _) fun _ =>
      exec_ite C ev Q _ _ a' w (fun _ => hexc _ _) fun _ => hexc _ _
  · intro w' hw'
    cases hd : w dst with
    | some d => exact nomatch (apply_cpMkdir_exists C hd).symm.trans hw'
    | none => cases (apply_cpMkdir_root C hd).symm.trans hw'; exact hcopy hd

theorem clone_okClean (C : Codec Sp) (ev : Nat → Option Ev) (src dst : Key) (order : List Ref)
    (a : Acc Sp) (w : World Sp) : OkClean a (exec C ev (cloneProg src dst order) a w) := by
  cases hS : w src with
  | none =>
    simp only [cloneProg, exec, hS]
    exact .of_not_ok Res.noConfusion
  | some S =>
    exact clone_rule C ev src dst order a w S hS (OkClean a) (fun _ _ hr => .of_not_ok hr)
      (fun _ h => (copyList_ok C ev S dst order false [] _ _ h).2)

/-- the destination is absent or a partial copy of `S` -/
def PartialAt (dst : Key) (S : JobDir Sp) (w : World Sp) : Prop :=
  w dst = none ∨ ∃ d, w dst = some d ∧ SpPartial S d

theorem spPartial_put (C : Codec Sp) (S d : JobDir Sp) (r : Ref) (c : Content Sp) (h : SpPartial S d)
    (hc : r = .sp → (some c = S.sp ∨ ∃ s, c = .junk s)) : SpPartial S (putItem C d r c) := by
  cases r with
  | sp =>
    rcases hc rfl with hc | ⟨s, rfl⟩
    · exact Or.inr (Or.inl hc)
    · exact Or.inr (Or.inr ⟨s, rfl⟩)
  | _ => exact h

theorem itemContent_sp (S : JobDir Sp) : some (itemContent S .sp) = S.sp ∨ ∃ s, itemContent S .sp = .junk s := by
  simp only [itemContent]
  cases S.sp with
  | none => exact Or.inr ⟨"", rfl⟩
  | some c => exact Or.inl rfl

theorem partialAt_apply (C : Codec Sp) (dst : Key) (S : JobDir Sp) (s : Step Sp) (w w' : World Sp)
    (hs : CpLike dst S s) (hR : PartialAt dst S w) (h : apply C w s = .ok w') : PartialAt dst S w' := by
  have hput : ∀ d r c, (r = .sp → (some c = S.sp ∨ ∃ s, c = .junk s)) → SpPartial S d →
      PartialAt dst S (upd w dst (some (putItem C d r c))) :=
    fun d r c hc hp => .inr ⟨_, upd_same .., spPartial_put C S d r c hp hc⟩
  rcases hR with hR | ⟨d, hd, hp⟩
  · cases hs with
    | mk p =>
      simp only [apply, hR] at h
      split at h <;> cases h
      exact .inr ⟨_, upd_same .., .inl rfl⟩
    | _ => simp only [apply, hR] at h; cases h
  · cases hs with
    | mk p =>
      by_cases hp0 : p = ""
      · subst hp0; exact nomatch (apply_cpMkdir_exists C hd).symm.trans h
      · cases (apply_cpMkdir C hd hp0).symm.trans h; exact hput d _ _ (fun h => nomatch h) hp
    | op r => cases (apply_cpOpen C hd r).symm.trans h; exact hput d r _ (fun _ => .inr ⟨"", rfl⟩) hp
    | wr r =>
      cases (apply_cpWrite C hd r _).symm.trans h
      exact hput d r _ (fun hr => hr ▸ itemContent_sp S) hp

theorem partialAt_torn (C : Codec Sp) (dst : Key) (S : JobDir Sp) (s : Step Sp) (w : World Sp) (t : Nat)
    (hs : CpLike dst S s) (hR : PartialAt dst S w) : PartialAt dst S (tornApply C w s t) := by
  cases hs with
  | wr r =>
    rcases hR with hR | ⟨d, hd, hp⟩
    · simp only [tornApply, hR]; exact Or.inl hR
    · simp only [tornApply, hd]
      exact Or.inr ⟨_, upd_same .., spPartial_put C S d _ _ hp (fun _ => Or.inr ⟨_, rfl⟩)⟩
  | _ => exact hR

theorem clone_spec (C : Codec Sp) (ev : Nat → Option Ev) (src dst : Key) (hsd : src ≠ dst) (order : List Ref)
    (w : World Sp) (S : JobDir Sp) (hS : w src = some S) :
    CloneSpec src dst w S (run C ev (cloneProg src dst order) w) := by
  refine ⟨?_, ?_, ?_, ?_⟩
  · exact exec_frame C ev [dst] (cloneProg_all src dst order (List.mem_singleton.mpr rfl)) w {}
      (fun h => hsd (List.mem_singleton.mp h))
  · intro hsome
    exact clone_rule C ev src dst order {} w S hS (fun o => o.w dst = w dst ∧ o.res ≠ .ok)
      (fun r _ hr => ⟨rfl, hr⟩) (fun hd => by rw [hd] at hsome; cases hsome)
  · intro hd
    refine clone_rule C ev src dst order {} w S hS (fun o => PartialAt dst S o.w) (fun _ _ _ => .inl hd) fun _ => ?_
    exact exec_inv C ev (CpLike dst S) (PartialAt dst S) (fun s w w' => partialAt_apply C dst S s w w')
      (fun s w t => partialAt_torn C dst S s w t) (copyList_cpLike S dst order false []) _ _
      (.inr ⟨_, upd_same .., .inl rfl⟩)
  · intro hf hok
    exact (clone_okClean C ev src dst order {} w).not_ok_of_faulted hf hok

/-- while the destination's state-point file is not the complete copy of the source's, the
    destination is absent or reported by `check()` -/
theorem clone_undetected_only_after_sp (C : Codec Sp) (src dst : Key) (w : World Sp) (S : JobDir Sp)
    (o : Outcome Sp) (h : CloneSpec src dst w S o) (hd : w dst = none)
    (hsp : ∀ d, o.w dst = some d → d.sp ≠ S.sp) : o.w dst = none ∨ corruptAt C o.w dst = true := by
  rcases h.2.2.1 hd with h0 | ⟨d, hd', hp⟩
  · exact Or.inl h0
  · right
    rcases hp with hp | hp | ⟨s, hp⟩
    · exact corrupt_of_sp_none C o.w dst d hd' hp
    · exact absurd hp (hsp d hd')
    · simp only [corruptAt_some C hd', JobDir.valid, hp, Content.validFor, Bool.not_false]

end Signac.Life
