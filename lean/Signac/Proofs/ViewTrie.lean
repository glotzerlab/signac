/-
  Proofs/ViewTrie — the tree of `_build_tree` / `_color_path` / `_find_dead_branches`:
  a branch is reported dead exactly when it is a node that no new link path passes through.
-/
import Signac.LinkedView
namespace Signac.LV

mutual
  /-- the colour of the node reached by `path`, if there is one -/
  def tfind : Path → Trie → Option Bool
    | [], .node c _ => some c
    | n :: rest, .node _ ks => tfindKids n rest ks
  def tfindKids (n : String) (rest : Path) : List (String × Trie) → Option Bool
    | [] => none
    | (m, t) :: ks => if m = n then tfind rest t else tfindKids n rest ks
end

mutual
  /-- child names are distinct at every node -/
  def twf : Trie → Prop
    | .node _ ks => twfKids ks
  def twfKids : List (String × Trie) → Prop
    | [] => True
    | (n, t) :: ks => (∀ x ∈ ks, x.1 ≠ n) ∧ twf t ∧ twfKids ks
end

theorem tfind_fresh (q : Path) : tfind q (.node false []) = if q = [] then some false else none := by
  cases q <;> rfl

/-- looking below a modified child: when `f` acts on the colour at `rest` as `g` does, and `g`
    does not tell a fresh node from a missing one -/
theorem tfindKids_modify {m n : String} {rest : Path} {f : Trie → Trie} {g : Option Bool → Option Bool}
    (hf : ∀ t, tfind rest (f t) = g (tfind rest t)) (hg : g (tfind rest (.node false [])) = g none)
    (ks : List (String × Trie)) :
    tfindKids n rest (modifyKid m f ks) =
      if m = n then g (tfindKids n rest ks) else tfindKids n rest ks := by
  induction ks with
  | nil =>
    rw [modifyKid, tfindKids, tfindKids, tfindKids, hf, hg]
  | cons x xs ih =>
    obtain ⟨k, t⟩ := x
    rw [modifyKid]
    by_cases hk : k = m
    · rw [if_pos hk, tfindKids, tfindKids, hf, hk]
      by_cases h : m = n
      · simp only [if_pos h]
      · simp only [if_neg h]
    · rw [if_neg hk, tfindKids, tfindKids, ih]
      by_cases h : m = n
      · simp only [if_pos h, if_neg (h ▸ hk)]
      · simp only [if_neg h]

theorem tfindKids_fresh {n : String} {ks : List (String × Trie)} (h : ∀ x ∈ ks, x.1 ≠ n)
    (rest : Path) : tfindKids n rest ks = none := by
  induction ks with
  | nil => rfl
  | cons x xs ih =>
    rw [tfindKids, if_neg (h x List.mem_cons_self), ih fun y hy => h y (List.mem_cons_of_mem _ hy)]

theorem tfind_touch (col : Bool) (p : Path) : ∀ (q : Path) (t : Trie),
    tfind q (touch col p t) =
      if q <+: p then some ((tfind q t).getD false || col) else tfind q t := by
  induction p with
  | nil =>
    intro q t
    cases t with
    | node c ks => cases q <;> simp [touch, tfind]
  | cons a p ih =>
    intro q t
    cases t with
    | node c ks =>
      cases q with
      | nil => simp [touch, tfind]
      | cons n rest =>
        rw [touch, tfind, tfind, tfindKids_modify
          (g := fun o => if rest <+: p then some (o.getD false || col) else o) (ih rest) (by
            rw [tfind_fresh]; by_cases hr : rest = [] <;> simp [hr])]
        by_cases han : a = n <;> simp [han, List.cons_prefix_cons, eq_comm]

theorem tfind_nil_touch (col : Bool) (p : Path) (t : Trie) :
    tfind [] (touch col p t) = (tfind [] t).map (· || col) := by
  rw [tfind_touch, if_pos List.nil_prefix]
  cases t; rfl

theorem modifyKid_fresh {m n : String} (f : Trie → Trie) {ks : List (String × Trie)}
    (h : ∀ x ∈ ks, x.1 ≠ n) (hm : m ≠ n) : ∀ x ∈ modifyKid m f ks, x.1 ≠ n := by
  induction ks with
  | nil => intro x hx; rw [List.mem_singleton.mp hx]; exact hm
  | cons y ys ih =>
    rw [modifyKid]
    split
    · exact List.forall_mem_cons.mpr ⟨h y List.mem_cons_self, fun x hx => h x (List.mem_cons_of_mem _ hx)⟩
    · exact List.forall_mem_cons.mpr ⟨h y List.mem_cons_self,
        ih fun x hx => h x (List.mem_cons_of_mem _ hx)⟩

theorem twfKids_modify (m : String) (f : Trie → Trie) (hf : ∀ t, twf t → twf (f t))
    (ks : List (String × Trie)) (h : twfKids ks) : twfKids (modifyKid m f ks) := by
  induction ks with
  | nil => exact ⟨nofun, hf _ trivial, trivial⟩
  | cons x xs ih =>
    obtain ⟨k, t⟩ := x
    obtain ⟨h1, h2, h3⟩ := h
    rw [modifyKid]
    split
    · exact ⟨h1, hf t h2, h3⟩
    · next hk => exact ⟨modifyKid_fresh f h1 (Ne.symm hk), h2, ih h3⟩

theorem twf_touch (col : Bool) (p : Path) : ∀ t, twf t → twf (touch col p t) := by
  induction p with
  | nil => intro t h; cases t; simpa [touch, twf] using h
  | cons a p ih =>
    intro t h
    cases t with
    | node c ks =>
      simp only [touch, twf] at h ⊢
      exact twfKids_modify a (touch col p) ih ks h

theorem twf_foldl_touch (col : Bool) (ps : List Path) : ∀ t, twf t → twf (ps.foldl (fun t p => touch col p t) t) := by
  induction ps with
  | nil => intro t h; exact h
  | cons p ps ih => intro t h; exact ih _ (twf_touch col p t h)

theorem tfind_foldl_touch (col : Bool) (ps : List Path) : ∀ (t : Trie) (q : Path),
    tfind q (ps.foldl (fun t p => touch col p t) t) =
      if ∃ p ∈ ps, q <+: p then some ((tfind q t).getD false || col) else tfind q t := by
  induction ps with
  | nil => intro t q; simp
  | cons p ps ih =>
    intro t q
    rw [List.foldl_cons, ih, tfind_touch]
    simp only [List.mem_cons, or_and_right, exists_or, exists_eq_left]
    by_cases h1 : q <+: p <;> by_cases h2 : ∃ p' ∈ ps, q <+: p' <;> simp [h1, h2]

mutual
  theorem mem_deadBranches (br : Path) : ∀ (t : Trie), twf t → ∀ b,
      b ∈ deadBranches br t ↔ ∃ q, b = br ++ q ∧ tfind q t = some false
    | .node c ks, h, b => by
      simp only [deadBranches, List.mem_append]
      have ih := mem_deadKids br ks (by simpa [twf] using h) b
      constructor
      · rintro (h1 | h1)
        · obtain ⟨n, rest, hb, hf⟩ := ih.mp h1
          exact ⟨n :: rest, hb, by simpa [tfind] using hf⟩
        · cases c with
          | true => simp at h1
          | false =>
            simp only [Bool.false_eq_true, if_false, List.mem_singleton] at h1
            exact ⟨[], by simp [h1], by simp [tfind]⟩
      · rintro ⟨q, hb, hf⟩
        cases q with
        | nil =>
          right
          simp only [tfind, Option.some.injEq] at hf
          subst hf
          simp [hb]
        | cons n rest =>
          left
          exact ih.mpr ⟨n, rest, hb, by simpa [tfind] using hf⟩
  theorem mem_deadKids (br : Path) : ∀ (ks : List (String × Trie)), twfKids ks → ∀ b,
      b ∈ deadKids br ks ↔ ∃ n rest, b = br ++ n :: rest ∧ tfindKids n rest ks = some false
    | [], _, b => by simp [deadKids, tfindKids]
    | (m, t) :: ks, h, b => by
      simp only [twfKids] at h
      simp only [deadKids, List.mem_append]
      have ih1 := mem_deadBranches (br ++ [m]) t h.2.1 b
      have ih2 := mem_deadKids br ks h.2.2 b
      constructor
      · rintro (h1 | h1)
        · obtain ⟨q, hb, hf⟩ := ih1.mp h1
          exact ⟨m, q, by simp [hb], by simp [tfindKids, hf]⟩
        · obtain ⟨n, rest, hb, hf⟩ := ih2.mp h1
          refine ⟨n, rest, hb, ?_⟩
          have hne : m ≠ n := fun e => by
            rw [← e, tfindKids_fresh h.1] at hf; cases hf
          simp [tfindKids, hne, hf]
      · rintro ⟨n, rest, hb, hf⟩
        by_cases hmn : m = n
        · subst hmn
          left
          simp only [tfindKids, if_true] at hf
          exact ih1.mpr ⟨rest, by simp [hb], hf⟩
        · right
          simp only [tfindKids, hmn, if_false] at hf
          exact ih2.mpr ⟨n, rest, hb, hf⟩
end

mutual
  theorem deadBranches_nodup (br : Path) : ∀ (t : Trie), twf t → (deadBranches br t).Nodup
    | .node c ks, h => by
      have hk : twfKids ks := by simpa [twf] using h
      simp only [deadBranches]
      rw [List.nodup_append]
      refine ⟨deadKids_nodup br ks hk, by cases c <;> simp, fun a ha b hb e => ?_⟩
      -- a dead kid is longer than `br`
      obtain ⟨n, rest, ha, _⟩ := (mem_deadKids br ks hk a).mp ha
      cases c with
      | true => cases hb
      | false =>
        rw [e, List.mem_singleton.mp hb] at ha
        exact absurd (congrArg List.length ha) (by simp)
  theorem deadKids_nodup (br : Path) : ∀ (ks : List (String × Trie)), twfKids ks → (deadKids br ks).Nodup
    | [], _ => by simp [deadKids]
    | (m, t) :: ks, h => by
      simp only [twfKids] at h
      simp only [deadKids]
      rw [List.nodup_append]
      refine ⟨deadBranches_nodup (br ++ [m]) t h.2.1, deadKids_nodup br ks h.2.2, fun a ha b hb e => ?_⟩
      -- a dead branch below `m` is not below another kid: names are distinct
      obtain ⟨q, ha, _⟩ := (mem_deadBranches (br ++ [m]) t h.2.1 a).mp ha
      obtain ⟨n, rest, hb, hf⟩ := (mem_deadKids br ks h.2.2 b).mp hb
      rw [← e, ha, List.append_assoc, List.append_cancel_left_eq, List.singleton_append,
        List.cons.injEq] at hb
      rw [← hb.1, tfindKids_fresh h.1] at hf
      cases hf
end

theorem twf_analysis (ex keys : List Path) : twf (colorAll keys (buildTree ex)) := by
  unfold colorAll buildTree
  exact twf_foldl_touch true keys _ (twf_foldl_touch false ex _ (by simp [twf, twfKids]))

/-- the tree of existing paths has an uncoloured node at the root and at every prefix of a path -/
theorem tfind_buildTree (ex : List Path) (b : Path) :
    tfind b (buildTree ex) = if b = [] ∨ ∃ e ∈ ex, b <+: e then some false else none := by
  rw [buildTree, tfind_foldl_touch, tfind_fresh]
  by_cases hb : b = []
  · simp [hb]
  · by_cases he : ∃ e ∈ ex, b <+: e <;> simp [he, hb]

/-- A branch is dead iff it is a node of the tree of existing paths (the root, or a prefix of
    an existing path) and no new link path passes through it. -/
theorem mem_dead_iff (ex keys : List Path) (b : Path) :
    b ∈ deadBranches [] (colorAll keys (buildTree ex)) ↔
      (b = [] ∨ ∃ e ∈ ex, b <+: e) ∧ ¬ ∃ k ∈ keys, b <+: k := by
  rw [mem_deadBranches [] _ (twf_analysis ex keys) b]
  simp only [List.nil_append, exists_eq_left', colorAll, tfind_foldl_touch, tfind_buildTree]
  by_cases hk : ∃ k ∈ keys, b <+: k
  · simp [hk]
  · by_cases hn : b = [] ∨ ∃ e ∈ ex, b <+: e <;> simp [hk, hn]

theorem dead_nodup (ex keys : List Path) : (deadBranches [] (colorAll keys (buildTree ex))).Nodup :=
  deadBranches_nodup [] _ (twf_analysis ex keys)

end Signac.LV
