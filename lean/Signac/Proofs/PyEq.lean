/-
  Python `==` on JSON-born values, the part that needs nothing but `PyVal`: the exact comparison of
  dyadic numbers `n / 2^e` is an equivalence with a compatible strict order; `==` of a number with
  anything goes through `numVal`; what `a == b` forces on `b` for each kind of `a`; `lookupKV`, and
  `==` of lists and of mappings entry by entry.  Core only.
-/
import Signac.PyVal
namespace Signac

/-! ### numbers -/

theorem two_pow_pos (e : Nat) : (0 : Int) < (2 : Int) ^ e := Int.pow_pos (by decide)

theorem numEq_iff (p q : Int × Nat) : numEq p q = true ↔ p.1 * (2 : Int) ^ q.2 = q.1 * (2 : Int) ^ p.2 :=
  beq_iff_eq

theorem numLt_iff (p q : Int × Nat) : numLt p q = true ↔ p.1 * (2 : Int) ^ q.2 < q.1 * (2 : Int) ^ p.2 :=
  decide_eq_true_iff

/-- Three numbers over the common denominator `2 ^ (p.2 + q.2 + s.2)`: their numerators compare
    as the numbers do, so every order fact about `numEq` / `numLt` is one about integers. -/
theorem num_common (p q s : Int × Nat) : ∃ x y z : Int,
    (numEq p q = true ↔ x = y) ∧ (numEq q s = true ↔ y = z) ∧ (numEq p s = true ↔ x = z)
    ∧ (numLt p q = true ↔ x < y) ∧ (numLt q s = true ↔ y < z) ∧ (numLt p s = true ↔ x < z) := by
  have scaleEq : ∀ (a b : Int × Nat) (r : Nat),
      numEq a b = true ↔ a.1 * (2 : Int) ^ (b.2 + r) = b.1 * (2 : Int) ^ (a.2 + r) := fun a b r => by
    rw [Int.pow_add, Int.pow_add, ← Int.mul_assoc, ← Int.mul_assoc,
      Int.mul_eq_mul_right_iff (Int.ne_of_gt (two_pow_pos r))]
    exact numEq_iff a b
  have scaleLt : ∀ (a b : Int × Nat) (r : Nat),
      numLt a b = true ↔ a.1 * (2 : Int) ^ (b.2 + r) < b.1 * (2 : Int) ^ (a.2 + r) := fun a b r => by
    rw [Int.pow_add, Int.pow_add, ← Int.mul_assoc, ← Int.mul_assoc, Int.mul_lt_mul_right (two_pow_pos r)]
    exact numLt_iff a b
  refine ⟨p.1 * (2 : Int) ^ (q.2 + s.2), q.1 * (2 : Int) ^ (p.2 + s.2), s.1 * (2 : Int) ^ (p.2 + q.2),
    scaleEq p q s.2, ?_, ?_, scaleLt p q s.2, ?_, ?_⟩
  · rw [Nat.add_comm p.2 s.2, Nat.add_comm p.2 q.2]; exact scaleEq q s p.2
  · rw [Nat.add_comm q.2 s.2]; exact scaleEq p s q.2
  · rw [Nat.add_comm p.2 s.2, Nat.add_comm p.2 q.2]; exact scaleLt q s p.2
  · rw [Nat.add_comm q.2 s.2]; exact scaleLt p s q.2

theorem numEq_refl (p : Int × Nat) : numEq p p = true := (numEq_iff p p).mpr rfl

theorem numEq_symm (p q : Int × Nat) : numEq p q = numEq q p := by
  rw [Bool.eq_iff_iff, numEq_iff, numEq_iff]
  exact eq_comm

theorem numEq_eucl {p q : Int × Nat} (h : numEq p q = true) (s : Int × Nat) :
    numEq p s = numEq q s := by
  obtain ⟨x, y, z, h1, h2, h3, _⟩ := num_common p q s
  rw [Bool.eq_iff_iff, h2, h3]
  rw [h1] at h
  omega

theorem numLt_congr_left {p q : Int × Nat} (h : numEq p q = true) (s : Int × Nat) :
    numLt p s = numLt q s := by
  obtain ⟨x, y, z, h1, _, _, _, h2, h3⟩ := num_common p q s
  rw [Bool.eq_iff_iff, h2, h3]
  rw [h1] at h
  omega

theorem numLt_trans {p q s : Int × Nat} (h1 : numLt p q = true) (h2 : numLt q s = true) :
    numLt p s = true := by
  obtain ⟨x, y, z, _, _, _, e1, e2, e3⟩ := num_common p q s
  rw [e1] at h1
  rw [e2] at h2
  rw [e3]
  omega

theorem numEq_trans {p q s : Int × Nat} (h1 : numEq p q = true) (h2 : numEq q s = true) :
    numEq p s = true := by
  rw [numEq_eucl h1]; exact h2

/-! ### numbers among the values -/

theorem numVal_bool (b : Bool) : numVal (.bool b) = some (if b then (1, 0) else (0, 0)) := by
  cases b <;> rfl

/-- the numbers are the bools, the ints and the floats -/
theorem num_cases {v : JVal} {p : Int × Nat} (hv : numVal v = some p) :
    (∃ b, v = .bool b) ∨ (∃ i, v = .int i) ∨ ∃ n e r, v = .flt n e r := by
  cases v with
  | bool b => exact .inl ⟨b, rfl⟩
  | int i => exact .inr (.inl ⟨i, rfl⟩)
  | flt n e r => exact .inr (.inr ⟨n, e, r, rfl⟩)
  | _ => cases hv

/-- Python `==` of a number with anything -/
theorem pyEq_of_numVal {a : JVal} {p : Int × Nat} (h : numVal a = some p) (c : JVal) :
    pyEq a c = (match numVal c with | some q => numEq p q | none => false) := by
  cases a with
  | bool b => cases b <;> cases h <;> rfl
  | int i => cases h; rfl
  | flt n e r => cases h; rfl
  | _ => cases h

theorem pyEq_num {v w : JVal} {p q : Int × Nat} (hv : numVal v = some p) (hw : numVal w = some q) :
    pyEq v w = numEq p q := by
  rw [pyEq_of_numVal hv, hw]

/-- a number is `==` only to numbers of the same value -/
theorem pyEq_num_true {a b : JVal} {p : Int × Nat} (h : numVal a = some p) (hab : pyEq a b = true) :
    ∃ q, numVal b = some q ∧ numEq p q = true := by
  rw [pyEq_of_numVal h] at hab
  cases hb : numVal b with
  | none => rw [hb] at hab; cases hab
  | some q => rw [hb] at hab; exact ⟨q, rfl, hab⟩

/-! ### what `a == b` says about `b` -/

theorem pyEq_null_true {b : JVal} (h : pyEq .null b = true) : b = .null := by
  cases b <;> first | rfl | cases h

theorem pyEq_str_true {s : String} {b : JVal} (h : pyEq (.str s) b = true) : b = .str s := by
  cases b with
  | str t => rw [of_decide_eq_true h]
  | _ => cases h

theorem pyEq_arr_true {xs : List JVal} {b : JVal} (h : pyEq (.arr xs) b = true) :
    ∃ ys, b = .arr ys ∧ pyEqList xs ys = true := by
  cases b with
  | arr ys => exact ⟨ys, rfl, by simpa only [pyEq] using h⟩
  | _ => cases h

theorem pyEq_obj_true {a : List (String × JVal)} {b : JVal} (h : pyEq (.obj a) b = true) :
    ∃ b', b = .obj b' ∧ a.length = b'.length ∧ pyEqEntries a b' = true := by
  cases b with
  | obj b' =>
    simp only [pyEq, Bool.and_eq_true, beq_iff_eq] at h
    exact ⟨b', rfl, h.1, h.2⟩
  | _ => cases h

/-- a value `==` to a string is that string -/
theorem pyEq_str_left {v : JVal} {t : String} (h : pyEq v (.str t) = true) : v = .str t := by
  cases v with
  | str s => rw [of_decide_eq_true h]
  | bool b => cases b <;> cases h
  | _ => cases h

/-- a value that is not a number is `==` only to values of its own type -/
theorem nonNum_of_pyEq {v w : JVal} (h : pyEq v w = true) (hv : numVal v = none) :
    numVal w = none ∧ pyTypeName v = pyTypeName w := by
  cases v with
  | null => rw [pyEq_null_true h]; exact ⟨rfl, rfl⟩
  | str s => rw [pyEq_str_true h]; exact ⟨rfl, rfl⟩
  | arr xs => obtain ⟨_, rfl, _⟩ := pyEq_arr_true h; exact ⟨rfl, rfl⟩
  | obj a => obtain ⟨_, rfl, _⟩ := pyEq_obj_true h; exact ⟨rfl, rfl⟩
  | bool b => rw [numVal_bool] at hv; cases hv
  | _ => cases hv

theorem pyEq_none_num {v w : JVal} {q : Int × Nat} (hv : numVal v = none) (hw : numVal w = some q) :
    pyEq v w = false :=
  Bool.eq_false_iff.mpr fun h => by rw [(nonNum_of_pyEq h hv).1] at hw; cases hw

theorem pyEq_num_symm {a : JVal} {p : Int × Nat} (h : numVal a = some p) (c : JVal) :
    pyEq a c = pyEq c a := by
  rw [pyEq_of_numVal h]
  cases hc : numVal c with
  | none => exact (pyEq_none_num hc h).symm
  | some q => rw [pyEq_of_numVal hc, h]; exact numEq_symm p q

theorem pyEq_num_eucl {a b : JVal} {p : Int × Nat} (h : numVal a = some p) (hab : pyEq a b = true)
    (c : JVal) : pyEq a c = pyEq b c := by
  obtain ⟨q, hb, hpq⟩ := pyEq_num_true h hab
  rw [pyEq_of_numVal h, pyEq_of_numVal hb]
  cases numVal c with
  | none => rfl
  | some s => exact numEq_eucl hpq s

/-! ### `lookupKV` -/

theorem lookupKV_none_iff {k : String} {l : List (String × JVal)} :
    lookupKV k l = none ↔ k ∉ l.map Prod.fst := by
  induction l with
  | nil => exact ⟨fun _ => List.not_mem_nil, fun _ => rfl⟩
  | cons hd tl ih =>
    obtain ⟨k', v'⟩ := hd
    simp only [lookupKV, List.map_cons, List.mem_cons, not_or]
    split
    · next hk => exact ⟨nofun, fun h => absurd hk h.1⟩
    · next hk => exact ⟨fun h => ⟨hk, ih.mp h⟩, fun h => ih.mpr h.2⟩

theorem lookupKV_mem {k : String} {l : List (String × JVal)} {v : JVal} (h : lookupKV k l = some v) :
    (k, v) ∈ l := by
  induction l with
  | nil => cases h
  | cons hd tl ih =>
    obtain ⟨k', v'⟩ := hd
    simp only [lookupKV] at h
    split at h
    · cases h; subst_vars; exact List.mem_cons_self
    · exact List.mem_cons_of_mem _ (ih h)

theorem lookupKV_append (k : String) (a b : List (String × JVal)) :
    lookupKV k (a ++ b) = match lookupKV k a with
      | some v => some v
      | none => lookupKV k b := by
  induction a with
  | nil => rfl
  | cons hd tl ih =>
    obtain ⟨k₀, v₀⟩ := hd
    simp only [List.cons_append, lookupKV]
    split
    · rfl
    · exact ih

theorem lookupKV_of_mem {k : String} {l : List (String × JVal)} {v : JVal}
    (hn : (l.map Prod.fst).Nodup) (h : (k, v) ∈ l) : lookupKV k l = some v := by
  induction l with
  | nil => cases h
  | cons hd tl ih =>
    obtain ⟨k', v'⟩ := hd
    simp only [List.map_cons, List.nodup_cons] at hn
    simp only [lookupKV]
    rcases List.mem_cons.mp h with h | h
    · cases h; exact if_pos rfl
    · have hk' : k ∈ tl.map Prod.fst := List.mem_map.mpr ⟨(k, v), h, rfl⟩
      rw [if_neg fun hk => hn.1 (by rw [← hk]; exact hk')]
      exact ih hn.2 h

/-! ### lists and mappings -/

theorem pyEqList_refl {xs : List JVal} (h : ∀ x ∈ xs, pyEq x x = true) : pyEqList xs xs = true := by
  induction xs with
  | nil => rfl
  | cons x xs ih =>
    rw [List.forall_mem_cons] at h
    exact (Bool.and_eq_true _ _).mpr ⟨h.1, ih h.2⟩

theorem pyEqList_pointwise {xs ys : List JVal} (h : pyEqList xs ys = true) :
    xs.length = ys.length ∧ ∀ (i : Nat) x y, xs[i]? = some x → ys[i]? = some y → pyEq x y = true := by
  induction xs generalizing ys with
  | nil =>
    cases ys with
    | nil => exact ⟨rfl, fun i x y hx => nomatch hx⟩
    | cons _ _ => cases h
  | cons x xs ih =>
    cases ys with
    | nil => cases h
    | cons y ys =>
      simp only [pyEqList, Bool.and_eq_true] at h
      obtain ⟨h1, h2⟩ := ih h.2
      refine ⟨congrArg (· + 1) h1, fun i x' y' hx hy => ?_⟩
      cases i with
      | zero => cases hx; cases hy; exact h.1
      | succ i => exact h2 i x' y' hx hy

theorem pyEqEntries_iff {a b : List (String × JVal)} :
    pyEqEntries a b = true ↔ ∀ kv ∈ a, ∃ w, lookupKV kv.1 b = some w ∧ pyEq kv.2 w = true := by
  induction a with
  | nil => exact ⟨fun _ _ h => (nomatch h), fun _ => rfl⟩
  | cons e a ih =>
    obtain ⟨k, v⟩ := e
    rw [pyEqEntries, Bool.and_eq_true, ih, List.forall_mem_cons]
    refine and_congr_left fun _ => ?_
    cases lookupKV k b with
    | none => exact ⟨nofun, nofun⟩
    | some w => exact ⟨fun h => ⟨w, rfl, h⟩, fun ⟨_, e, h⟩ => Option.some.inj e ▸ h⟩

/-- a duplicate-free list inside a list that is no longer has the same members (why `dict.__eq__`,
    which looks up the left keys on the right, is symmetric) -/
theorem mem_of_nodup_subset {α : Type} {l₁ l₂ : List α} (d : l₁.Nodup) (hs : l₁ ⊆ l₂)
    (hl : l₂.length ≤ l₁.length) {k : α} (hk : k ∈ l₂) : k ∈ l₁ :=
  Classical.byContradiction fun hn => by
    have := (List.nodup_cons.mpr ⟨hn, d⟩).length_le_of_subset (List.cons_subset.mpr ⟨hk, hs⟩)
    rw [List.length_cons] at this
    omega

end Signac
