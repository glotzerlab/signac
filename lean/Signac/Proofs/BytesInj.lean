/-
  Helper lemmas for C01: the UTF-8 bytes determine the characters, the hex digest
  text determines the digest bytes.  Core only.
-/
import Signac.Md5
import Signac.Proofs.EncStr
namespace Signac

/- Core has no lemma about `ByteArray.toList`; it is `data.toList`, by the invariant of its loop. -/

theorem byteArray_size_eq (bs : ByteArray) : bs.size = bs.data.toList.length := by
  cases bs; simp [ByteArray.size]

theorem byteArray_get!_eq (bs : ByteArray) (i : Nat) (h : i < bs.data.toList.length) :
    bs.get! i = bs.data.toList[i] := by
  cases bs with
  | mk d =>
    have h' : i < d.size := by simpa using h
    simp only [ByteArray.get!, getElem!_pos d i h', Array.getElem_toList]

theorem byteArray_toList_loop (bs : ByteArray) : ∀ (k i : Nat) (r : List UInt8),
    k = bs.size - i → ByteArray.toList.loop bs i r = r.reverse ++ bs.data.toList.drop i
  | 0, i, r, hk => by
    have hsz := byteArray_size_eq bs
    rw [ByteArray.toList.loop, if_neg (by omega), List.drop_eq_nil_of_le (by omega)]
    simp
  | k + 1, i, r, hk => by
    have hsz := byteArray_size_eq bs
    have hi : i < bs.size := by omega
    rw [ByteArray.toList.loop, if_pos hi, byteArray_toList_loop bs k (i + 1) _ (by omega)]
    rw [List.reverse_cons, List.append_assoc, List.singleton_append,
      byteArray_get!_eq bs i (by omega)]
    rw [List.drop_eq_getElem_cons (i := i) (by omega)]

theorem byteArray_toList_eq (bs : ByteArray) : bs.toList = bs.data.toList := by
  rw [ByteArray.toList, byteArray_toList_loop bs (bs.size - 0) 0 [] rfl]
  simp

theorem byteArray_toList_inj {a b : ByteArray} (h : a.toList = b.toList) : a = b := by
  rw [byteArray_toList_eq, byteArray_toList_eq] at h
  cases a; cases b
  simp only [ByteArray.mk.injEq]
  exact Array.toList_inj.mp h

/-- different texts are hashed from different byte strings -/
theorem utf8_inj {cs ds : List Char} (h : utf8 cs = utf8 ds) : cs = ds := by
  simp only [utf8, String.toUTF8_eq_toByteArray] at h
  exact String.ofList_injective (String.toByteArray_inj.mp (byteArray_toList_inj h))

theorem byteHex_inj {a b : UInt8} (h : byteHex a = byteHex b) : a = b := by
  simp only [byteHex, List.cons.injEq, and_true] at h
  have e1 := hexDigit_inj (Nat.div_lt_of_lt_mul a.toNat_lt) (Nat.div_lt_of_lt_mul b.toNat_lt) h.1
  have e2 := hexDigit_inj (Nat.mod_lt _ (by decide)) (Nat.mod_lt _ (by decide)) h.2
  apply UInt8.toNat_inj.mp
  rw [← Nat.div_add_mod a.toNat 16, e1, e2, Nat.div_add_mod]

theorem hexOfBytes_inj : ∀ {xs ys : List UInt8}, hexOfBytes xs = hexOfBytes ys → xs = ys
  | [], [], _ => rfl
  | [], y :: ys, h => by simp [hexOfBytes, byteHex] at h
  | x :: xs, [], h => by simp [hexOfBytes, byteHex] at h
  | x :: xs, y :: ys, h => by
    obtain ⟨h1, h2⟩ := List.append_inj (show byteHex x ++ _ = byteHex y ++ _ from h) rfl
    rw [byteHex_inj h1, hexOfBytes_inj h2]

end Signac
