/-
  Refinement layer: the EVENT-FREE run of the file-system step program of a lifecycle operation
  (`Signac.Lifecycle`, property C11) has exactly the abstract effect the sentences of property
  C04 describe (IronFleet-style: concrete steps ⟶ abstract operation through an abstraction
  function).

    `Clean C w`   every directory of the world is settled (state-point file `ok v` with
                  `hash v` = directory name, no backup, no strays, payload paths distinct and
                  non-empty): the state between operations of a healthy workspace.
    `absW w`      abstraction: (project, id) ↦ (state point, payload as a path ↦ content map).
    `Op.spec`     the abstract operation on that state.
    `*_refines`   Clean + natural precondition ⟹ the event-free run returns the spec's result,
                  ends in a Clean world, and `absW final = spec (absW w)`.
    `runOps`, `specOps`, `PreOps`: histories (`Refinement.history_refines`).

  `init`, re-key and `move` take their event-free outcome from `LifeExactRuns`; `remove`, `clear`
  and `clone` walk a list of items and are computed with `ev0`.

  Trusted reading: this is model-to-model.  Both models are tied to the Python code separately
  (differential tests of the drivers `drv_life`, `drv_ws`); this file adds no link to the code.
-/
import Signac.Proofs.LifeExactRuns
namespace Signac.Life
variable {Sp : Type}

/-- a settled job directory named `name`: complete state-point file hashing to the name, no
    backup, no stray temp files; the payload is a well-formed listing (paths distinct, none empty) -/
structure Settled (C : Codec Sp) (name : String) (d : JobDir Sp) : Prop where
  sp : ∃ v, d.sp = some (.ok v) ∧ C.hash v = name
  bak : d.bak = none
  strays : d.strays = []
  nodup : (d.entries.map Prod.fst).Nodup
  nonempty : "" ∉ d.entries.map Prod.fst

/-- the state between operations of a healthy workspace -/
def Clean (C : Codec Sp) (w : World Sp) : Prop := ∀ k d, w k = some d → Settled C k.2 d

/-- a payload: path ↦ file bytes (`some (some b)`) | directory (`some none`) | absent -/
abbrev Payload := String → Option (Option String)

/-- abstract workspace state: (project, id) ↦ (state point, payload) -/
abbrev AbsW (Sp : Type) := Key → Option (Sp × Payload)

def absDir (d : JobDir Sp) : Option (Sp × Payload) :=
  match d.sp with
  | some (.ok v) => some (v, fun p => getEntry p d.entries)
  | _ => none

/-- the abstraction function (directories without a complete state-point file are not jobs) -/
def absW (w : World Sp) : AbsW Sp := fun k => (w k).bind absDir

def aupd (A : AbsW Sp) (k : Key) (v : Option (Sp × Payload)) : AbsW Sp :=
  fun k' => if k' = k then v else A k'

def noPayload : Payload := fun _ => none
/-- the payload after `clear`: only the (empty) job document `{}` -/
def emptyDoc : Payload := fun p => if p = docName then some (some "{}") else none

theorem absW_upd (w : World Sp) (k : Key) (v : Option (JobDir Sp)) :
    absW (upd w k v) = aupd (absW w) k (v.bind absDir) := by
  funext k'; simp only [absW, upd, aupd]; split <;> rfl

theorem clean_upd_none (C : Codec Sp) {w : World Sp} (hc : Clean C w) (k : Key) : Clean C (upd w k none) := by
  intro k' d' h
  simp only [upd] at h
  split at h
  · cases h
  · exact hc k' d' h

theorem absDir_settled (C : Codec Sp) {name : String} {d : JobDir Sp} (h : Settled C name d) :
    ∃ v, d.sp = some (.ok v) ∧ C.hash v = name ∧ absDir d = some (v, fun p => getEntry p d.entries) := by
  obtain ⟨v, hv, hh⟩ := h.sp
  exact ⟨v, hv, hh, by simp [absDir, hv]⟩

theorem absW_of_none {w : World Sp} {k : Key} (h : w k = none) : absW w k = none := by
  simp only [absW, h, Option.bind_none]

theorem absW_settled (C : Codec Sp) {w : World Sp} {k : Key} {d : JobDir Sp} (hw : w k = some d)
    (hd : Settled C k.2 d) : ∃ v, d.sp = some (.ok v) ∧ C.hash v = k.2 ∧
      absDir d = some (v, fun p => getEntry p d.entries) ∧ absW w k = some (v, fun p => getEntry p d.entries) := by
  obtain ⟨v, hv, hh, ha⟩ := absDir_settled C hd
  exact ⟨v, hv, hh, ha, by simp only [absW, hw, Option.bind_some, ha]⟩

theorem settled_not_empty (C : Codec Sp) {name : String} {d : JobDir Sp} (h : Settled C name d) :
    d.isEmpty = false := by
  obtain ⟨v, hv, _⟩ := h.sp
  simp [JobDir.isEmpty, hv]

theorem settled_valid (C : Codec Sp) {name : String} {d : JobDir Sp} (h : Settled C name d) :
    d.valid C name = true := by
  obtain ⟨v, hv, hh⟩ := h.sp
  simp [JobDir.valid, hv, Content.validFor, hh]

/-- init of the job with state point `v` in directory `k = (p, hash v)`:
    absent ⟹ it becomes `(v, no payload)`; otherwise nothing changes -/
def specInit (k : Key) (v : Sp) (A : AbsW Sp) : AbsW Sp × Res :=
  match A k with
  | none => (aupd A k (some (v, noPayload)), .ok)
  | some _ => (A, .ok)

/-- re-key `x → y` with the new state point `v` (`y = (p, hash v)`): `y` gets `x`'s payload with
    state point `v` and `x` disappears; `y` present: DestinationExistsError, nothing changes;
    `x` absent: nothing to move -/
def specRekey (x y : Key) (v : Sp) (A : AbsW Sp) : AbsW Sp × Res :=
  match A x with
  | none => (A, .ok)
  | some (_, P) =>
    match A y with
    | none => (aupd (aupd A y (some (v, P))) x none, .ok)
    | some _ => (A, destExists)

/-- move `a → b` (same id, other project): the same with the state point kept -/
def specMove (a b : Key) (A : AbsW Sp) : AbsW Sp × Res :=
  match A a with
  | none => (A, .exc "RuntimeError")
  | some j =>
    match A b with
    | none => (aupd (aupd A b (some j)) a none, .ok)
    | some _ => (A, destExists)

/-- clone `src → dst`: `dst` gets a copy of state point and payload, `src` unchanged -/
def specClone (src dst : Key) (A : AbsW Sp) : AbsW Sp × Res :=
  match A src with
  | none => (A, .exc "ValueError")
  | some j =>
    match A dst with
    | none => (aupd A dst (some j), .ok)
    | some _ => (A, destExists)

/-- remove: the job disappears -/
def specRemove (k : Key) (A : AbsW Sp) : AbsW Sp × Res := (aupd A k none, .ok)

/-- clear: document and files go (an empty document `{}` is written), the state point stays -/
def specClear (k : Key) (A : AbsW Sp) : AbsW Sp × Res :=
  match A k with
  | none => (A, .ok)
  | some (v, _) => (aupd A k (some (v, emptyDoc)), .ok)

def Op.spec : Op Sp → AbsW Sp → AbsW Sp × Res
  | .init k v _ => specInit k v
  | .rekey x y v => specRekey x y v
  | .move a b => specMove a b
  | .clone s d _ => specClone s d
  | .remove k _ => specRemove k
  | .clear k _ => specClear k

/-- `order` enumerates the items of a settled directory with payload `P` as `scandir` would:
    each item once — the state-point file, a `file` per file path, a `dir` per directory path -/
def Scans (P : Payload) (order : List Ref) : Prop :=
  order.Nodup ∧ ∀ r, r ∈ order ↔
    (r = .sp ∨ (∃ p b, r = .file p ∧ P p = some (some b)) ∨ (∃ p, r = .dir p ∧ P p = some none))

/-- clean, except that directory `y` may exist and be empty (an `os.replace` / `init` target) -/
def CleanBut (C : Codec Sp) (w : World Sp) (y : Key) : Prop :=
  ∀ k d, w k = some d → Settled C k.2 d ∨ (k = y ∧ d = {})

/-- the natural precondition of an operation, stated on the abstract state: directory names are
    the ids of the state points involved, source and target differ, and `order` lists the items
    of the directory walked (as `scandir` would) -/
def Op.pre (C : Codec Sp) : Op Sp → AbsW Sp → Prop
  | .init k v _, _ => C.hash v = k.2
  | .rekey x y v, _ => x ≠ y ∧ C.hash v = y.2
  | .move a b, _ => a ≠ b ∧ a.2 = b.2
  | .clone s d o, A => s.2 = d.2 ∧ ∀ v P, A s = some (v, P) → Scans P o
  | .remove k o, A => ∀ v P, A k = some (v, P) → Scans P o
  | .clear k o, A => ∀ v P, A k = some (v, P) → Scans P o

/-- a history of operations, each run event-free: final world and the results -/
def runOps (C : Codec Sp) : List (Op Sp) → World Sp → World Sp × List Res
  | [], w => (w, [])
  | op :: ops, w =>
    let o := run C noEv (op.prog C) w
    ((runOps C ops o.w).1, o.res :: (runOps C ops o.w).2)

/-- the same history on the abstract state -/
def specOps : List (Op Sp) → AbsW Sp → AbsW Sp × List Res
  | [], A => (A, [])
  | op :: ops, A => ((specOps ops (op.spec A).1).1, (op.spec A).2 :: (specOps ops (op.spec A).1).2)

/-- the preconditions along the abstract history -/
def PreOps (C : Codec Sp) : List (Op Sp) → AbsW Sp → Prop
  | [], _ => True
  | op :: ops, A => op.pre C A ∧ PreOps C ops (op.spec A).1

/-- what a refinement statement says about the event-free run of `p` from `w` -/
def Refines (C : Codec Sp) (p : Prog Sp) (w : World Sp) (sp : AbsW Sp → AbsW Sp × Res) : Prop :=
  (run C noEv p w).res = (sp (absW w)).2 ∧ Clean C (run C noEv p w).w ∧
    absW (run C noEv p w).w = (sp (absW w)).1

theorem refines_of_ev0 (C : Codec Sp) (p : Prog Sp) (w : World Sp) (sp : AbsW Sp → AbsW Sp × Res)
    (w' : World Sp) (r : Res) (h : ev0 C p w = (w', r)) (hr : r = (sp (absW w)).2) (hc : Clean C w')
    (ha : absW w' = (sp (absW w)).1) : Refines C p w sp := by
  refine ⟨?_, ?_, ?_⟩
  · rw [run_noEv_res, h]; exact hr
  · rw [run_noEv_w, h]; exact hc
  · rw [run_noEv_w, h]; exact ha

theorem refines_of_run (C : Codec Sp) {p : Prog Sp} {w : World Sp} {sp : AbsW Sp → AbsW Sp × Res} {o : Outcome Sp}
    (h : run C noEv p w = o) (hr : o.res = (sp (absW w)).2) (hc : Clean C o.w)
    (ha : absW o.w = (sp (absW w)).1) : Refines C p w sp := by
  unfold Refines
  rw [h]
  exact ⟨hr, hc, ha⟩

theorem validAt_of_settled (C : Codec Sp) {w : World Sp} {k : Key} {d : JobDir Sp} (hw : w k = some d)
    (hd : Settled C k.2 d) : validAt C w k = true :=
  (validAt_some C hw).trans (settled_valid C hd)

theorem eq_empty_of_isEmpty {d : JobDir Sp} (h : d.isEmpty = true) : d = {} := by
  obtain ⟨sp, bak, strays, entries⟩ := d
  simp only [JobDir.isEmpty, Bool.and_eq_true, Option.isNone_iff_eq_none, List.isEmpty_iff] at h
  obtain ⟨⟨⟨rfl, rfl⟩, rfl⟩, rfl⟩ := h
  rfl

theorem Clean.but {C : Codec Sp} {w : World Sp} (h : Clean C w) (y : Key) : CleanBut C w y :=
  fun k d hd => Or.inl (h k d hd)

theorem settled_fresh (C : Codec Sp) (name : String) (v : Sp) (hv : C.hash v = name) :
    Settled C name ({ sp := some (.ok v) } : JobDir Sp) :=
  ⟨⟨v, rfl, hv⟩, rfl, rfl, by simp, by simp⟩

theorem absW_empty (w : World Sp) (k : Key) (h : w k = some {}) : absW w k = none := by
  simp [absW, h, absDir]

theorem cleanBut_upd_some (C : Codec Sp) {w : World Sp} {y : Key} (hc : CleanBut C w y) (d : JobDir Sp)
    (hd : Settled C y.2 d) : Clean C (upd w y (some d)) := by
  intro k' d' h
  simp only [upd] at h
  split at h
  · subst_vars; cases h; exact hd
  · rcases hc k' d' h with h1 | ⟨h1, _⟩
    · exact h1
    · contradiction

theorem cleanBut_clean (C : Codec Sp) {w : World Sp} {y : Key} (hc : CleanBut C w y) (d : JobDir Sp)
    (hy : w y = some d) (hd : Settled C y.2 d) : Clean C w := by
  intro k' d' h
  rcases hc k' d' h with h1 | ⟨rfl, _⟩
  · exact h1
  · rw [hy] at h; cases h; exact hd

theorem cleanBut_free_or (C : Codec Sp) {w : World Sp} {y : Key} (hc : CleanBut C w y) :
    (w y = none ∨ w y = some {}) ∨ ∃ d, w y = some d ∧ Settled C y.2 d := by
  cases h : w y with
  | none => exact Or.inl (Or.inl rfl)
  | some d =>
    rcases hc y d h with h1 | ⟨_, rfl⟩
    · exact Or.inr ⟨d, rfl, h1⟩
    · exact Or.inl (Or.inr rfl)

theorem dstFree_of_free {w : World Sp} {y : Key} (h : w y = none ∨ w y = some {}) : DstFree w y :=
  h.imp id fun h => ⟨{}, h, rfl⟩

theorem absW_free {w : World Sp} {y : Key} (h : w y = none ∨ w y = some {}) : absW w y = none := by
  rcases h with h | h
  · simp [absW, h]
  · exact absW_empty w y h

theorem init_refines (C : Codec Sp) (k : Key) (v : Sp) (f : Bool) (w : World Sp)
    (hc : CleanBut C w k) (hv : C.hash v = k.2) : Refines C (initProg C k v f) w (specInit k v) := by
  rcases cleanBut_free_or C hc with hk | ⟨d, hk, hd⟩
  · obtain ⟨a, hrun⟩ : ∃ a, run C noEv (initProg C k v f) w = ⟨upd w k (some { sp := some (.ok v) }), .ok, a⟩ := by
      rcases hk with hk | hk
      · exact ⟨_, init_fresh_run C k v f w hk hv⟩
      · exact ⟨_, init_nosp_run C k v f hk rfl hv {}⟩
    refine refines_of_run C hrun ?_ ?_ ?_
    · simp [specInit, absW_free hk]
    · exact cleanBut_upd_some C hc _ (settled_fresh C _ v hv)
    · simp [specInit, absW_upd, absW_free hk, absDir, getEntry]; rfl
  · obtain ⟨v0, _, _, ha⟩ := absDir_settled C hd
    refine refines_of_run C (exec_init_valid C noEv k v f {} w (validAt_of_settled C hk hd)) ?_ ?_ ?_
    · simp [specInit, absW, hk, ha]
    · exact cleanBut_clean C hc d hk hd
    · simp [specInit, absW, hk, ha]

theorem cleanBut_bak (C : Codec Sp) {w : World Sp} {y : Key} (hc : CleanBut C w y) :
    ∀ k d, w k = some d → d.bak = none := by
  intro k d h
  rcases hc k d h with h1 | ⟨_, rfl⟩
  · exact h1.bak
  · rfl

theorem clean_moved (C : Codec Sp) {w : World Sp} {x y : Key} (hc : CleanBut C w y)
    (d : JobDir Sp) (hd : Settled C y.2 d) : Clean C (upd (upd w y (some d)) x none) :=
  clean_upd_none C (cleanBut_upd_some C hc d hd) x

theorem rekey_refines_emptyDst (C : Codec Sp) (x y : Key) (v : Sp) (w : World Sp) (hxy : x ≠ y)
    (hc : CleanBut C w y) (hv : C.hash v = y.2) (hx : (w x).isSome = true) :
    Refines C (rekeyProg C x y v) w (specRekey x y v) := by
  cases hwx : w x with
  | none => simp [hwx] at hx
  | some D =>
    have hD : Settled C x.2 D := by
      rcases hc x D hwx with h | ⟨h, _⟩
      · exact h
      · exact absurd h hxy
    obtain ⟨v0, hsp, hh, ha, hax⟩ := absW_settled C hwx hD
    rcases cleanBut_free_or C hc with hy | ⟨D', hy, hD'⟩
    · have hay := absW_free hy
      refine refines_of_run C (rekey_free_run C x y v hxy hwx hsp (dstFree_of_free hy) hv) ?_ ?_ ?_
      · simp [specRekey, hax, hay]
      · exact clean_moved C hc _ ⟨⟨v, rfl, hv⟩, rfl, hD.strays, hD.nodup, hD.nonempty⟩
      · simp [specRekey, hax, hay, absW_upd, absDir]
    · obtain ⟨v1, _, _, ha', hay⟩ := absW_settled C hy hD'
      refine refines_of_run C (rekey_collision_exact C x y v hxy hwx hsp hh hD.bak hy (settled_not_empty C hD')) ?_ ?_ ?_
      · simp [specRekey, hax, hay]
      · exact cleanBut_clean C hc D' hy hD'
      · simp [specRekey, hax, hay]

theorem rekey_refines (C : Codec Sp) (x y : Key) (v : Sp) (w : World Sp) (hxy : x ≠ y)
    (hc : Clean C w) (hv : C.hash v = y.2) : Refines C (rekeyProg C x y v) w (specRekey x y v) := by
  cases hx : w x with
  | none =>
    have hax := absW_of_none hx
    refine refines_of_run C (rekey_absent_run C x y v w hx (fun d hd => (hc y d hd).bak)) ?_ hc ?_
    · simp [specRekey, hax]
    · simp [specRekey, hax]
  | some D => exact rekey_refines_emptyDst C x y v w hxy (hc.but y) hv (by simp [hx])

theorem move_refines_emptyDst (C : Codec Sp) (a b : Key) (w : World Sp) (hab : a ≠ b) (hid : a.2 = b.2)
    (hc : CleanBut C w b) (hx : (w a).isSome = true) : Refines C (moveProg a b) w (specMove a b) := by
  cases hwa : w a with
  | none => simp [hwa] at hx
  | some D =>
    have hD : Settled C a.2 D := by
      rcases hc a D hwa with h | ⟨h, _⟩
      · exact h
      · exact absurd h hab
    obtain ⟨v0, hsp, hh, ha, hax⟩ := absW_settled C hwa hD
    rcases cleanBut_free_or C hc with hy | ⟨D', hy, hD'⟩
    · have hay := absW_free hy
      refine refines_of_run C (move_free_run C a b w D hwa (dstFree_of_free hy)) ?_ ?_ ?_
      · simp [specMove, hax, hay]
      · exact clean_moved C hc _ (hid ▸ hD)
      · simp [specMove, hax, hay, absW_upd, ha]
    · obtain ⟨v1, _, _, ha', hay⟩ := absW_settled C hy hD'
      refine refines_of_run C (move_collision_exact C a b w D D' hwa hy (settled_not_empty C hD')) ?_ ?_ ?_
      · simp [specMove, hax, hay]
      · exact cleanBut_clean C hc D' hy hD'
      · simp [specMove, hax, hay]

theorem move_refines (C : Codec Sp) (a b : Key) (w : World Sp) (hab : a ≠ b) (hid : a.2 = b.2)
    (hc : Clean C w) : Refines C (moveProg a b) w (specMove a b) := by
  cases hx : w a with
  | none =>
    have hax := absW_of_none hx
    refine refines_of_run C (move_absent_run C a b w hx) ?_ hc ?_
    · simp [specMove, hax]
    · simp [specMove, hax]
  | some D => exact move_refines_emptyDst C a b w hab hid (hc.but b) (by simp [hx])

abbrev Entries := List (String × Option String)

theorem getEntry_cons (p q : String) (c : Option String) (l : Entries) :
    getEntry p ((q, c) :: l) = if q = p then some c else getEntry p l := rfl

theorem getEntry_none_iff : ∀ (l : Entries) (p : String), getEntry p l = none ↔ p ∉ l.map Prod.fst
  | [], p => ⟨fun _ h => (nomatch h), fun _ => rfl⟩
  | (q, c) :: l, p => by
    rw [getEntry_cons, List.map_cons, List.mem_cons, not_or]
    by_cases hqp : q = p
    · rw [if_pos hqp]
      exact ⟨fun h => (nomatch h), fun h => absurd hqp.symm h.1⟩
    · rw [if_neg hqp, getEntry_none_iff l p]
      exact ⟨fun h => ⟨fun e => hqp e.symm, h⟩, fun h => h.2⟩

/-- with distinct paths the listing is the graph of `getEntry` -/
theorem getEntry_eq_some_iff : ∀ (l : Entries), (l.map Prod.fst).Nodup →
    ∀ p b, getEntry p l = some b ↔ (p, b) ∈ l
  | [], _, p, b => ⟨fun h => (nomatch h), fun h => (nomatch h)⟩
  | (q, c) :: l, hn, p, b => by
    have hn := List.nodup_cons.mp hn
    rw [getEntry_cons, List.mem_cons]
    by_cases hqp : q = p
    · subst hqp
      rw [if_pos rfl]
      refine ⟨fun h => Or.inl (by cases h; rfl), fun h => h.elim (fun h => by cases h; rfl) fun h => ?_⟩
      exact absurd (List.mem_map.mpr ⟨(q, b), h, rfl⟩) hn.1
    · rw [if_neg hqp, getEntry_eq_some_iff l hn.2 p b]
      exact ⟨Or.inr, fun h => h.elim (fun h => absurd (Prod.mk.inj h).1.symm hqp) id⟩

/-- with distinct paths, erasing a path drops the one entry that has it -/
theorem eraseEntry_eq_filter (p : String) : ∀ (l : Entries), (l.map Prod.fst).Nodup →
    eraseEntry p l = l.filter (fun e => e.1 ≠ p)
  | [], _ => rfl
  | (q, c) :: l, hn => by
    have hn := List.nodup_cons.mp hn
    by_cases hqp : q = p
    · subst hqp
      rw [eraseEntry, if_pos rfl, List.filter_cons_of_neg (by simp)]
      exact (List.filter_eq_self.mpr fun e he => decide_eq_true (p := e.1 ≠ q) fun h =>
        hn.1 (List.mem_map.mpr ⟨e, he, h⟩)).symm
    · rw [eraseEntry, if_neg hqp, List.filter_cons_of_pos (by simpa using hqp), eraseEntry_eq_filter p l hn.2]

def entryRef : String × Option String → Ref
  | (p, some _) => .file p
  | (p, none) => .dir p

/-- `r` names something the directory holds: its state-point file or a payload entry -/
def ItemOf (d : JobDir Sp) (r : Ref) : Prop :=
  (r = .sp ∧ d.sp.isSome = true) ∨ ∃ e ∈ d.entries, r = entryRef e

theorem entryRef_ne_sp (e : String × Option String) : entryRef e ≠ .sp := by
  obtain ⟨p, b⟩ := e; cases b <;> exact Ref.noConfusion

theorem entryRef_path (e : String × Option String) : (entryRef e).path = e.1 := by
  obtain ⟨p, b⟩ := e; cases b <;> rfl

/-- with distinct paths an entry is known by its reference -/
theorem entryRef_inj {l : Entries} (hn : (l.map Prod.fst).Nodup) {e e0 : String × Option String}
    (he : e ∈ l) (he0 : e0 ∈ l) (h : e.1 = e0.1) : e = e0 := by
  obtain ⟨p, b⟩ := e
  obtain ⟨p0, b0⟩ := e0
  cases h
  have h1 := ((getEntry_eq_some_iff l hn p b).mpr he).symm.trans ((getEntry_eq_some_iff l hn p b0).mpr he0)
  cases h1
  rfl

theorem itemOf_hasItem {d : JobDir Sp} {r : Ref} (h : ItemOf d r) : hasItem d r = true := by
  rcases h with ⟨rfl, h⟩ | ⟨⟨p, b⟩, he, rfl⟩
  · exact h
  · have : (getEntry p d.entries).isSome = true := by
      cases hg : getEntry p d.entries with
      | none => exact absurd (List.mem_map_of_mem he) ((getEntry_none_iff _ p).mp hg)
      | some _ => rfl
    cases b <;> exact this

/-- dropping an item of a directory with distinct payload paths: exactly that item goes -/
theorem dropItem_of_item {d : JobDir Sp} {r : Ref} (hn : (d.entries.map Prod.fst).Nodup) (h : ItemOf d r) :
    dropItem d r = { d with sp := if r = .sp then none else d.sp,
                            entries := d.entries.filter (fun e => entryRef e ≠ r) } := by
  rcases h with ⟨rfl, _⟩ | ⟨e0, he0, rfl⟩
  · rw [if_pos rfl, List.filter_eq_self.mpr fun e _ => decide_eq_true (entryRef_ne_sp e)]
    rfl
  · have hf : d.entries.filter (fun e => entryRef e ≠ entryRef e0) = eraseEntry e0.1 d.entries := by
      rw [eraseEntry_eq_filter _ _ hn]
      refine List.filter_congr fun e he => decide_eq_decide.mpr (not_congr ⟨fun h => ?_, fun h => ?_⟩)
      · rw [← entryRef_path e, h, entryRef_path]
      · rw [entryRef_inj hn he he0 h]
    rw [if_neg (entryRef_ne_sp e0), hf]
    obtain ⟨p0, b0⟩ := e0
    cases b0 <;> rfl

theorem ev0_seq_cons_ok (C : Codec Sp) (onErr : Errno → Prog Sp) (next : Prog Sp) (s : Step Sp)
    (ss : List (Step Sp)) {w w' : World Sp} (h : apply C w s = .ok w') :
    ev0 C (seqProg onErr next (s :: ss)) w = ev0 C (seqProg onErr next ss) w' := by
  simp only [seqProg, ev0, h]

/-- the directory without the items `L` -/
def dropItems (d : JobDir Sp) (L : List Ref) : JobDir Sp :=
  { d with sp := if .sp ∈ L then none else d.sp, entries := d.entries.filter (fun e => entryRef e ∉ L) }

theorem dropItems_nil (d : JobDir Sp) : dropItems d [] = d := by
  rw [dropItems, if_neg List.not_mem_nil, List.filter_eq_self.mpr fun _ _ => decide_eq_true List.not_mem_nil]

theorem dropItems_cons {d : JobDir Sp} {r : Ref} (hn : (d.entries.map Prod.fst).Nodup) (hr : ItemOf d r)
    (L : List Ref) : dropItems (dropItem d r) L = dropItems d (r :: L) := by
  have hsp : (if Ref.sp ∈ L then none else if r = .sp then none else d.sp)
      = if Ref.sp ∈ r :: L then none else d.sp := by
    by_cases h1 : r = .sp
    · subst h1
      rw [if_pos List.mem_cons_self, if_pos rfl, ite_self]
    · rw [if_neg h1]
      by_cases h2 : Ref.sp ∈ L
      · rw [if_pos h2, if_pos (List.mem_cons_of_mem _ h2)]
      · rw [if_neg h2, if_neg fun h => (List.mem_cons.mp h).elim (Ne.symm h1) h2]
  have hent : (d.entries.filter (fun e => entryRef e ≠ r)).filter (fun e => entryRef e ∉ L)
      = d.entries.filter (fun e => entryRef e ∉ r :: L) := by
    rw [List.filter_filter]
    exact List.filter_congr fun e _ => by rw [← Bool.decide_and, decide_eq_decide, List.mem_cons, not_or, and_comm]
  rw [dropItem_of_item hn hr]
  simp only [dropItems, hsp, hent]

/-- dropping an item leaves the other items, and the paths distinct -/
theorem dropItem_keeps {d : JobDir Sp} {r : Ref} (hn : (d.entries.map Prod.fst).Nodup) (hr : ItemOf d r) :
    ((dropItem d r).entries.map Prod.fst).Nodup ∧ ∀ r', r' ≠ r → ItemOf d r' → ItemOf (dropItem d r) r' := by
  rw [dropItem_of_item hn hr]
  refine ⟨hn.sublist (List.filter_sublist.map _), fun r' hne h => ?_⟩
  rcases h with ⟨rfl, h⟩ | ⟨e, he, rfl⟩
  · exact Or.inl ⟨rfl, by rw [if_neg (Ne.symm hne)]; exact h⟩
  · exact Or.inr ⟨e, List.mem_filter.mpr ⟨he, decide_eq_true hne⟩, rfl⟩

/-- unlinking the distinct items `L` of directory `k` one after the other: every step succeeds, and
    exactly these items are gone -/
theorem rm_run (C : Codec Sp) (onErr : Errno → Prog Sp) (next : Prog Sp) (k : Key) (rest : List (Step Sp))
    (L : List Ref) (d : JobDir Sp) (w : World Sp) (hw : w k = some d) (hn : (d.entries.map Prod.fst).Nodup)
    (hL : L.Nodup) (hall : ∀ r ∈ L, ItemOf d r) :
    ev0 C (seqProg onErr next (L.map (fun r => Step.rmItem k r) ++ rest)) w
      = ev0 C (seqProg onErr next rest) (upd w k (some (dropItems d L))) := by
  induction L generalizing d w with
  | nil => rw [dropItems_nil, upd_self w k _ hw]; rfl
  | cons r L ih =>
    have hr : ItemOf d r := hall r List.mem_cons_self
    have hL := List.nodup_cons.mp hL
    have hk := dropItem_keeps hn hr
    have happ := apply_rmItem C hw (itemOf_hasItem hr)
    rw [List.map_cons, List.cons_append, ev0_seq_cons_ok C onErr next _ _ happ,
      ih _ _ (upd_same ..) hk.1 hL.2 fun r' hr' =>
        hk.2 r' (fun h => hL.1 (h ▸ hr')) (hall r' (List.mem_cons_of_mem _ hr')),
      upd_upd_same, dropItems_cons hn hr]

theorem scans_iff (C : Codec Sp) {name : String} {d : JobDir Sp} (hd : Settled C name d) {order : List Ref}
    (hs : Scans (fun p => getEntry p d.entries) order) : ∀ r, r ∈ order ↔ ItemOf d r := by
  intro r
  obtain ⟨v, hv, _⟩ := hd.sp
  rw [hs.2 r]
  simp only [ItemOf, hv, Option.isSome_some, and_true, getEntry_eq_some_iff _ hd.nodup]
  constructor
  · rintro (h | ⟨p, b, rfl, h⟩ | ⟨p, rfl, h⟩)
    · exact Or.inl h
    · exact Or.inr ⟨_, h, rfl⟩
    · exact Or.inr ⟨_, h, rfl⟩
  · rintro (h | ⟨⟨p, b⟩, h, rfl⟩)
    · exact Or.inl h
    · cases b with
      | none => exact Or.inr (Or.inr ⟨p, rfl, h⟩)
      | some b => exact Or.inr (Or.inl ⟨p, b, rfl, h⟩)

theorem aupd_self (A : AbsW Sp) (k : Key) (v : Option (Sp × Payload)) (h : A k = v) : aupd A k v = A := by
  funext k'; simp only [aupd]; split
  · subst_vars; rfl
  · rfl

theorem remove_ev0 (C : Codec Sp) (k : Key) (order : List Ref) (w : World Sp) (d : JobDir Sp)
    (hw : w k = some d) (hd : Settled C k.2 d) (hs : Scans (fun p => getEntry p d.entries) order) :
    ev0 C (removeProg k order) w = (upd w k none, .ok) := by
  have hperm := rmRefs_perm order []
  simp only [List.map_nil, List.append_nil] at hperm
  have hmem : ∀ r, r ∈ rmRefs order [] ↔ ItemOf d r := fun r => hperm.mem_iff.trans (scans_iff C hd hs r)
  obtain ⟨v, hv, _⟩ := hd.sp
  have hrun := rm_run C rmErr (.done .ok) k [.rmJobDir k] (rmRefs order []) d w hw hd.nodup
    (hperm.nodup_iff.mpr hs.1) (fun r hr => (hmem r).mp hr)
  -- every item is unlinked: the directory is empty when `rmdir` comes
  rw [dropItems, if_pos ((hmem _).mpr (Or.inl ⟨rfl, by rw [hv]; rfl⟩)),
    List.filter_eq_nil_iff.mpr fun e he => by simpa using (hmem _).mpr (Or.inr ⟨e, he, rfl⟩),
    hd.bak, hd.strays] at hrun
  simp only [removeProg, ev0, hw, removeSteps, rmOrder_eq_map, hrun]
  simp [seqProg, ev0, apply, JobDir.isEmpty]

theorem remove_refines (C : Codec Sp) (k : Key) (order : List Ref) (w : World Sp) (hc : Clean C w)
    (hs : ∀ v P, absW w k = some (v, P) → Scans P order) :
    Refines C (removeProg k order) w (specRemove k) := by
  cases hw : w k with
  | none =>
    refine refines_of_ev0 C _ w _ w .ok (by simp [removeProg, ev0, hw]) rfl hc ?_
    simp only [specRemove]
    exact (aupd_self _ _ _ (absW_of_none hw)).symm
  | some d =>
    have hd := hc k d hw
    obtain ⟨v, _, _, _, ha⟩ := absW_settled C hw hd
    have hs' := hs v (fun p => getEntry p d.entries) ha
    refine refines_of_ev0 C _ w _ _ _ (remove_ev0 C k order w d hw hd hs') rfl (clean_upd_none C hc k) ?_
    simp [specRemove, absW_upd]

theorem setEntry_all_same (p : String) (x : Option String) : ∀ (l : Entries), (l.map Prod.fst).Nodup →
    (∀ e ∈ l, e.1 = p) → setEntry p x l = [(p, x)]
  | [], _, _ => rfl
  | (q, c) :: rest, hn, hall => by
    have hq : q = p := hall (q, c) List.mem_cons_self
    subst hq
    have : rest = [] := by
      cases rest with
      | nil => rfl
      | cons e t =>
        have he : e.1 = q := hall e (by simp)
        simp only [List.map_cons, List.nodup_cons, List.mem_cons, not_or] at hn
        exact absurd he.symm hn.1.1
    subst this
    simp [setEntry]

theorem docName_ne_empty : docName ≠ "" := by decide

theorem clear_ev0 (C : Codec Sp) (k : Key) (order : List Ref) (w : World Sp) (d : JobDir Sp)
    (hw : w k = some d) (hd : Settled C k.2 d) (hs : Scans (fun p => getEntry p d.entries) order) :
    ev0 C (clearProg k order) w = (upd w k (some { d with entries := [(docName, some "{}")] }), .ok) := by
  let f : Ref → Bool := fun r => !(r = .sp || r = .file docName)
  have hperm := rmRefs_perm (order.filter f) []
  simp only [List.map_nil, List.append_nil] at hperm
  have hmem : ∀ r, r ∈ rmRefs (order.filter f) [] ↔ ItemOf d r ∧ f r = true := fun r =>
    hperm.mem_iff.trans (List.mem_filter.trans (and_congr_left' (scans_iff C hd hs r)))
  have hrun := rm_run C rmErr (.done .ok) k
    [.tmpOpen k docName, .tmpWrite k docName (.junk "{}"), .tmpCommit k docName]
    (rmRefs (order.filter f) []) d w hw hd.nodup (hperm.nodup_iff.mpr (hs.1.filter _))
    (fun r hr => ((hmem r).mp hr).1)
  -- the state-point file stays, and of the payload at most the document
  rw [dropItems, if_neg fun h => by simpa [f] using ((hmem _).mp h).2] at hrun
  have hent : setEntry docName (some "{}")
      (d.entries.filter fun e => !decide (entryRef e ∈ rmRefs (order.filter f) [])) = [(docName, some "{}")] := by
    refine setEntry_all_same _ _ _ (hd.nodup.sublist (List.filter_sublist.map _)) fun e he => ?_
    obtain ⟨he1, he2⟩ := List.mem_filter.mp he
    have h3 : f (entryRef e) = false := Bool.eq_false_iff.mpr fun hf =>
      (by simpa using he2 : entryRef e ∉ _) ((hmem _).mpr ⟨Or.inr ⟨e, he1, rfl⟩, hf⟩)
    simp [f, entryRef_ne_sp] at h3
    rw [← entryRef_path e, h3]; rfl
  simp only [clearProg, ev0, hw, clearSteps, rmOrder_eq_map]
  rw [hrun]
  simp [seqProg, ev0, apply, hd.strays, hent, setStray, getStray, eraseStray, docName_ne_spName, Content.bytes]

theorem clear_refines (C : Codec Sp) (k : Key) (order : List Ref) (w : World Sp) (hc : Clean C w)
    (hs : ∀ v P, absW w k = some (v, P) → Scans P order) :
    Refines C (clearProg k order) w (specClear k) := by
  cases hw : w k with
  | none =>
    have := absW_of_none hw
    refine refines_of_ev0 C _ w _ w .ok (by simp [clearProg, ev0, hw]) ?_ hc ?_ <;> simp [specClear, this]
  | some d =>
    have hd := hc k d hw
    obtain ⟨v, hv, hh, ha, hak⟩ := absW_settled C hw hd
    have hs' := hs v _ hak
    refine refines_of_ev0 C _ w _ _ _ (clear_ev0 C k order w d hw hd hs') ?_ ?_ ?_
    · simp [specClear, hak]
    · refine cleanBut_upd_some C (hc.but k) _ ⟨⟨v, hv, hh⟩, hd.bak, hd.strays, by simp, ?_⟩
      simpa using docName_ne_empty.symm
    · simp only [specClear, hak, absW_upd, Option.bind_some, absDir, hv]
      have : (fun p => getEntry p [(docName, some "{}")]) = emptyDoc := by
        funext p; simp [getEntry, emptyDoc, eq_comm]
      rw [this]

theorem setEntry_setEntry (p : String) (x y : Option String) : ∀ l : Entries,
    setEntry p x (setEntry p y l) = setEntry p x l
  | [] => by simp [setEntry]
  | (q, c) :: rest => by
    simp only [setEntry]
    split
    · simp [setEntry]
    · rename_i h; simp [setEntry, h, setEntry_setEntry p x y rest]

theorem setEntry_cons (p : String) (x : Option String) (q : String) (c : Option String) (l : Entries) :
    setEntry p x ((q, c) :: l) = if q = p then (p, x) :: l else (q, c) :: setEntry p x l := rfl

theorem getEntry_setEntry (p : String) (x : Option String) (q : String) : ∀ l : Entries,
    getEntry q (setEntry p x l) = if q = p then some x else getEntry q l
  | [] => by
    show (if p = q then some x else none) = _
    by_cases h : q = p
    · rw [if_pos h, if_pos h.symm]
    · rw [if_neg h, if_neg (Ne.symm h)]; rfl
  | (r, c) :: l => by
    rw [setEntry_cons]
    by_cases hrp : r = p
    · subst hrp
      rw [if_pos rfl, getEntry_cons, getEntry_cons]
      by_cases hq : q = r
      · subst hq; rw [if_pos rfl, if_pos rfl]
      · rw [if_neg (Ne.symm hq), if_neg hq, if_neg (Ne.symm hq)]
    · rw [if_neg hrp, getEntry_cons, getEntry_cons, getEntry_setEntry p x q l]
      by_cases hrq : r = q
      · subst hrq; rw [if_pos rfl, if_neg hrp, if_pos rfl]
      · rw [if_neg hrq, if_neg hrq]

theorem copy_sp (C : Codec Sp) (d dd : JobDir Sp) (dst : Key) (rs : List Ref) (w : World Sp) (v : Sp)
    (hw : w dst = some dd) (hv : d.sp = some (.ok v)) :
    ev0 C (copyList d dst (.sp :: rs) false []) w =
      ev0 C (copyList d dst rs false []) (upd w dst (some { dd with sp := some (.ok v) })) := by
  simp [copyList, ev0, apply, hw, putItem, itemContent, hv]

theorem copy_dir (C : Codec Sp) (d dd : JobDir Sp) (dst : Key) (rs : List Ref) (w : World Sp) (p : String)
    (hw : w dst = some dd) (hp : p ≠ "") :
    ev0 C (copyList d dst (.dir p :: rs) false []) w =
      ev0 C (copyList d dst rs false []) (upd w dst (some { dd with entries := setEntry p none dd.entries })) := by
  simp [copyList, ev0, apply, hw, putItem, hp]

theorem copy_file (C : Codec Sp) (d dd : JobDir Sp) (dst : Key) (rs : List Ref) (w : World Sp) (p b : String)
    (hw : w dst = some dd) (hb : getEntry p d.entries = some (some b)) :
    ev0 C (copyList d dst (.file p :: rs) false []) w =
      ev0 C (copyList d dst rs false []) (upd w dst (some { dd with entries := setEntry p (some b) dd.entries })) := by
  by_cases hb0 : b = ""
  · subst hb0
    simp [copyList, ev0, apply, hw, putItem, itemContent, hb, Content.bytes]
  · simp [copyList, ev0, apply, hw, putItem, itemContent, hb, Content.bytes, hb0, setEntry_setEntry]

/-- a new path goes to the end of the listing, a known one keeps its place -/
theorem keys_setEntry (p : String) (x : Option String) : ∀ l : Entries,
    (setEntry p x l).map Prod.fst = if p ∈ l.map Prod.fst then l.map Prod.fst else l.map Prod.fst ++ [p]
  | [] => by simp [setEntry]
  | (q, c) :: l => by
    rw [setEntry_cons, List.map_cons]
    by_cases hqp : q = p
    · subst hqp; rw [if_pos rfl, if_pos List.mem_cons_self]; rfl
    · rw [if_neg hqp, List.map_cons, keys_setEntry p x l]
      by_cases hm : p ∈ l.map Prod.fst
      · rw [if_pos hm, if_pos (List.mem_cons_of_mem _ hm)]
      · rw [if_neg hm, if_neg fun h => (List.mem_cons.mp h).elim (fun e => hqp e.symm) hm]; rfl

theorem setEntry_nodup (p : String) (x : Option String) (l : Entries) (hn : (l.map Prod.fst).Nodup) :
    ((setEntry p x l).map Prod.fst).Nodup := by
  rw [keys_setEntry]
  split
  · exact hn
  · rename_i hm
    exact List.nodup_append.mpr ⟨hn, List.nodup_cons.mpr ⟨List.not_mem_nil, List.nodup_nil⟩,
      fun a ha b hb e => hm (List.mem_singleton.mp hb ▸ e ▸ ha)⟩

theorem copy_entry (C : Codec Sp) (d dd : JobDir Sp) (dst : Key) (rs : List Ref) (w : World Sp)
    (e0 : String × Option String) (hw : w dst = some dd) (hn : (d.entries.map Prod.fst).Nodup)
    (hne : "" ∉ d.entries.map Prod.fst) (he0 : e0 ∈ d.entries) :
    ev0 C (copyList d dst (entryRef e0 :: rs) false []) w =
      ev0 C (copyList d dst rs false [])
        (upd w dst (some { dd with entries := setEntry e0.1 e0.2 dd.entries })) := by
  obtain ⟨p, b⟩ := e0
  have hp : p ≠ "" := fun h => hne (h ▸ List.mem_map.mpr ⟨(p, b), he0, rfl⟩)
  cases b with
  | none => exact copy_dir C d dd dst rs w p hw hp
  | some b => exact copy_file C d dd dst rs w p b hw ((getEntry_eq_some_iff _ hn p (some b)).mpr he0)

/-- `copytree` over the items `L` of the source `d`, no failures: the destination `dd` overwritten by
    the items of `L` (last clause); `Nodup` of `dd` is carried because `getEntry_setEntry` needs it at
    every step -/
theorem copy_run (C : Codec Sp) (d : JobDir Sp) (dst : Key) (v : Sp) (hv : d.sp = some (.ok v))
    (hn : (d.entries.map Prod.fst).Nodup) (hne : "" ∉ d.entries.map Prod.fst) :
    ∀ (L : List Ref) (dd : JobDir Sp) (w : World Sp), w dst = some dd → (dd.entries.map Prod.fst).Nodup →
      (∀ r ∈ L, ItemOf d r) →
      ∃ dd', ev0 C (copyList d dst L false []) w = (upd w dst (some dd'), .ok) ∧
        dd'.bak = dd.bak ∧ dd'.strays = dd.strays ∧ dd'.sp = (if .sp ∈ L then d.sp else dd.sp) ∧
        (dd'.entries.map Prod.fst).Nodup ∧
        (∀ q, getEntry q dd'.entries =
          if (∃ e ∈ d.entries, entryRef e ∈ L ∧ e.1 = q) then getEntry q d.entries else getEntry q dd.entries) := by
  intro L
  induction L with
  | nil =>
    intro dd w hw hnd _
    exact ⟨dd, by simp [copyList, ev0, upd_self w dst _ hw], rfl, rfl, by simp, hnd, by simp⟩
  | cons r L ih =>
    intro dd w hw hnd hall
    have hall' : ∀ r ∈ L, ItemOf d r := fun r hr => hall r (List.mem_cons_of_mem _ hr)
    rcases hall r List.mem_cons_self with ⟨rfl, _⟩ | ⟨e0, he0, rfl⟩
    · obtain ⟨dd', hrun, hbak, hstr, hsp, hnd', hget⟩ :=
        ih { dd with sp := some (.ok v) } (upd w dst (some { dd with sp := some (.ok v) })) (upd_same ..) hnd hall'
      refine ⟨dd', ?_, hbak, hstr, ?_, hnd', ?_⟩
      · rw [copy_sp C d dd dst L w v hw hv, hrun, upd_upd_same]
      · rw [hsp]; simp only [List.mem_cons, true_or, if_true]; split <;> simp [hv]
      · intro q; rw [hget q]
        simp only [List.mem_cons, entryRef_ne_sp, false_or]
    · obtain ⟨dd', hrun, hbak, hstr, hsp, hnd', hget⟩ :=
        ih { dd with entries := setEntry e0.1 e0.2 dd.entries }
          (upd w dst (some { dd with entries := setEntry e0.1 e0.2 dd.entries })) (upd_same ..)
          (setEntry_nodup _ _ _ hnd) hall'
      refine ⟨dd', ?_, hbak, hstr, ?_, hnd', ?_⟩
      · rw [copy_entry C d dd dst L w e0 hw hn hne he0, hrun, upd_upd_same]
      · rw [hsp]; simp only [List.mem_cons, (entryRef_ne_sp e0).symm, false_or]
      · intro q; rw [hget q]
        simp only [getEntry_setEntry]
        by_cases hq : q = e0.1
        · subst hq
          have h1 : ∃ e ∈ d.entries, entryRef e ∈ entryRef e0 :: L ∧ e.1 = e0.1 :=
            ⟨e0, he0, List.mem_cons_self, rfl⟩
          have h2 : getEntry e0.1 d.entries = some e0.2 := (getEntry_eq_some_iff _ hn _ _).mpr he0
          simp only [if_pos h1, if_true, h2]
          split <;> rfl
        · have h1 : (∃ e ∈ d.entries, entryRef e ∈ entryRef e0 :: L ∧ e.1 = q) ↔
              (∃ e ∈ d.entries, entryRef e ∈ L ∧ e.1 = q) := by
            constructor
            · rintro ⟨e, he, hm, rfl⟩
              rcases List.mem_cons.mp hm with h | h
              · exact absurd (by rw [← entryRef_path e, h, entryRef_path]) hq
              · exact ⟨e, he, h, rfl⟩
            · rintro ⟨e, he, hm, rfl⟩
              exact ⟨e, he, List.mem_cons_of_mem _ hm, rfl⟩
          simp only [hq, if_false, h1]

theorem clone_ev0_fresh (C : Codec Sp) (src dst : Key) (order : List Ref) (w : World Sp) (d : JobDir Sp)
    (hsrc : w src = some d) (hd : Settled C src.2 d) (hdst : w dst = none)
    (hs : Scans (fun p => getEntry p d.entries) order) :
    ∃ dd', ev0 C (cloneProg src dst order) w = (upd w dst (some dd'), .ok) ∧ Settled C src.2 dd' ∧
      absDir dd' = absDir d := by
  obtain ⟨v, hv, hh, ha⟩ := absDir_settled C hd
  have hitem := scans_iff C hd hs
  obtain ⟨dd', hrun, hbak, hstr, hsp, hnd, hget⟩ :=
    copy_run C d dst v hv hd.nodup hd.nonempty order {} (upd w dst (some {})) (upd_same ..) (by simp)
      (fun r hr => (hitem r).mp hr)
  have hsp' : dd'.sp = some (.ok v) := by
    rw [hsp, if_pos ((hitem _).mpr (Or.inl ⟨rfl, by simp [hv]⟩)), hv]
  have hget' : ∀ q, getEntry q dd'.entries = getEntry q d.entries := by
    intro q
    rw [hget q]
    split
    · rfl
    · rename_i hno
      cases hq : getEntry q d.entries with
      | none => simp [getEntry]
      | some b =>
        have hmem := (getEntry_eq_some_iff _ hd.nodup q b).mp hq
        exact absurd ⟨(q, b), hmem, (hitem _).mpr (Or.inr ⟨_, hmem, rfl⟩), rfl⟩ hno
  refine ⟨dd', ?_, ⟨⟨v, hsp', hh⟩, by rw [hbak], by rw [hstr], hnd, ?_⟩, ?_⟩
  · simp only [cloneProg, ev0, hsrc, apply, if_true, hdst, hrun, upd_upd_same]
  · rw [← getEntry_none_iff, hget', getEntry_none_iff]; exact hd.nonempty
  · rw [ha]; simp only [absDir, hsp']
    congr 2
    funext q; exact hget' q

/-- `Project.clone`: the destination gets a copy of state point and payload (copied entry by
    entry), the source is unchanged; a taken destination: DestinationExistsError, nothing changes;
    a source that is not there: ValueError -/
theorem clone_refines (C : Codec Sp) (src dst : Key) (order : List Ref) (w : World Sp) (hid : src.2 = dst.2)
    (hc : Clean C w) (hs : ∀ v P, absW w src = some (v, P) → Scans P order) :
    Refines C (cloneProg src dst order) w (specClone src dst) := by
  cases hsrc : w src with
  | none =>
    have := absW_of_none hsrc
    refine refines_of_ev0 C _ w _ w (.exc "ValueError") (by simp [cloneProg, ev0, hsrc]) ?_ hc ?_ <;>
      simp [specClone, this]
  | some d =>
    have hd := hc src d hsrc
    obtain ⟨v, hv, hh, ha, hax⟩ := absW_settled C hsrc hd
    cases hdst : w dst with
    | some d' =>
      obtain ⟨v', _, _, ha', hay⟩ := absW_settled C hdst (hc dst d' hdst)
      refine refines_of_ev0 C _ w _ w destExists
        (by simp [cloneProg, ev0, hsrc, apply, hdst, destExists]) ?_ hc ?_ <;> simp [specClone, hax, hay]
    | none =>
      have hay := absW_of_none hdst
      obtain ⟨dd', hrun, hset, habs⟩ := clone_ev0_fresh C src dst order w d hsrc hd hdst (hs _ _ hax)
      refine refines_of_ev0 C _ w _ _ _ hrun ?_ (cleanBut_upd_some C (hc.but dst) dd' (hid ▸ hset)) ?_
      · simp [specClone, hax, hay]
      · simp [specClone, hax, hay, absW_upd, habs, ha]

/-- every operation: the event-free run of its step program from a clean world returns what the
    abstract operation returns, ends in a clean world, and commutes with the abstraction -/
theorem op_refines (C : Codec Sp) (op : Op Sp) (w : World Sp) (hc : Clean C w) (hp : op.pre C (absW w)) :
    Refines C (op.prog C) w op.spec := by
  cases op with
  | init k v f => exact init_refines C k v f w (hc.but k) hp
  | rekey x y v => exact rekey_refines C x y v w hp.1 hc hp.2
  | move a b => exact move_refines C a b w hp.1 hp.2 hc
  | clone s d o => exact clone_refines C s d o w hp.1 hc hp.2
  | remove k o => exact remove_refines C k o w hc hp
  | clear k o => exact clear_refines C k o w hc hp

theorem clean_empty (C : Codec Sp) : Clean C (fun _ => none) := fun _ _ h => by cases h

theorem absW_none : absW (Sp := Sp) (fun _ => none) = fun _ => none := rfl

end Signac.Life
