/-
  Value layer of C06/C07, numbers: Python ordering of a bool, int or float with anything goes
  through `numVal`, like `==` (Proofs/PyEq), and respects `==`.
-/
import Signac.Proofs.PyEq
namespace Signac.Query
open Signac

/-- three-way comparison of two exact dyadic numbers -/
def numCmp (p q : Int × Nat) : Cmp := if numLt p q then .lt else if numEq p q then .eq else .gt

/-- Python ordering of a number with anything -/
theorem pyCmp_of_numVal {a : JVal} {p : Int × Nat} (h : numVal a = some p) (c : JVal) :
    pyCmp a c = (match numVal c with | some q => numCmp p q | none => .typeError) := by
  cases a with
  | bool b => cases b <;> cases h <;> rfl
  | int i => cases h; rfl
  | flt n e r => cases h; rfl
  | _ => cases h

theorem pyEq_nonnum_num {a c : JVal} (ha : numVal a = none) {q : Int × Nat} (hc : numVal c = some q) :
    pyEq a c = false := pyEq_none_num ha hc

/-- anything that is not a number cannot be ordered with a number -/
theorem pyCmp_nonnum_num {a c : JVal} (ha : numVal a = none) {q : Int × Nat} (hc : numVal c = some q) :
    pyCmp a c = .typeError := by
  cases a with
  | bool b => cases b <;> cases ha
  | int i => cases ha
  | flt n e r => cases ha
  | null => rfl
  | obj kvs => rfl
  | _ => cases c <;> first | rfl | cases hc

theorem pyCmp_num_congr {a b : JVal} {p : Int × Nat} (h : numVal a = some p) (hab : pyEq a b = true)
    (c : JVal) : pyCmp a c = pyCmp b c := by
  obtain ⟨q, hb, hpq⟩ := pyEq_num_true h hab
  rw [pyCmp_of_numVal h, pyCmp_of_numVal hb]
  cases numVal c with
  | none => rfl
  | some s => simp only [numCmp, numEq_eucl hpq s, numLt_congr_left hpq s]

end Signac.Query
