/-
  `splitChunks` (the chunking in `_update_in_memory_cache`): what it yields, that the chunks
  concatenate to the input and that there are as many as asked for.
-/
import Signac.Chunks
namespace Signac.Chunks

theorem take_append_slice {α} (xs : List α) (a b : Nat) (h : a ≤ b) :
    xs.take a ++ slice xs a b = xs.take b := by
  unfold slice
  rw [← Nat.min_eq_left h, ← List.take_take, Nat.min_eq_left h, List.take_append_drop]

theorem flatten_leading_chunks {α} (xs : List α) (len m : Nat) :
    ((List.range m).map (fun i => slice xs (i * len) ((i + 1) * len))).flatten = xs.take (m * len) := by
  induction m with
  | zero => rw [Nat.zero_mul]; rfl
  | succ m ih =>
    rw [List.range_succ, List.map_append, List.flatten_append, ih, List.map_singleton, List.flatten_singleton]
    exact take_append_slice xs (m * len) ((m + 1) * len) (Nat.mul_le_mul_right len (Nat.le_succ m))

theorem splitChunks_eq_some {α} {xs : List α} {k : Nat} {cs : List (List α)} (h : splitChunks xs k = some cs) :
    k ≠ 0 ∧ cs = if k = 1 then [xs] else
      (List.range (k - 1)).map (fun i => slice xs (i * (xs.length / k)) ((i + 1) * (xs.length / k))) ++
        [xs.drop ((k - 1) * (xs.length / k))] := by
  unfold splitChunks at h
  by_cases h0 : k = 0
  · rw [if_pos h0] at h; cases h
  · rw [if_neg h0] at h
    by_cases h1 : k = 1
    · rw [if_pos h1] at h; rw [if_pos h1]; exact ⟨h0, (Option.some.inj h).symm⟩
    · rw [if_neg h1] at h; rw [if_neg h1]; exact ⟨h0, (Option.some.inj h).symm⟩

/-- no id is dropped, duplicated or re-ordered: the chunks concatenate to the input -/
theorem splitChunks_flatten {α} (xs : List α) (k : Nat) (cs : List (List α))
    (h : splitChunks xs k = some cs) : cs.flatten = xs := by
  rw [(splitChunks_eq_some h).2]
  split
  · exact List.flatten_singleton ..
  · rw [List.flatten_append, flatten_leading_chunks, List.flatten_singleton, List.take_append_drop]

theorem splitChunks_length {α} (xs : List α) (k : Nat) (cs : List (List α))
    (h : splitChunks xs k = some cs) : cs.length = k := by
  obtain ⟨h0, e⟩ := splitChunks_eq_some h
  rw [e]
  split
  · exact (‹k = 1›).symm
  · rw [List.length_append, List.length_map, List.length_range]
    exact Nat.sub_add_cancel (Nat.pos_of_ne_zero h0)

theorem splitChunks_error_iff {α} (xs : List α) (k : Nat) : splitChunks xs k = none ↔ k = 0 := by
  refine ⟨fun h => Classical.byContradiction fun h0 => ?_, fun h0 => if_pos h0⟩
  unfold splitChunks at h
  rw [if_neg h0] at h
  split at h <;> cases h

theorem numChunks_pos (n : Nat) : 0 < numChunks n := Nat.lt_of_lt_of_le Nat.zero_lt_one (Nat.le_max_left ..)

end Signac.Chunks
