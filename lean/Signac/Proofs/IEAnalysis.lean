/-
  C16, the three import analysers on the member list of an export.  All of them walk a list of
  directory names and remember the job directories they have identified; they differ in which names
  they refuse to look at (`Policy`; the directory crawl uses the zip policy) and in when they copy.
  On an export with prefix-free places they identify exactly the exported job directories
  (`scan_roots`, `crawl_eq_tarCopy`) provided no other directory that is looked at holds a state
  point file: either none does, or the list is ordered so that a remembered directory shields it
  (`Guard`, `Loop`; `Finds` and its two general instances at the end).
-/
import Signac.ImportExport
import Signac.Proofs.IEMembers
namespace Signac.IE
open Signac

theorem hasId_iff {id : String} {p : Project} : hasId id p = true ↔ id ∈ p.map (·.id) := by
  simp only [hasId, List.any_eq_true, decide_eq_true_eq, List.mem_map]

theorem hasId_true_of_mem {id : String} {p : Project} {j : Job} (hj : j ∈ p) (h : j.id = id) :
    hasId id p = true :=
  hasId_iff.mpr (List.mem_map.mpr ⟨j, hj, h⟩)

theorem hasId_append (id : String) (p q : Project) : hasId id (p ++ q) = (hasId id p || hasId id q) :=
  List.any_append

theorem contains_of_hasId {id : String} {p : Project} (h : hasId id p = true) :
    (p.map (·.id)).contains id = true :=
  List.contains_iff_mem.mpr (hasId_iff.mp h)

def toJob (A : List (Comps × Content)) (m : Comps × String × JVal) : Job := ⟨m.2.1, filesUnder m.1 A⟩

/-- the mapping entry an analyser creates for `d` if `d` is an exported job directory -/
def rootMap (hash : JVal → String) (E : List (Job × Comps)) (d : Comps) : Option (Comps × String × JVal) :=
  if E.any (fun e => decide (e.2 = d)) then
    match readSp (members E) d with
    | .ok (some v) => some (d, hash v, v)
    | _ => none
  else none

/-- the directory holds a state point file whose value hashes to the id it is mapped to -/
def ValidMap (hash : JVal → String) (A : List (Comps × Content)) (m : Comps × String × JVal) : Prop :=
  ∃ w, lookupFile [fnSp] (filesUnder m.1 A) = some (.sp w) ∧ hash w = m.2.1

section
variable {hash : JVal → String} {E : List (Job × Comps)}

theorem rootMap_nonroot {x : Comps} (hx : ¬ IsRoot E x) : rootMap hash E x = none := by
  have hany : E.any (fun e' => decide (e'.2 = x)) = false :=
    List.any_eq_false.mpr fun e he h => hx ⟨e, he, of_decide_eq_true h⟩
  rw [rootMap, hany]
  rfl

theorem at_root (G : GoodExport hash E) {e : Job × Comps} (he : e ∈ E) :
    ∃ v, readSp (members E) e.2 = .ok (some v) ∧ hash v = e.1.id
      ∧ rootMap hash E e.2 = some (e.2, e.1.id, v)
      ∧ lookupFile [fnSp] (filesUnder e.2 (members E)) = some (.sp v) := by
  rcases G.sp e he with ⟨v, hv, hh⟩
  have hread := readSp_root G he hv
  have hany : E.any (fun e' => decide (e'.2 = e.2)) = true :=
    List.any_eq_true.mpr ⟨e, he, decide_eq_true rfl⟩
  refine ⟨v, hread, hh, ?_, (filesUnder_root G.pf he).symm ▸ hv⟩
  simp only [rootMap, hany, if_true, hread, hh]

theorem rootMap_some (G : GoodExport hash E) {x : Comps} {m : Comps × String × JVal}
    (h : rootMap hash E x = some m) :
    ∃ e ∈ E, e.2 = x ∧ m.2.1 = e.1.id ∧ toJob (members E) m = e.1 ∧ ValidMap hash (members E) m := by
  by_cases hex : IsRoot E x
  · rcases hex with ⟨e, he, rfl⟩
    rcases at_root G he with ⟨v, _, hh, hm, hf⟩
    cases hm.symm.trans h
    exact ⟨e, he, rfl, rfl, congrArg (Job.mk e.1.id) (filesUnder_root G.pf he), v, hf, hh⟩
  · cases (rootMap_nonroot hex).symm.trans h

theorem found_jobs (G : GoodExport hash E) (dirs : List Comps) (hnd : dirs.Nodup)
    (hall : ∀ e ∈ E, e.2 ∈ dirs) :
    let R := (dirs.filterMap (rootMap hash E)).map (toJob (members E))
    (∀ j, j ∈ R ↔ j ∈ E.map (·.1)) ∧ (R.map (·.id)).Nodup := by
  intro R
  constructor
  · intro j
    simp only [R, List.mem_map, List.mem_filterMap]
    constructor
    · rintro ⟨m, ⟨d, _, hm⟩, rfl⟩
      rcases rootMap_some G hm with ⟨e, he, _, _, hj, _⟩
      exact ⟨e, he, hj.symm⟩
    · rintro ⟨e, he, rfl⟩
      rcases at_root G he with ⟨v, _, _, hm, _⟩
      exact ⟨_, ⟨e.2, hall e he, hm⟩, congrArg (Job.mk e.1.id) (filesUnder_root G.pf he)⟩
  · simp only [R, List.map_map]
    rw [List.Nodup, List.pairwise_map, List.pairwise_filterMap]
    refine hnd.imp_of_mem fun _ _ hne m hm m' hm' heq => ?_
    rcases rootMap_some G hm with ⟨e, he, hed, hid, _⟩
    rcases rootMap_some G hm' with ⟨e', he', hed', hid', _⟩
    have := G.eq_of_id he he' (hid.symm.trans (heq.trans hid'))
    exact hne (hed.symm.trans (this ▸ hed'))

end

theorem zipCopy_spec (A : List (Comps × Content)) (maps : List (Comps × String × JVal)) :
    ∀ r : ImportResult,
      (zipCopy A maps r).proj = r.proj ++ maps.map (toJob A) ∧ (zipCopy A maps r).err = r.err := by
  induction maps with
  | nil => exact fun r => ⟨(List.append_nil _).symm, rfl⟩
  | cons m rest ih =>
    intro r
    obtain ⟨d, id, sp⟩ := m
    rw [zipCopy]
    exact (ih _).imp (fun h => h.trans (List.append_assoc ..)) (fun h => h)

section
variable (hash : JVal → String) (A : List (Comps × Content)) (d : Comps) (id : String) (sp : JVal)
  (r : ImportResult)

theorem copyInit_exists (h : hasId id r.proj = true) :
    copyInit hash A d id sp r = { r with err := some .destinationExists } := by
  rw [copyInit, if_pos h]

theorem copyInit_fresh (h : hasId id r.proj = false) {w : JVal}
    (hw : lookupFile [fnSp] (filesUnder d A) = some (.sp w)) (hh : hash w = id) :
    copyInit hash A d id sp r =
      { proj := r.proj ++ [⟨id, filesUnder d A⟩], err := r.err,
        writes := r.writes ++ writesOf id (filesUnder d A) } := by
  simp only [copyInit, h, Bool.false_eq_true, if_false, initJob, hw, hh, if_true, List.append_nil]

end

theorem nodup_ids_cons {p : Project} {id : String} {ids : List String}
    (h : (p.map (·.id) ++ id :: ids).Nodup) (fs : List (Comps × Content)) :
    hasId id p = false ∧ ((p ++ [(⟨id, fs⟩ : Job)]).map (·.id) ++ ids).Nodup :=
  ⟨Bool.eq_false_iff.mpr fun hc =>
      (List.nodup_append.mp h).2.2 id (hasId_iff.mp hc) id List.mem_cons_self rfl,
    by simpa only [List.map_append, List.map_cons, List.map_nil, List.append_assoc, List.cons_append,
      List.nil_append] using h⟩

section
variable (hash : JVal → String) (A : List (Comps × Content))

theorem tarCopy_spec (maps : List (Comps × String × JVal)) :
    ∀ r : ImportResult, r.err = none →
      (∀ m ∈ maps, ValidMap hash A m) → ((r.proj.map (·.id)) ++ maps.map (·.2.1)).Nodup →
      (tarCopy hash A maps r).proj = r.proj ++ maps.map (toJob A) ∧ (tarCopy hash A maps r).err = none := by
  induction maps with
  | nil => exact fun r hr _ _ => ⟨(List.append_nil _).symm, hr⟩
  | cons m rest ih =>
    intro r hr hinit hnd
    obtain ⟨d, id, sp⟩ := m
    rcases hinit _ List.mem_cons_self with ⟨w, hw, hh⟩
    have hid := nodup_ids_cons hnd (filesUnder d A)
    rw [tarCopy, copyInit_fresh hash A d id sp r hid.1 hw hh]
    simp only [hr, Option.isSome_none, Bool.false_eq_true, if_false]
    exact (ih _ rfl (fun m hm => hinit m (List.mem_cons_of_mem _ hm)) hid.2).imp
      (fun h => h.trans (List.append_assoc ..)) (fun h => h)

theorem tarCopy_exists (maps : List (Comps × String × JVal)) :
    ∀ r : ImportResult, r.err = none →
      (∀ m ∈ maps, ValidMap hash A m) → (∃ m ∈ maps, hasId m.2.1 r.proj = true) →
      (tarCopy hash A maps r).err = some .destinationExists := by
  induction maps with
  | nil => exact fun _ _ _ ⟨_, hm, _⟩ => nomatch hm
  | cons m₀ rest ih =>
    intro r hr hinit ⟨m, hm, hc⟩
    obtain ⟨d, id, sp⟩ := m₀
    rw [tarCopy]
    cases h : hasId id r.proj with
    | true => rw [copyInit_exists hash A d id sp r h]; rfl
    | false =>
      rcases hinit _ List.mem_cons_self with ⟨w, hw, hh⟩
      rw [copyInit_fresh hash A d id sp r h hw hh]
      simp only [hr, Option.isSome_none, Bool.false_eq_true, if_false]
      refine ih _ rfl (fun m hm => hinit m (List.mem_cons_of_mem _ hm)) ⟨m, ?_, ?_⟩
      · rcases List.mem_cons.mp hm with rfl | hm'
        · rw [h] at hc; cases hc
        · exact hm'
      · rw [hasId_append, hc, Bool.true_or]

end

/-- What makes a policy find the job directories of `E`.  `U` bounds the directories that hold a
    state point file.  `W x y` ("`y` guards `x`"): once `y` has been remembered, `x` is skipped. -/
structure Guard (E : List (Job × Comps)) (pol : Policy) (U : Comps → Prop) (W : Comps → Comps → Prop) :
    Prop where
  /-- outside `U` there is no state point file -/
  quiet : ∀ x, ¬ U x → readSp (members E) x = .ok none
  /-- the policy only skips what lies below a remembered directory -/
  below : ∀ skip x, pol.test skip x = true → ∃ s ∈ skip, s <+: x
  /-- a remembered guard makes the policy skip -/
  fires : ∀ skip x y, W x y → y ∈ skip → pol.test skip x = true
  proper : ∀ x y, W x y → y ≠ x ∧ U y
  /-- a guard that has been visited is remembered: either skipped names are (tar), or every guard is
      a job directory, which is remembered when it is identified (zip) -/
  kept : pol.addSkipped = true ∨ ∀ x y, W x y → IsRoot E y

/-- The loop invariant, `dirs` still to be visited and `skip` remembered: every `U`-directory ahead
    that is not a job directory has a guard which is remembered already or comes before it. -/
structure Loop (E : List (Job × Comps)) (U : Comps → Prop) (W : Comps → Comps → Prop)
    (dirs skip : List Comps) : Prop where
  nodup : dirs.Nodup
  /-- no guard comes after what it guards -/
  order : dirs.Pairwise (fun a b => ¬ W a b)
  under : ∀ s ∈ skip, Under E s ∧ s ∉ dirs
  guard : ∀ x ∈ dirs, U x → ¬ IsRoot E x → ∃ y, W x y ∧ (y ∈ skip ∨ y ∈ dirs)

section
variable {hash : JVal → String} {E : List (Job × Comps)} {pol : Policy} {U : Comps → Prop}
  {W : Comps → Comps → Prop} {d : Comps} {rest skip : List Comps}

namespace Loop

/-- one step: `d` has been visited, `skip'` is remembered now -/
theorem tail (L : Loop E U W (d :: rest) skip) {skip' : List Comps}
    (hsub : ∀ s ∈ skip, s ∈ skip') (hnew : ∀ s ∈ skip', s ∈ skip ∨ (s = d ∧ Under E d))
    (hd : d ∈ skip' ∨ ∀ x, ¬ W x d) : Loop E U W rest skip' where
  nodup := (List.nodup_cons.mp L.nodup).2
  order := (List.pairwise_cons.mp L.order).2
  under := fun s hs => by
    rcases hnew s hs with h | ⟨rfl, hu⟩
    · exact ⟨(L.under s h).1, fun hm => (L.under s h).2 (List.mem_cons_of_mem _ hm)⟩
    · exact ⟨hu, (List.nodup_cons.mp L.nodup).1⟩
  guard := fun x hx hux hnr => by
    rcases L.guard x (List.mem_cons_of_mem _ hx) hux hnr with ⟨y, hW, hy | hy⟩
    · exact ⟨y, hW, Or.inl (hsub y hy)⟩
    · rcases List.mem_cons.mp hy with rfl | hy'
      · exact ⟨y, hW, Or.inl (hd.resolve_right fun h => h x hW)⟩
      · exact ⟨y, hW, Or.inr hy'⟩

theorem skipped (G : GoodExport hash E) (Gd : Guard E pol U W) (L : Loop E U W (d :: rest) skip)
    (h : pol.test skip d = true) :
    ¬ IsRoot E d ∧ Loop E U W rest (if pol.addSkipped = true then d :: skip else skip) := by
  rcases Gd.below skip d h with ⟨s, hs, hsd⟩
  rcases (L.under s hs).1 with ⟨r, hr, hrs⟩
  have hnot : ¬ IsRoot E d := by
    rintro ⟨e, he, rfl⟩
    cases G.eq_of_prefix hr he (hrs.trans hsd)
    exact (L.under s hs).2 (hsd.eq_of_length_le hrs.length_le ▸ List.mem_cons_self)
  refine ⟨hnot, ?_⟩
  split
  · exact L.tail (fun _ hs => List.mem_cons_of_mem _ hs)
      (fun _ hs => (List.mem_cons.mp hs).elim (fun h => Or.inr ⟨h, r, hr, hrs.trans hsd⟩) Or.inl)
      (Or.inl List.mem_cons_self)
  · exact L.tail (fun _ hs => hs) (fun _ hs => Or.inl hs)
      (Or.inr fun x hW => hnot ((Gd.kept.resolve_left ‹_›) x d hW))

theorem root (L : Loop E U W (d :: rest) skip) (h : IsRoot E d) : Loop E U W rest (d :: skip) :=
  L.tail (fun _ hs => List.mem_cons_of_mem _ hs)
    (fun _ hs => (List.mem_cons.mp hs).elim (fun h' => Or.inr ⟨h', h.under⟩) Or.inl)
    (Or.inl List.mem_cons_self)

theorem quiet (Gd : Guard E pol U W) (L : Loop E U W (d :: rest) skip)
    (h : ¬ pol.test skip d = true) (hr : ¬ IsRoot E d) :
    readSp (members E) d = .ok none ∧ Loop E U W rest skip := by
  have hnu : ¬ U d := fun hu => by
    rcases L.guard d List.mem_cons_self hu hr with ⟨y, hW, hy | hy⟩
    · exact h (Gd.fires skip d y hW hy)
    · rcases List.mem_cons.mp hy with rfl | hy'
      · exact (Gd.proper _ _ hW).1 rfl
      · exact (List.pairwise_cons.mp L.order).1 y hy' hW
  exact ⟨Gd.quiet d hnu, L.tail (fun _ hs => hs) (fun _ hs => Or.inl hs)
    (Or.inr fun x hW => hnu (Gd.proper x d hW).2)⟩

end Loop

/-- The loop of the zip / tar analyser records exactly the job directories among `dirs`, and raises
    DestinationExistsError iff the id of one of them is taken. -/
theorem scan_roots (G : GoodExport hash E) (Gd : Guard E pol U W) (dstIds : List String)
    (dirs : List Comps) : ∀ (skip : List Comps) (maps : List (Comps × String × JVal)), Loop E U W dirs skip →
      scan pol hash (readSp (members E)) dstIds dirs skip maps =
        if (dirs.filterMap (rootMap hash E)).any (fun m => dstIds.contains m.2.1) then
          .error .destinationExists
        else .ok (maps ++ dirs.filterMap (rootMap hash E)) := by
  induction dirs with
  | nil => exact fun _ maps _ => congrArg Except.ok (List.append_nil maps).symm
  | cons d rest ih =>
    intro skip maps L
    rw [scan, List.filterMap_cons]
    by_cases ht : pol.test skip d = true
    · have h := L.skipped G Gd ht
      rw [if_pos ht, ih _ _ h.2, rootMap_nonroot h.1]
    · rw [if_neg ht]
      by_cases hr : IsRoot E d
      · rcases hr with ⟨e, he, rfl⟩
        rcases at_root G he with ⟨v, hread, hh, hm, _⟩
        rw [hread, hm, List.any_cons]
        simp only [hh]
        cases dstIds.contains e.1.id with
        | true => rfl
        | false =>
          rw [ih _ _ (L.root ⟨e, he, rfl⟩), List.append_assoc]
          rfl
      · have h := L.quiet Gd ht hr
        rw [h.1, ih _ _ h.2, rootMap_nonroot hr]

/-- The directory crawl copies exactly the job directories among `dirs`, like the tar executor does;
    its own duplicate test never fires. -/
theorem crawl_eq_tarCopy (G : GoodExport hash E) (Gd : Guard E zipPolicy U W) (dirs : List Comps) :
    ∀ (found : List Comps) (seen : List String) (r : ImportResult), Loop E U W dirs found →
      (∀ e ∈ E, e.1.id ∈ seen → e.2 ∈ found) →
      crawl hash (readSp (members E)) (members E) dirs found seen r
        = tarCopy hash (members E) (dirs.filterMap (rootMap hash E)) r := by
  induction dirs with
  | nil => exact fun _ _ _ _ _ => rfl
  | cons d rest ih =>
    intro found seen r L hseen
    rw [crawl, List.filterMap_cons]
    -- the crawl's own test, which is `zipPolicy.test found d`
    by_cases ht : (found.any fun s => isPrefixB s d) = true
    · have h := L.skipped G Gd ht
      rw [if_pos ht, rootMap_nonroot h.1]
      exact ih _ _ _ h.2 hseen
    · rw [if_neg ht]
      by_cases hr : IsRoot E d
      · rcases hr with ⟨e, he, rfl⟩
        rcases at_root G he with ⟨v, hread, hh, hm, _⟩
        have hfresh : seen.contains e.1.id = false :=
          Bool.eq_false_iff.mpr fun h =>
            (L.under _ (hseen e he (List.contains_iff_mem.mp h))).2 List.mem_cons_self
        rw [hread, hm, tarCopy]
        simp only [hh, hfresh, Bool.false_eq_true, if_false]
        rw [ih _ _ _ (L.root ⟨e, he, rfl⟩)]
        intro e' he' hs
        rcases List.mem_cons.mp hs with hid | hs'
        · exact G.eq_of_id he' he hid ▸ List.mem_cons_self
        · exact List.mem_cons_of_mem _ (hseen e' he' hs')
      · have h := L.quiet Gd ht hr
        rw [h.1, rootMap_nonroot hr]
        exact ih _ _ _ h.2 hseen

end

/-! ### orders on which an analyser finds the job directories -/

/-- an analyser with policy `pol` that walks `dirs` identifies exactly the job directories of `E` -/
def Finds (E : List (Job × Comps)) (pol : Policy) (dirs : List Comps) : Prop :=
  ∃ U W, Guard E pol U W ∧ Loop E U W dirs []

theorem zipPolicy_below (skip : List Comps) (x : Comps) (h : zipPolicy.test skip x = true) :
    ∃ s ∈ skip, s <+: x :=
  let ⟨s, hs, hp⟩ := List.any_eq_true.mp h
  ⟨s, hs, of_decide_eq_true hp⟩

theorem tarPolicy_below (skip : List Comps) (x : Comps) (h : tarPolicy.test skip x = true) :
    ∃ s ∈ skip, s <+: x :=
  ⟨x.dropLast, List.contains_iff_mem.mp h, List.dropLast_prefix x⟩

section
variable {hash : JVal → String} {E : List (Job × Comps)} (G : GoodExport hash E)
include G

/-- without nested state point files: any duplicate-free order, any policy that only skips what lies
    below a remembered directory; no guards are needed -/
theorem finds_of_noNested (hnn : NoNestedE E) {pol : Policy}
    (hpol : ∀ skip x, pol.test skip x = true → ∃ s ∈ skip, s <+: x) {dirs : List Comps} (hnd : dirs.Nodup) :
    Finds E pol dirs :=
  ⟨IsRoot E, fun _ _ => False,
    { quiet := fun _ hx => readSp_nonroot G hnn hx
      below := hpol
      fires := fun _ _ _ h => h.elim
      proper := fun _ _ h => h.elim
      kept := Or.inr fun _ _ h => h.elim },
    { nodup := hnd
      order := List.pairwise_of_forall fun _ _ h => h
      under := fun _ h => nomatch h
      guard := fun _ _ hu hr => absurd hu hr }⟩

/-- zip analyser and directory crawl: the job directory guards everything inside it, so it is enough
    that no directory inside a job precedes an ancestor that lies in a job as well -/
theorem finds_zip {dirs : List Comps} (hnd : dirs.Nodup) (hall : ∀ e ∈ E, e.2 ∈ dirs)
    (hpw : dirs.Pairwise (fun a b => ¬ BadPair (Under E) a b)) : Finds E zipPolicy dirs :=
  ⟨Under E, fun x y => IsRoot E y ∧ y <+: x ∧ y ≠ x,
    { quiet := fun _ hx => readSp_outside G hx
      below := zipPolicy_below
      fires := fun _ _ y h hy => List.any_eq_true.mpr ⟨y, hy, decide_eq_true h.2.1⟩
      proper := fun _ _ h => ⟨h.2.2, h.1.under⟩
      kept := Or.inr fun _ _ h => h.1 },
    { nodup := hnd
      order := hpw.imp fun hab h => hab ⟨h.2.1, h.2.2, h.1.under⟩
      under := fun _ h => nomatch h
      guard := fun _ _ ⟨e, he, hex⟩ hnr =>
        ⟨e.2, ⟨⟨e, he, rfl⟩, hex, fun h => hnr ⟨e, he, h⟩⟩, Or.inr (hall e he)⟩ }⟩

end

end Signac.IE
