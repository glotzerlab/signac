/-
  Exact outcomes of the short programs, step by step: the event-free runs of `init`, re-key and
  `move` on every kind of pre-state.
  Among them the step-level "never rewrites" theorems (C02: init() of a valid job touches nothing;
  C04: a collision raises DestinationExistsError and leaves both jobs byte-identical on disk).
  These are about the recorded trace `Outcome.acc.trace` (every step announced to the file
  system — performed, failed by itself, or faulted — newest first) and about EXACT equality of
  worlds, not equality up to an abstraction.
-/
import Signac.Proofs.LifeClone
namespace Signac.Life
variable {Sp : Type}

def destExists : Res := .exc "DestinationExistsError"

/-- event-free `save` + `load` in a directory without state-point file: open the temp file, write
    it, rename it onto the state-point file -/
theorem save_load_noEv (C : Codec Sp) (k : Key) (v : Sp) (f : Bool) (a : Acc Sp) {w : World Sp} {d : JobDir Sp}
    (hk : w k = some d) (hsp : d.sp = none) (hv : C.hash v = k.2) :
    exec C noEv (saveProg k v f (loadProg C k)) a w =
      ⟨upd w k (some { d with sp := some (.ok v) }), .ok,
       ((a.ok (.tmpOpen k spName)).ok (.tmpWrite k spName (.ok v))).ok (.tmpCommit k spName)⟩ := by
  have hns : hasSpFile w k = false := by simp only [hasSpFile, hk, hsp, Option.isSome_none]
  rw [saveProg_eq, exec]
  simp only [hns, Bool.not_false, Bool.or_true, if_true]
  rw [exec_none_ok C rfl (apply_tmpOpen C hk _), exec_none_ok C rfl (apply_tmpWrite C (upd_same ..) _ _),
    upd_upd_same, setStray_cons_self,
    exec_none_ok C rfl (apply_tmpCommit_sp C (upd_same ..) (getStray_cons_self ..)), upd_upd_same,
    eraseStray_cons_self, loadProg, exec, if_pos (valid_of_sp_ok C (upd_same ..) rfl hv)]
  rfl

/-- `init()` where the directory is there (payload, backup, strays: anything) without
    state-point file -/
theorem init_nosp_run (C : Codec Sp) (k : Key) (v : Sp) (f : Bool) {w : World Sp} {d : JobDir Sp}
    (hk : w k = some d) (hsp : d.sp = none) (hv : C.hash v = k.2) (a : Acc Sp) :
    exec C noEv (initProg C k v f) a w =
      ⟨upd w k (some { d with sp := some (.ok v) }), .ok,
       ((a.ok (.tmpOpen k spName)).ok (.tmpWrite k spName (.ok v))).ok (.tmpCommit k spName)⟩ := by
  simp only [initProg]
  rw [exec, if_neg (by rw [not_valid_of_sp_none C w k d hk hsp]; exact Bool.noConfusion), hk]
  exact save_load_noEv C k v f a hk hsp hv

/-- `init()` of an absent job: exactly four steps — mkdir, open the temp file, write it, rename it
    onto the state-point file — and the new directory holds nothing but the state point -/
theorem init_fresh_run (C : Codec Sp) (k : Key) (v : Sp) (force : Bool) (w : World Sp) (hk : w k = none)
    (hv : C.hash v = k.2) :
    run C noEv (initProg C k v force) w =
      ⟨upd w k (some { sp := some (.ok v) }), .ok,
       ⟨4, [.tmpCommit k spName, .tmpWrite k spName (.ok v), .tmpOpen k spName, .mkdir k], false⟩⟩ := by
  have hnv : ¬ validAt C w k = true := by simp only [validAt, hk]; exact Bool.noConfusion
  simp only [run, initProg]
  rw [exec, if_neg hnv, hk, if_neg Bool.noConfusion, exec_none_ok C rfl (apply_mkdir C hk),
    save_load_noEv C k v force _ (upd_same ..) rfl hv, upd_upd_same]
  rfl

/-- a second `init()` (any state point argument, any `force`, ANY event schedule) after a successful
    first one announces no step -/
theorem init_twice_no_step (C : Codec Sp) (ev : Nat → Option Ev) (k : Key) (v v' : Sp) (f f' : Bool)
    (w : World Sp) (hk : w k = none) (hv : C.hash v = k.2) :
    let w1 := (run C noEv (initProg C k v f) w).w
    run C ev (initProg C k v' f') w1 = ⟨w1, .ok, {}⟩ := by
  intro w1
  refine exec_init_valid C ev k v' f' {} w1 ?_
  simp only [w1, init_fresh_run C k v f w hk hv]
  exact valid_of_sp_ok C (upd_same ..) rfl hv

/-- the tail of a successful rename: the parked file goes, `init` writes the new state-point file -/
theorem finish_init_run (C : Codec Sp) (y : Key) (v : Sp) {w : World Sp} {d : JobDir Sp} {c : Content Sp}
    (hy : w y = some d) (hsp : d.sp = none) (hb : d.bak = some c) (hv : C.hash v = y.2) (a : Acc Sp) :
    exec C noEv (rekeyFinish C y v true) a w =
      ⟨upd w y (some { d with sp := some (.ok v), bak := none }), .ok,
       (((a.ok (.rmBak y)).ok (.tmpOpen y spName)).ok (.tmpWrite y spName (.ok v))).ok (.tmpCommit y spName)⟩ := by
  rw [rekeyFinish, exec_none_ok C rfl (apply_rmBak C hy hb)]
  refine (init_nosp_run C y v false (d := { d with bak := none }) (upd_same ..) hsp hv _).trans ?_
  rw [upd_upd_same]

/-- the tail when nothing was moved and there is no backup at `y`: its removal fails by itself
    with ENOENT, which is read as "nothing to do" -/
theorem finish_noop_run (C : Codec Sp) (y : Key) (v : Sp) (w : World Sp) (hy : ∀ d, w y = some d → d.bak = none)
    (a : Acc Sp) : exec C noEv (rekeyFinish C y v false) a w = ⟨w, .ok, a.ok (.rmBak y)⟩ := by
  have h1 : apply C w (.rmBak y) = .error .ENOENT := by
    cases hwy : w y with
    | none => simp only [apply, hwy]
    | some d => exact apply_rmBak_none C hwy (hy d hwy)
  rw [rekeyFinish, exec_none_err C rfl h1]
  rfl

/-- the rollback after a rename that failed with `e`, `ev` silent at this step: the state-point file
    is put back, still validates, and `e` is mapped to its exception -/
theorem rollback_run (C : Codec Sp) (x y : Key) (v v0 : Sp) {w : World Sp} {d : JobDir Sp} {ev : Nat → Option Ev}
    {e : Errno} (he : e ≠ .ENOENT) (hx : w x = some d) (hb : d.bak = some (.ok v0)) (hh : C.hash v0 = x.2)
    (a : Acc Sp) (hev : ev a.n = none) :
    exec C ev (rekeyRollback C x y v e) a w =
      ⟨upd w x (some { d with sp := some (.ok v0), bak := none }),
       if e = .EEXIST ∨ e = .ENOTEMPTY ∨ e = .EACCES then destExists else osExc e, a.ok (.bakToSp x)⟩ := by
  rw [rekeyRollback, exec_none_ok C hev (apply_bakToSp C hx hb), exec,
    if_neg (by rw [valid_of_sp_ok C (upd_same ..) rfl hh]; exact Bool.noConfusion)]
  split <;> rfl

section rekey
variable (C : Codec Sp) (x y : Key) (v : Sp) {w : World Sp} {D : JobDir Sp} (hxy : x ≠ y) (hx : w x = some D)
include hxy hx

/-- re-key `x → y` onto a free target: park the state-point file, rename the directory, drop the
    parked file, then `init` writes the new state-point file (temp file, write, rename) -/
theorem rekey_free_run {c : Content Sp} (hsp : D.sp = some c) (hy : DstFree w y) (hv : C.hash v = y.2) :
    run C noEv (rekeyProg C x y v) w =
      ⟨upd (upd w y (some { D with sp := some (.ok v), bak := none })) x none, .ok,
       ⟨6, [.tmpCommit y spName, .tmpWrite y spName (.ok v), .tmpOpen y spName, .rmBak y, .renameDir x y,
            .spToBak x], false⟩⟩ := by
  have hyx : y ≠ x := Ne.symm hxy
  have hy1 : DstFree (upd w x (some { D with sp := none, bak := some c })) y := by
    rwa [DstFree, upd_other _ _ hyx]
  rw [run, rekeyProg_eq, exec_none_ok C rfl (apply_spToBak C hx hsp),
    exec_none_ok C rfl (apply_renameDir_free C (upd_same ..) hy1), upd_comm _ hxy, upd_upd_same,
    finish_init_run C y v ((upd_other _ _ hyx).trans (upd_same ..)) rfl rfl hv, upd_comm _ hxy, upd_upd_same]
  rfl

/-- re-key `x → y` onto a non-empty directory: exact outcome of the event-free run.  Three steps
    are announced: the state-point file of `x` is parked as backup, the rename fails by itself
    (ENOTEMPTY), the rollback puts the file back.  The world is the initial one except that a
    stale backup file of `x` (if there was one) is gone. -/
theorem rekey_collision_run {v0 : Sp} {D' : JobDir Sp} (hsp : D.sp = some (.ok v0)) (hh : C.hash v0 = x.2)
    (hy : w y = some D') (hD' : D'.isEmpty = false) :
    run C noEv (rekeyProg C x y v) w =
      ⟨upd w x (some { D with bak := none }), destExists,
       ⟨3, [.bakToSp x, .renameDir x y, .spToBak x], false⟩⟩ := by
  rw [run, rekeyProg_eq, exec_none_ok C rfl (apply_spToBak C hx hsp),
    exec_none_err C rfl (apply_renameDir_taken C (upd_same ..) ((upd_other _ _ (Ne.symm hxy)).trans hy) hD'),
    rollback_run C x y v v0 Errno.noConfusion (upd_same ..) rfl hh _ rfl, upd_upd_same, ← hsp]
  rfl

omit hxy in
theorem upd_bak_none (hb : D.bak = none) : upd w x (some { D with bak := none }) = w := by
  apply upd_self
  rw [hx]
  cases D
  cases hb
  rfl

/-- … hence with no stale backup at `x`: DestinationExistsError and the world is EXACTLY the
    initial one — both jobs byte-identical, every other directory too -/
theorem rekey_collision_exact {v0 : Sp} {D' : JobDir Sp} (hsp : D.sp = some (.ok v0)) (hh : C.hash v0 = x.2)
    (hb : D.bak = none) (hy : w y = some D') (hD' : D'.isEmpty = false) :
    run C noEv (rekeyProg C x y v) w =
      ⟨w, destExists, ⟨3, [.bakToSp x, .renameDir x y, .spToBak x], false⟩⟩ := by
  rw [rekey_collision_run C x y v hxy hx hsp hh hy hD', upd_bak_none x hx hb]

end rekey

/-- re-key of a job that is not there: the parking step fails by itself with ENOENT, which is read
    as "nothing to do" -/
theorem rekey_absent_run (C : Codec Sp) (x y : Key) (v : Sp) (w : World Sp) (hx : w x = none)
    (hy : ∀ d, w y = some d → d.bak = none) :
    run C noEv (rekeyProg C x y v) w = ⟨w, .ok, ⟨2, [.rmBak y, .spToBak x], false⟩⟩ := by
  have h0 : apply C w (.spToBak x) = .error .ENOENT := by simp only [apply, hx]
  rw [run, rekeyProg_eq, exec_none_err C rfl h0]
  exact (congrArg (exec C _ · _ _) (if_pos rfl)).trans (finish_noop_run C y v w hy _)

theorem move_free_run (C : Codec Sp) (a b : Key) (w : World Sp) (D : JobDir Sp)
    (ha : w a = some D) (hb : DstFree w b) :
    run C noEv (moveProg a b) w = ⟨upd (upd w b (some D)) a none, .ok, ⟨1, [.renameDir a b], false⟩⟩ := by
  simp only [run, moveProg]
  rw [exec_none_ok C rfl (apply_renameDir_free C ha hb)]
  rfl

/-- `move a → b` onto a non-empty directory: one step (the rename, which fails by itself),
    DestinationExistsError, world untouched -/
theorem move_collision_exact (C : Codec Sp) (a b : Key) (w : World Sp) (D D' : JobDir Sp)
    (ha : w a = some D) (hb : w b = some D') (hD' : D'.isEmpty = false) :
    run C noEv (moveProg a b) w = ⟨w, destExists, ⟨1, [.renameDir a b], false⟩⟩ := by
  simp only [run, moveProg]
  rw [exec_none_err C rfl (apply_renameDir_taken C ha hb hD')]
  rfl

theorem move_absent_run (C : Codec Sp) (a b : Key) (w : World Sp) (ha : w a = none) :
    run C noEv (moveProg a b) w = ⟨w, .exc "RuntimeError", ⟨1, [.renameDir a b], false⟩⟩ := by
  have h0 : apply C w (.renameDir a b) = .error .ENOENT := by simp only [apply, ha]
  simp only [run, moveProg]
  rw [exec_none_err C rfl h0]
  rfl

/-- `clone src → dst` onto an existing directory (even an empty one): one step (the `mkdir` of the
    destination, which fails by itself with EEXIST), DestinationExistsError, world untouched -/
theorem clone_collision_exact (C : Codec Sp) (src dst : Key) (order : List Ref) (w : World Sp)
    (D D' : JobDir Sp) (hs : w src = some D) (hd : w dst = some D') :
    run C noEv (cloneProg src dst order) w = ⟨w, destExists, ⟨1, [.cpMkdir dst ""], false⟩⟩ := by
  simp only [run, cloneProg]
  rw [exec, hs, exec_none_err C rfl (apply_cpMkdir_exists C hd)]
  rfl

end Signac.Life
