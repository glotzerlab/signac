/-
  Value layer of C06/C07, structured values: Python `==` / ordering on JSON-born values is
  compatible with itself (`a == a`, `a == b → b == a`, `a == b → (a == c) = (b == c)`,
  `a == b → cmp a c = cmp b c`) for ALL values — mappings inside lists at any depth included —
  provided every mapping has distinct keys (`keysOK`), which every Python dict has.

  Without distinct keys `pyEq` on association lists is neither reflexive nor symmetric:
  `[(x,1),(x,2)]` is not `==` to itself, and `[(x,1),(x,1)] == [(x,1),(y,2)]` but not conversely.
-/
import Signac.Proofs.QueryVal
import Signac.Proofs.JValInd
namespace Signac.Query
open Signac

mutual
  /-- every mapping anywhere in the value has pairwise distinct keys (an invariant of Python dicts) -/
  def keysOK : JVal → Bool
    | .arr xs => keysOKList xs
    | .obj kvs => decide ((kvs.map (·.1)).Nodup) && keysOKKVs kvs
    | _ => true
  def keysOKList : List JVal → Bool
    | [] => true
    | x :: xs => keysOK x && keysOKList xs
  def keysOKKVs : List (String × JVal) → Bool
    | [] => true
    | (_, v) :: rest => keysOK v && keysOKKVs rest
end

theorem keysOKList_iff : ∀ (xs : List JVal), keysOKList xs = true ↔ ∀ x ∈ xs, keysOK x = true
  | [] => by simp [keysOKList]
  | x :: xs => by simp [keysOKList, keysOKList_iff xs]

theorem keysOKKVs_iff : ∀ (kvs : List (String × JVal)),
    keysOKKVs kvs = true ↔ ∀ k v, (k, v) ∈ kvs → keysOK v = true
  | [] => by simp [keysOKKVs]
  | (k, v) :: rest => by
    simp only [keysOKKVs, Bool.and_eq_true, keysOKKVs_iff rest, List.mem_cons, Prod.mk.injEq]
    constructor
    · rintro ⟨h1, h2⟩ k' v' (⟨_, rfl⟩ | h)
      · exact h1
      · exact h2 k' v' h
    · intro h
      exact ⟨h k v (Or.inl ⟨rfl, rfl⟩), fun k' v' h' => h k' v' (Or.inr h')⟩

theorem keysOK_arr {xs : List JVal} : keysOK (.arr xs) = true ↔ ∀ x ∈ xs, keysOK x = true := by
  simp only [keysOK]; exact keysOKList_iff xs

theorem keysOK_obj {kvs : List (String × JVal)} :
    keysOK (.obj kvs) = true ↔ (kvs.map (·.1)).Nodup ∧ ∀ k v, (k, v) ∈ kvs → keysOK v = true := by
  simp only [keysOK, Bool.and_eq_true, decide_eq_true_eq, keysOKKVs_iff]

theorem keysOK_of_numVal {b : JVal} {q : Int × Nat} (h : numVal b = some q) : keysOK b = true := by
  cases b <;> first | rfl | cases h

/-! ### induction over well-formed values -/

section induct
variable {P : JVal → Prop}
  (hnull : P .null) (hbool : ∀ b, P (.bool b)) (hint : ∀ i, P (.int i))
  (hflt : ∀ n e r, P (.flt n e r)) (hstr : ∀ s, P (.str s))
  (harr : ∀ xs, (∀ x ∈ xs, keysOK x = true) → (∀ x ∈ xs, P x) → P (.arr xs))
  (hobj : ∀ kvs, (kvs.map (·.1)).Nodup → (∀ k v, (k, v) ∈ kvs → keysOK v = true) →
    (∀ k v, (k, v) ∈ kvs → P v) → P (.obj kvs))
include hnull hbool hint hflt hstr harr hobj

/-- structural induction over a well-formed value, with membership-style hypotheses for the
    elements of a list and the values of a mapping -/
theorem keysOK_induct : ∀ (a : JVal), keysOK a = true → P a := by
  intro a
  induction a using JVal.rec_mem with
  | null => exact fun _ => hnull
  | bool b => exact fun _ => hbool b
  | int i => exact fun _ => hint i
  | flt n e r => exact fun _ => hflt n e r
  | str s => exact fun _ => hstr s
  | arr xs ih => exact fun h => harr xs (keysOK_arr.mp h) (fun x hx => ih x hx (keysOK_arr.mp h x hx))
  | obj kvs ih =>
    exact fun h => hobj kvs (keysOK_obj.mp h).1 (keysOK_obj.mp h).2
      (fun k v hm => ih (k, v) hm ((keysOK_obj.mp h).2 k v hm))

theorem keysOK_induct_list : ∀ (xs : List JVal), keysOKList xs = true → ∀ x ∈ xs, P x :=
  fun xs h x hx =>
    keysOK_induct hnull hbool hint hflt hstr harr hobj x ((keysOKList_iff xs).mp h x hx)

theorem keysOK_induct_kvs : ∀ (kvs : List (String × JVal)), keysOKKVs kvs = true →
      ∀ k v, (k, v) ∈ kvs → P v :=
  fun kvs h k v hm =>
    keysOK_induct hnull hbool hint hflt hstr harr hobj v ((keysOKKVs_iff kvs).mp h k v hm)
end induct

/-- `keysOK_induct` with bool, int and float as the one case "number" -/
theorem keysOK_rec {P : JVal → Prop} (hnum : ∀ a p, numVal a = some p → P a) (hnull : P .null)
    (hstr : ∀ s, P (.str s))
    (harr : ∀ xs, (∀ x ∈ xs, keysOK x = true) → (∀ x ∈ xs, P x) → P (.arr xs))
    (hobj : ∀ kvs, (kvs.map (·.1)).Nodup → (∀ k v, (k, v) ∈ kvs → keysOK v = true) →
      (∀ k v, (k, v) ∈ kvs → P v) → P (.obj kvs)) : ∀ (a : JVal), keysOK a = true → P a :=
  keysOK_induct hnull (fun b => hnum _ _ (numVal_bool b)) (fun i => hnum _ (i, 0) rfl)
    (fun n e _ => hnum _ (n, e) rfl) hstr harr hobj

/-! ### mappings -/

theorem pyEqEntries_iff (a b : List (String × JVal)) :
    pyEqEntries a b = true ↔ ∀ k v, (k, v) ∈ a → ∃ w, lookupKV k b = some w ∧ pyEq v w = true :=
  Signac.pyEqEntries_iff.trans Prod.forall

/-- pigeonhole: a duplicate-free list inside a list that is not longer fills it -/
theorem nodup_subset_fill {α : Type} [DecidableEq α] (l₁ : List α) : ∀ (l₂ : List α), l₁.Nodup → l₁ ⊆ l₂ →
    l₂.length ≤ l₁.length → l₂ ⊆ l₁ ∧ l₂.Nodup := by
  induction l₁ with
  | nil =>
    intro l₂ _ _ hl
    have : l₂ = [] := List.eq_nil_of_length_eq_zero (by simpa using hl)
    subst this
    exact ⟨fun _ h => h, List.nodup_nil⟩
  | cons a t ih =>
    intro l₂ hn hs hl
    rw [List.nodup_cons] at hn
    have ha : a ∈ l₂ := hs List.mem_cons_self
    have hts : t ⊆ l₂.erase a := by
      intro x hx
      have hxa : x ≠ a := fun e => hn.1 (e ▸ hx)
      exact (List.mem_erase_of_ne hxa).mpr (hs (List.mem_cons_of_mem _ hx))
    have hlen : (l₂.erase a).length ≤ t.length := by
      rw [List.length_erase_of_mem ha]
      simp only [List.length_cons] at hl
      omega
    obtain ⟨ih1, ih2⟩ := ih (l₂.erase a) hn.2 hts hlen
    constructor
    · intro x hx
      by_cases hxa : x = a
      · rw [hxa]; exact List.mem_cons_self
      · exact List.mem_cons_of_mem _ (ih1 ((List.mem_erase_of_ne hxa).mpr hx))
    · have hp := List.perm_cons_erase ha
      rw [hp.nodup_iff, List.nodup_cons]
      exact ⟨fun h => hn.1 (ih1 h), ih2⟩

/-- two `==` mappings, the first with distinct keys: same keys, `==` values under each key, and
    the second has distinct keys too -/
theorem obj_corr {a b : List (String × JVal)} (hn : (a.map (·.1)).Nodup) (hl : a.length = b.length)
    (he : pyEqEntries a b = true) :
    (b.map (·.1)).Nodup
    ∧ (∀ k v, (k, v) ∈ a → ∃ v', (k, v') ∈ b ∧ pyEq v v' = true)
    ∧ (∀ k v', (k, v') ∈ b → ∃ v, (k, v) ∈ a ∧ pyEq v v' = true) := by
  rw [pyEqEntries_iff] at he
  have hsub : a.map (·.1) ⊆ b.map (·.1) := by
    intro k hk
    obtain ⟨⟨k', v⟩, hm, rfl⟩ := List.mem_map.mp hk
    obtain ⟨w, hw, _⟩ := he k' v hm
    exact List.mem_map.mpr ⟨(k', w), lookupKV_mem hw, rfl⟩
  obtain ⟨hback, hnb⟩ := nodup_subset_fill _ _ hn hsub (by simp [hl])
  refine ⟨hnb, ?_, ?_⟩
  · intro k v hm
    obtain ⟨w, hw, e⟩ := he k v hm
    exact ⟨w, lookupKV_mem hw, e⟩
  · intro k v' hm
    have hk : k ∈ a.map (·.1) := hback (List.mem_map.mpr ⟨(k, v'), hm, rfl⟩)
    obtain ⟨v, hv⟩ := Option.ne_none_iff_exists'.mp fun e => lookupKV_none_iff.mp e hk
    obtain ⟨w, hw, e⟩ := he k v (lookupKV_mem hv)
    have : lookupKV k b = some v' := lookupKV_of_mem hnb hm
    rw [this] at hw
    cases hw
    exact ⟨v, lookupKV_mem hv, e⟩

/-! ### lists, from pointwise facts -/

/-- `xs == ys` holds exactly when the lists are equally long and `==` position by position -/
theorem pyEqList_cons_iff {x y : JVal} {xs ys : List JVal} :
    pyEqList (x :: xs) (y :: ys) = true ↔ pyEq x y = true ∧ pyEqList xs ys = true := by
  simp only [pyEqList, Bool.and_eq_true]

theorem pyEqList_nil_left {ys : List JVal} (h : pyEqList [] ys = true) : ys = [] := by
  cases ys with
  | nil => rfl
  | cons _ _ => cases h

theorem pyEqList_cons_left {x : JVal} {xs ys : List JVal} (h : pyEqList (x :: xs) ys = true) :
    ∃ y ys', ys = y :: ys' ∧ pyEq x y = true ∧ pyEqList xs ys' = true := by
  cases ys with
  | nil => cases h
  | cons y ys' => exact ⟨y, ys', rfl, pyEqList_cons_iff.mp h⟩

theorem pyEqList_symm_of (xs : List JVal) : ∀ (ys : List JVal),
    (∀ x ∈ xs, ∀ y ∈ ys, pyEq x y = true → pyEq y x = true) →
    pyEqList xs ys = true → pyEqList ys xs = true := by
  induction xs with
  | nil => intro ys _ h; rw [pyEqList_nil_left h]; rfl
  | cons x xs ih =>
    intro ys hp h
    obtain ⟨y, ys', rfl, h1, h2⟩ := pyEqList_cons_left h
    exact pyEqList_cons_iff.mpr ⟨hp x List.mem_cons_self y List.mem_cons_self h1,
      ih ys' (fun x' hx y' hy => hp x' (List.mem_cons_of_mem _ hx) y' (List.mem_cons_of_mem _ hy)) h2⟩

theorem pyEqList_eucl_of (xs : List JVal) : ∀ (ys zs : List JVal),
    (∀ x ∈ xs, ∀ b c, pyEq x b = true → pyEq x c = pyEq b c) →
    pyEqList xs ys = true → pyEqList xs zs = pyEqList ys zs := by
  induction xs with
  | nil => intro ys zs _ h; rw [pyEqList_nil_left h]
  | cons x xs ih =>
    intro ys zs hp h
    obtain ⟨y, ys', rfl, h1, h2⟩ := pyEqList_cons_left h
    cases zs with
    | nil => rfl
    | cons z zs =>
      simp only [pyEqList]
      rw [hp x List.mem_cons_self y z h1, ih ys' zs (fun x' hx => hp x' (List.mem_cons_of_mem _ hx)) h2]

theorem pyCmpList_congr_of (xs : List JVal) : ∀ (ys zs : List JVal),
    (∀ x ∈ xs, ∀ b c, pyEq x b = true → pyEq x c = pyEq b c) →
    (∀ x ∈ xs, ∀ b c, pyEq x b = true → pyCmp x c = pyCmp b c) →
    pyEqList xs ys = true → pyCmpList xs zs = pyCmpList ys zs := by
  induction xs with
  | nil => intro ys zs _ _ h; rw [pyEqList_nil_left h]
  | cons x xs ih =>
    intro ys zs hp hc h
    obtain ⟨y, ys', rfl, h1, h2⟩ := pyEqList_cons_left h
    cases zs with
    | nil => rfl
    | cons z zs =>
      simp only [pyCmpList]
      rw [hp x List.mem_cons_self y z h1, hc x List.mem_cons_self y z h1,
        ih ys' zs (fun x' hx => hp x' (List.mem_cons_of_mem _ hx))
          (fun x' hx => hc x' (List.mem_cons_of_mem _ hx)) h2]

theorem pyEqList_mem_right : ∀ {xs ys : List JVal}, pyEqList xs ys = true → xs.length = ys.length :=
  fun h => (pyEqList_pointwise h).1

theorem pyEqList_mem_back {xs : List JVal} : ∀ {ys : List JVal}, pyEqList xs ys = true →
    ∀ y ∈ ys, ∃ x ∈ xs, pyEq x y = true := by
  induction xs with
  | nil => intro ys h y hy; rw [pyEqList_nil_left h] at hy; cases hy
  | cons x xs ih =>
    intro ys h y hy
    obtain ⟨y', ys', rfl, h1, h2⟩ := pyEqList_cons_left h
    rcases List.mem_cons.mp hy with e | hy
    · exact ⟨x, List.mem_cons_self, by rw [e]; exact h1⟩
    · obtain ⟨x', hx', e⟩ := ih h2 y hy
      exact ⟨x', List.mem_cons_of_mem _ hx', e⟩

/-! ### the four facts for well-formed values -/

/-- `a == a` -/
theorem pyEq_refl_wf : ∀ (a : JVal), keysOK a = true → pyEq a a = true := by
  refine keysOK_rec ?_ rfl ?_ ?_ ?_
  · intro a p h; rw [pyEq_of_numVal h, h]; exact numEq_refl p
  · intro s; exact decide_eq_true rfl
  · intro xs _ ih; simp only [pyEq]; exact pyEqList_refl ih
  · intro kvs hn _ ih
    simp only [pyEq, Bool.and_eq_true, beq_self_eq_true, true_and]
    rw [pyEqEntries_iff]
    intro k v hm
    exact ⟨v, lookupKV_of_mem hn hm, ih k v hm⟩

/-- `a == b → b == a` (one direction; both values well-formed) -/
theorem pyEq_symm_imp : ∀ (a : JVal), keysOK a = true →
    ∀ b, keysOK b = true → pyEq a b = true → pyEq b a = true := by
  refine keysOK_rec ?_ ?_ ?_ ?_ ?_
  · intro a p ha b _ h; rw [← pyEq_num_symm ha b]; exact h
  · intro b _ h; rw [pyEq_null_true h]; rfl
  · intro s b _ h; rw [pyEq_str_true h]; exact decide_eq_true rfl
  · intro xs _ ih b hb h
    obtain ⟨ys, rfl, hl⟩ := pyEq_arr_true h
    simp only [pyEq]
    have hys := keysOK_arr.mp hb
    exact pyEqList_symm_of xs ys (fun x hx y hy => ih x hx y (hys y hy)) hl
  · intro kvs hn _ ih b hb h
    obtain ⟨kvs', rfl, hl, he⟩ := pyEq_obj_true h
    obtain ⟨_, hvb⟩ := keysOK_obj.mp hb
    obtain ⟨_, _, hback⟩ := obj_corr hn hl he
    simp only [pyEq, Bool.and_eq_true, beq_iff_eq]
    refine ⟨hl.symm, ?_⟩
    rw [pyEqEntries_iff]
    intro k v' hm
    obtain ⟨v, hv, e⟩ := hback k v' hm
    exact ⟨v, lookupKV_of_mem hn hv, ih k v hv v' (hvb k v' hm) e⟩

/-- Python `==` is symmetric on well-formed values -/
theorem pyEq_symm_wf (a b : JVal) (ha : keysOK a = true) (hb : keysOK b = true) :
    pyEq a b = pyEq b a := by
  rw [Bool.eq_iff_iff]
  exact ⟨pyEq_symm_imp a ha b hb, pyEq_symm_imp b hb a ha⟩

/-- `a == b → (a == c) = (b == c)`: only `a` needs to be well-formed -/
theorem pyEq_eucl_wf : ∀ (a : JVal), keysOK a = true →
    ∀ b c, pyEq a b = true → pyEq a c = pyEq b c := by
  refine keysOK_rec ?_ ?_ ?_ ?_ ?_
  · intro a p ha b c h; exact pyEq_num_eucl ha h c
  · intro b c h; rw [pyEq_null_true h]
  · intro s b c h; rw [pyEq_str_true h]
  · intro xs _ ih b c h
    obtain ⟨ys, rfl, hl⟩ := pyEq_arr_true h
    cases c with
    | arr zs => simp only [pyEq]; exact pyEqList_eucl_of xs ys zs ih hl
    | _ => rfl
  · intro kvs hn _ ih b c h
    obtain ⟨kvs', rfl, hl, he⟩ := pyEq_obj_true h
    obtain ⟨hnb, hfwd, hback⟩ := obj_corr hn hl he
    cases c with
    | obj cs =>
      simp only [pyEq]
      rw [hl]
      congr 1
      rw [Bool.eq_iff_iff, pyEqEntries_iff, pyEqEntries_iff]
      constructor
      · intro hac k v' hm
        obtain ⟨v, hv, e⟩ := hback k v' hm
        obtain ⟨w, hw, e'⟩ := hac k v hv
        exact ⟨w, hw, by rw [← ih k v hv v' w e]; exact e'⟩
      · intro hbc k v hm
        obtain ⟨v', hv', e⟩ := hfwd k v hm
        obtain ⟨w, hw, e'⟩ := hbc k v' hv'
        exact ⟨w, hw, by rw [ih k v hm v' w e]; exact e'⟩
    | _ => rfl

/-- `a == b → cmp a c = cmp b c` (including "unorderable"): only `a` needs to be well-formed -/
theorem pyCmp_congr_wf : ∀ (a : JVal), keysOK a = true →
    ∀ b c, pyEq a b = true → pyCmp a c = pyCmp b c := by
  refine keysOK_rec ?_ ?_ ?_ ?_ ?_
  · intro a p ha b c h; exact pyCmp_num_congr ha h c
  · intro b c h; rw [pyEq_null_true h]
  · intro s b c h; rw [pyEq_str_true h]
  · intro xs hxs ih b c h
    obtain ⟨ys, rfl, hl⟩ := pyEq_arr_true h
    cases c with
    | arr zs =>
      simp only [pyCmp]
      exact pyCmpList_congr_of xs ys zs (fun x hx => pyEq_eucl_wf x (hxs x hx)) ih hl
    | _ => rfl
  · intro kvs _ _ _ b c h
    obtain ⟨kvs', rfl, _, _⟩ := pyEq_obj_true h
    rfl

/-- whatever is `==` to a well-formed value is well-formed: `==` forces the same keys -/
theorem keysOK_of_pyEq : ∀ (a : JVal), keysOK a = true → ∀ b, pyEq a b = true → keysOK b = true := by
  refine keysOK_rec ?_ ?_ ?_ ?_ ?_
  · intro a p ha b h
    obtain ⟨q, hq, _⟩ := pyEq_num_true ha h
    exact keysOK_of_numVal hq
  · intro b h; rw [pyEq_null_true h]; rfl
  · intro s b h; rw [pyEq_str_true h]; rfl
  · intro xs _ ih b h
    obtain ⟨ys, rfl, hl⟩ := pyEq_arr_true h
    rw [keysOK_arr]
    intro y hy
    obtain ⟨x, hx, e⟩ := pyEqList_mem_back hl y hy
    exact ih x hx y e
  · intro kvs hn _ ih b h
    obtain ⟨kvs', rfl, hl, he⟩ := pyEq_obj_true h
    obtain ⟨hnb, _, hback⟩ := obj_corr hn hl he
    rw [keysOK_obj]
    refine ⟨hnb, ?_⟩
    intro k v' hm
    obtain ⟨v, hv, e⟩ := hback k v' hm
    exact ih k v hv v' e

/-! ### values without mappings -/

mutual
  /-- a value without mappings (what the lists of a `CorpusFlat` corpus hold) -/
  def flatVal : JVal → Bool
    | .arr xs => flatList xs
    | .obj _ => false
    | _ => true
  def flatList : List JVal → Bool
    | [] => true
    | x :: xs => flatVal x && flatList xs
end

theorem flatList_iff : ∀ (xs : List JVal), flatList xs = true ↔ ∀ x ∈ xs, flatVal x = true
  | [] => by simp [flatList]
  | x :: xs => by simp [flatList, flatList_iff xs]

/-- values without mappings are trivially well-formed -/
theorem keysOK_of_flat : ∀ (a : JVal), flatVal a = true → keysOK a = true := by
  intro a
  induction a using JVal.rec_mem with
  | arr xs ih => exact fun h => keysOK_arr.mpr fun x hx => ih x hx ((flatList_iff xs).mp h x hx)
  | obj kvs _ => exact fun h => nomatch h
  | _ => exact fun _ => rfl

theorem keysOK_of_flatList {xs : List JVal} (h : flatList xs = true) : ∀ x ∈ xs, keysOK x = true :=
  fun x hx => keysOK_of_flat x ((flatList_iff xs).mp h x hx)

theorem pyEqList_refl_flat : ∀ (xs : List JVal), flatList xs = true → pyEqList xs xs = true :=
  fun _ h => pyEqList_refl fun x hx => pyEq_refl_wf x (keysOK_of_flatList h x hx)

theorem pyEqList_comm_of (xs : List JVal) : ∀ (ys : List JVal), (∀ x ∈ xs, ∀ y, pyEq x y = pyEq y x) →
    pyEqList xs ys = pyEqList ys xs := by
  induction xs with
  | nil => intro ys _; cases ys <;> rfl
  | cons x xs ih =>
    intro ys h
    cases ys with
    | nil => rfl
    | cons y ys =>
      simp only [pyEqList]
      rw [h x List.mem_cons_self y, ih ys fun x' hx => h x' (List.mem_cons_of_mem _ hx)]

/-- a value without mappings is symmetric against any value at all: `c == a` forces `c` to
    have the shape of `a`, so no mapping of `c` is ever looked at -/
theorem pyEq_symm_flat : ∀ (a : JVal), flatVal a = true → ∀ c, pyEq a c = pyEq c a := by
  intro a
  induction a using JVal.rec_mem with
  | null => intro _ c; cases c <;> rfl
  | bool b => exact fun _ => pyEq_num_symm (numVal_bool b)
  | int i => exact fun _ => pyEq_num_symm (p := (i, 0)) rfl
  | flt n e r => exact fun _ => pyEq_num_symm (p := (n, e)) rfl
  | str s =>
    intro _ c
    cases c with
    | str t => simp only [pyEq]; exact BEq.comm
    | _ => rfl
  | arr xs ih =>
    intro h c
    cases c with
    | arr ys =>
      simp only [pyEq]
      exact pyEqList_comm_of xs ys fun x hx => ih x hx ((flatList_iff xs).mp h x hx)
    | _ => rfl
  | obj kvs _ => exact fun h => nomatch h

theorem pyEqList_symm_flat : ∀ (xs : List JVal), flatList xs = true → ∀ ys, pyEqList xs ys = pyEqList ys xs :=
  fun xs h ys => pyEqList_comm_of xs ys fun x hx => pyEq_symm_flat x ((flatList_iff xs).mp h x hx)

theorem pyEqList_eucl_flat : ∀ (xs : List JVal), flatList xs = true → ∀ ys zs,
      pyEqList xs ys = true → pyEqList xs zs = pyEqList ys zs :=
  fun xs h ys zs => pyEqList_eucl_of xs ys zs (fun x hx => pyEq_eucl_wf x (keysOK_of_flatList h x hx))

theorem pyCmpList_congr_flat : ∀ (xs : List JVal), flatList xs = true → ∀ ys zs,
      pyEqList xs ys = true → pyCmpList xs zs = pyCmpList ys zs :=
  fun xs h ys zs => pyCmpList_congr_of xs ys zs (fun x hx => pyEq_eucl_wf x (keysOK_of_flatList h x hx))
    (fun x hx => pyCmp_congr_wf x (keysOK_of_flatList h x hx))

end Signac.Query
