/-
  The directory walk `_sync_job_workspaces` of the sync model, one level at a time.  Each of its
  three loops is `foldE` of its body (`step1`, `step2`, `subStep`); what a loop does to the entry
  named `n` of the destination directory, what it logs and how it can fail then follow from the
  general facts about `foldE` and a case distinction on the body.  Core only.
-/
import Signac.Proofs.SyncBasic
namespace Signac.Sync

/-! ### first loop -/

/-- body of the first loop (it cannot fail) -/
def step1 (o : Opts) (dst0 : Entries) (x : Name × Node) (a : Acc) : Acc × Option Err :=
  match getE x.1 dst0, leftOnlyNode o x.1 x.2 with
  | none, some c => (pPut o.dry x.1 c a, none)
  | _, _ => (a, none)

theorem step1_ok (o : Opts) (dst0 : Entries) (x : Name × Node) (a : Acc) : (step1 o dst0 x a).2 = none := by
  unfold step1; split <;> rfl

theorem phase1_eq (o : Opts) (dst0 l : Entries) (a : Acc) :
    phase1 o dst0 l a = (foldE (step1 o dst0) l a).1 := by
  induction l generalizing a with
  | nil => rfl
  | cons x tl ih =>
    rw [foldE_cons_ok (step1_ok o dst0 x a), ← ih]
    obtain ⟨n, sn⟩ := x
    simp only [phase1, step1]
    cases getE n dst0 <;> cases leftOnlyNode o n sn <;> rfl

theorem step1_get (o : Opts) (dst0 : Entries) (x : Name × Node) (a : Acc) :
    getE x.1 (step1 o dst0 x a).1.d =
      match getE x.1 dst0, leftOnlyNode o x.1 x.2 with
      | none, some c => if o.dry then getE x.1 a.d else some c
      | _, _ => getE x.1 a.d := by
  unfold step1
  split
  · rw [pPut_d]; cases o.dry <;> simp only [getE_setE_same, if_true, if_false, Bool.false_eq_true]
  · rfl

theorem step1_other (o : Opts) (dst0 : Entries) {n : Name} (k : Name) (v : Node) (a : Acc) (h : k ≠ n) :
    getE n (step1 o dst0 (k, v) a).1.d = getE n a.d := by
  unfold step1
  split
  · exact getE_pPut_other h.symm _ _ _
  · rfl

theorem phase1_ext (o : Opts) (dst0 l : Entries) (a : Acc) : Ext o.dry a (phase1 o dst0 l a) := by
  rw [phase1_eq]
  refine foldE_inv (fun x _ s hs => hs.trans ?_) (Ext.refl _ _)
  unfold step1
  split
  · exact Ext.pPut _ _ _ _
  · exact Ext.refl _ _

theorem phase1_get (o : Opts) (dst0 : Entries) (n : Name) (l : Entries) (hnd : (names l).Nodup) (a : Acc) :
    getE n (phase1 o dst0 l a).d =
      match getE n l with
      | none => getE n a.d
      | some sn =>
        match getE n dst0, leftOnlyNode o n sn with
        | none, some c => if o.dry then getE n a.d else some c
        | _, _ => getE n a.d := by
  rw [phase1_eq]
  cases hl : getE n l with
  | none => exact foldE_proj_not_mem (π := fun s => getE n s.d) (step1_other o dst0) a (not_mem_names_of_getE hl)
  | some sn =>
    rcases foldE_proj_mem (π := fun s => getE n s.d) (step1_other o dst0) a hnd (mem_of_getE hl) with ⟨_, h⟩ | ⟨a', h1, h2, _⟩
    · obtain ⟨e, he⟩ := Option.ne_none_iff_exists'.mp h
      obtain ⟨x, _, s, hx⟩ := foldE_err he
      rw [step1_ok] at hx; cases hx
    · rw [h2, ← h1]; exact step1_get o dst0 (n, sn) a'

/-! ### the comparison rule -/

/-- equal bytes have equal length -/
def SizeOfCid (a b : FMeta) : Prop := a.cid = b.cid → a.size = b.size

/-- `deep_by_content`: under `deep=True` two files differ iff their bytes differ -/
theorem differs_deep_iff (a b : FMeta) (h : SizeOfCid a b) : differs true a b = true ↔ a.cid ≠ b.cid := by
  unfold differs
  simp only [Bool.not_true, Bool.false_and, Bool.false_eq_true, if_false]
  constructor
  · intro hd hc
    have hs := h hc
    simp [hs, hc] at hd
  · intro hc
    by_cases hs : a.size = b.size
    · simp [hs, hc]
    · simp [hs]

/-- the shallow rule of `filecmp`: same (size, mtime) ⇒ same; else different size ⇒ different;
    else by content -/
theorem differs_shallow (a b : FMeta) :
    differs false a b = true ↔ ¬ (a.size = b.size ∧ a.mtime = b.mtime) ∧ (a.size ≠ b.size ∨ a.cid ≠ b.cid) := by
  unfold differs sameSig
  by_cases hs : a.size = b.size
  · by_cases hm : a.mtime = b.mtime <;> simp [hs, hm]
  · simp [hs]

theorem differs_ne_touch (deep : Bool) (now : Nat) (ms md : FMeta) (h : differs deep ms md = true) :
    (Node.file md) ≠ Node.file (touch now ms) := by
  intro e
  have e' : md = touch now ms := by injection e
  have h1 : md.size = ms.size := by rw [e']; rfl
  have h2 : md.cid = ms.cid := by rw [e']; rfl
  unfold differs at h
  split at h
  · cases h
  · simp [h1, h2] at h

/-! ### second loop -/

/-- `n` is a file on both sides that the comparison in force calls different and that is not excluded -/
def Conflict (o : Opts) (l dst0 : Entries) (n : Name) (ms md : FMeta) : Prop :=
  getE n l = some (.file ms) ∧ getE n dst0 = some (.file md) ∧ differs o.deep ms md = true ∧ excluded o n = false

theorem verdict_none_iff (o : Opts) (p : Path) (ms md : FMeta) :
    verdict o p ms md = none ↔ o.strategy = Strategy.none := by
  unfold verdict
  cases o.strategy <;> simp

/-- one iteration of the second loop, whatever follows it: it stops with a conflict, or continues
    with the same or an overwritten accumulator -/
theorem phase2_cons_all (o : Opts) (sub : Path) (dst0 : Entries) (k : Name) (sk : Node) (a : Acc) :
    (∃ ms md, sk = .file ms ∧ getE k dst0 = some (.file md) ∧ differs o.deep ms md = true ∧
        excluded o k = false ∧ verdict o (sub ++ [k]) ms md = none ∧
        ∀ tl, phase2 o sub dst0 ((k, sk) :: tl) a = (a, some (.fileConflict k)))
    ∨ (∀ tl, phase2 o sub dst0 ((k, sk) :: tl) a = phase2 o sub dst0 tl a)
    ∨ (∃ ms md, sk = .file ms ∧ getE k dst0 = some (.file md) ∧ differs o.deep ms md = true ∧
        excluded o k = false ∧ verdict o (sub ++ [k]) ms md = some true ∧
        ∀ tl, phase2 o sub dst0 ((k, sk) :: tl) a =
          phase2 o sub dst0 tl (pPut o.dry k (.file (touch o.now ms)) a)) := by
  cases sk with
  | dir es => exact Or.inr (Or.inl fun _ => rfl)
  | file ms =>
    cases hd : getE k dst0 with
    | none => exact Or.inr (Or.inl fun tl => by simp only [phase2, hd])
    | some dn =>
      cases dn with
      | dir es => exact Or.inr (Or.inl fun tl => by simp only [phase2, hd])
      | file md =>
        cases h1 : differs o.deep ms md with
        | false => exact Or.inr (Or.inl fun tl => by simp only [phase2, hd, h1, Bool.false_and, Bool.false_eq_true, if_false])
        | true =>
          cases h2 : excluded o k with
          | true => exact Or.inr (Or.inl fun tl => by simp only [phase2, hd, h1, h2, Bool.not_true, Bool.and_false, Bool.false_eq_true, if_false])
          | false =>
            cases hv : verdict o (sub ++ [k]) ms md with
            | none => exact Or.inl ⟨ms, md, rfl, rfl, h1, rfl, hv, fun tl => by simp only [phase2, hd, h1, h2, hv, Bool.not_false, Bool.and_self, if_true]⟩
            | some b =>
              cases b with
              | false => exact Or.inr (Or.inl fun tl => by simp only [phase2, hd, h1, h2, hv, Bool.not_false, Bool.and_self, if_true])
              | true =>
                exact Or.inr (Or.inr ⟨ms, md, rfl, rfl, h1, rfl, hv, fun tl => by simp only [phase2, hd, h1, h2, hv, Bool.not_false, Bool.and_self, if_true]⟩)

/-- body of the second loop -/
def step2 (o : Opts) (sub : Path) (dst0 : Entries) (x : Name × Node) (a : Acc) : Acc × Option Err :=
  phase2 o sub dst0 [x] a

theorem phase2_eq (o : Opts) (sub : Path) (dst0 l : Entries) (a : Acc) :
    phase2 o sub dst0 l a = foldE (step2 o sub dst0) l a := by
  induction l generalizing a with
  | nil => rfl
  | cons x tl ih =>
    obtain ⟨k, sk⟩ := x
    rcases phase2_cons_all o sub dst0 k sk a with ⟨_, _, _, _, _, _, _, h⟩ | h | ⟨ms, _, _, _, _, _, _, h⟩
    · have hs : step2 o sub dst0 (k, sk) a = (a, some (.fileConflict k)) := h []
      rw [h tl, foldE_cons_err (by rw [hs]), hs]
    · have hs : step2 o sub dst0 (k, sk) a = (a, none) := h []
      rw [h tl, foldE_cons_ok (by rw [hs]), hs]
      exact ih a
    · have hs : step2 o sub dst0 (k, sk) a = (pPut o.dry k (.file (touch o.now ms)) a, none) := h []
      rw [h tl, foldE_cons_ok (by rw [hs]), hs]
      exact ih _

theorem step2_fst (o : Opts) (sub : Path) (dst0 : Entries) (x : Name × Node) (a : Acc) :
    (step2 o sub dst0 x a).1 = a ∨ ∃ c, (step2 o sub dst0 x a).1 = pPut o.dry x.1 c a := by
  rcases phase2_cons_all o sub dst0 x.1 x.2 a with ⟨_, _, _, _, _, _, _, he⟩ | he | ⟨_, _, _, _, _, _, _, he⟩
  · exact Or.inl (congrArg Prod.fst (he []))
  · exact Or.inl (congrArg Prod.fst (he []))
  · exact Or.inr ⟨_, congrArg Prod.fst (he [])⟩

theorem step2_other (o : Opts) (sub : Path) (dst0 : Entries) {n : Name} (k : Name) (v : Node) (a : Acc)
    (h : k ≠ n) : getE n (step2 o sub dst0 (k, v) a).1.d = getE n a.d := by
  rcases step2_fst o sub dst0 (k, v) a with he | ⟨c, he⟩ <;> rw [he]
  exact getE_pPut_other h.symm _ _ _

theorem phase2_ext (o : Opts) (sub : Path) (dst0 l : Entries) (a : Acc) :
    Ext o.dry a (phase2 o sub dst0 l a).1 := by
  rw [phase2_eq]
  refine foldE_inv (fun x _ s hs => hs.trans ?_) (Ext.refl _ _)
  rcases step2_fst o sub dst0 x s with he | ⟨c, he⟩ <;> rw [he]
  · exact Ext.refl _ _
  · exact Ext.pPut _ _ _ _

theorem phase2_err (o : Opts) (sub : Path) (dst0 : Entries) (l : Entries) (a : Acc) (e : Err)
    (h : (phase2 o sub dst0 l a).2 = some e) :
    ∃ n ms md, e = Err.fileConflict n ∧ (n, Node.file ms) ∈ l ∧ getE n dst0 = some (.file md) ∧
      differs o.deep ms md = true ∧ excluded o n = false ∧ verdict o (sub ++ [n]) ms md = none := by
  rw [phase2_eq] at h
  obtain ⟨x, hx, s, hs⟩ := foldE_err h
  rcases phase2_cons_all o sub dst0 x.1 x.2 s with ⟨ms, md, h1, h2, h3, h4, h5, he⟩ | he | ⟨_, _, _, _, _, _, _, he⟩ <;>
    rw [step2, he []] at hs
  · cases hs
    exact ⟨x.1, ms, md, rfl, h1 ▸ hx, h2, h3, h4, h5⟩
  · cases hs
  · cases hs

theorem phase2_ok_verdict (o : Opts) (sub : Path) (dst0 : Entries) (l : Entries) (a : Acc)
    (hok : (phase2 o sub dst0 l a).2 = none) (n : Name) (ms md : FMeta) (hc : Conflict o l dst0 n ms md) :
    verdict o (sub ++ [n]) ms md ≠ none := by
  intro hv
  rw [phase2_eq] at hok
  refine foldE_fails (x := (n, .file ms)) (fun s => ?_) (mem_of_getE hc.1) hok
  have key : step2 o sub dst0 (n, .file ms) s = (s, some (.fileConflict n)) := by
    simp only [step2, phase2, hc.2.1, hc.2.2.1, hc.2.2.2, hv, Bool.not_false, Bool.and_self, if_true]
  rw [key]; exact Option.some_ne_none _

theorem phase2_get_true (o : Opts) (sub : Path) (dst0 : Entries) (n : Name) (ms md : FMeta) (l : Entries)
    (a : Acc) (hnd : (names l).Nodup) (hc : Conflict o l dst0 n ms md)
    (hv : verdict o (sub ++ [n]) ms md = some true) (herr : (phase2 o sub dst0 l a).2 = none)
    (hdry : o.dry = false) : getE n (phase2 o sub dst0 l a).1.d = some (.file (touch o.now ms)) := by
  rw [phase2_eq] at herr ⊢
  rcases foldE_proj_mem (π := fun s => getE n s.d) (step2_other o sub dst0) a hnd (mem_of_getE hc.1) with
    ⟨_, h⟩ | ⟨a', _, h2, _⟩
  · exact absurd herr h
  · have key : step2 o sub dst0 (n, .file ms) a' = (pPut o.dry n (.file (touch o.now ms)) a', none) := by
      simp only [step2, phase2, hc.2.1, hc.2.2.1, hc.2.2.2, hv, Bool.not_false, Bool.and_self, if_true]
    rw [h2, key, hdry]
    exact getE_setE_same _ _ _

theorem phase2_get_cases (o : Opts) (sub : Path) (dst0 : Entries) (n : Name) (l : Entries) (a : Acc)
    (hnd : (names l).Nodup) :
    getE n (phase2 o sub dst0 l a).1.d = getE n a.d ∨
    ∃ ms md, Conflict o l dst0 n ms md ∧ verdict o (sub ++ [n]) ms md = some true ∧
      getE n (phase2 o sub dst0 l a).1.d = some (.file (touch o.now ms)) := by
  rw [phase2_eq]
  cases hl : getE n l with
  | none =>
    exact Or.inl (foldE_proj_not_mem (π := fun s => getE n s.d) (step2_other o sub dst0) a
      (not_mem_names_of_getE hl))
  | some sn =>
    rcases foldE_proj_mem (π := fun s => getE n s.d) (step2_other o sub dst0) a hnd (mem_of_getE hl) with
      ⟨h, _⟩ | ⟨a', h1, h2, _⟩
    · exact Or.inl h
    · rw [h2, ← h1]
      rcases phase2_cons_all o sub dst0 n sn a' with ⟨_, _, _, _, _, _, _, he⟩ | he | ⟨ms, md, hs, hd, h3, h4, hv, he⟩
      · rw [step2, he []]; exact Or.inl rfl
      · rw [step2, he []]; exact Or.inl rfl
      · rw [step2, he []]
        cases o.dry
        · exact Or.inr ⟨ms, md, ⟨hs ▸ hl, hd, h3, h4⟩, hv, getE_setE_same _ _ _⟩
        · exact Or.inl rfl

/-! ### third loop -/

/-- the accumulator after the common sub-directory `k` has been synchronised -/
def subAcc (o : Opts) (sub : Path) (k : Name) (ses dch : Entries) (a : Acc) : Acc :=
  ⟨setE k (.dir (walkDir o (sub ++ [k]) (.dir ses) dch).d) a.d,
   a.log ++ (walkDir o (sub ++ [k]) (.dir ses) dch).log.map (Step.under k)⟩

/-- body of the third loop -/
def subStep (o : Opts) (sub : Path) (dst0 : Entries) (x : Name × Node) (a : Acc) : Acc × Option Err :=
  match x.2, getE x.1 dst0, getE x.1 a.d with
  | .dir ses, some (.dir _), some (.dir dch) =>
    (subAcc o sub x.1 ses dch a, (walkDir o (sub ++ [x.1]) (.dir ses) dch).err)
  | _, _, _ => (a, none)

theorem walkSubs_cons_common (o : Opts) (sub : Path) (dst0 : Entries) (k : Name) (ses x dch tl : Entries)
    (a : Acc) (h1 : getE k dst0 = some (.dir x)) (h2 : getE k a.d = some (.dir dch)) :
    walkSubs o sub dst0 ((k, .dir ses) :: tl) a =
      match (walkDir o (sub ++ [k]) (.dir ses) dch).err with
      | some e => ⟨(subAcc o sub k ses dch a).d, (subAcc o sub k ses dch a).log, some e⟩
      | none => walkSubs o sub dst0 tl (subAcc o sub k ses dch a) := by
  simp only [walkSubs, h1, h2, subAcc]
  cases (walkDir o (sub ++ [k]) (.dir ses) dch).err <;> rfl

theorem walkSubs_cons_skip (o : Opts) (sub : Path) (dst0 : Entries) (k : Name) (sk : Node) (tl : Entries)
    (a : Acc)
    (h : ¬ ∃ ses x dch, sk = .dir ses ∧ getE k dst0 = some (.dir x) ∧ getE k a.d = some (.dir dch)) :
    walkSubs o sub dst0 ((k, sk) :: tl) a = walkSubs o sub dst0 tl a := by
  simp only [walkSubs]
  split
  · next ses x dch h1 h2 => exact absurd ⟨ses, x, dch, rfl, h1, h2⟩ h
  · rfl

theorem subStep_cases (o : Opts) (sub : Path) (dst0 : Entries) (k : Name) (sk : Node) (a : Acc) :
    (∃ ses x dch, sk = .dir ses ∧ getE k dst0 = some (.dir x) ∧ getE k a.d = some (.dir dch) ∧
      subStep o sub dst0 (k, sk) a =
        (subAcc o sub k ses dch a, (walkDir o (sub ++ [k]) (.dir ses) dch).err))
    ∨ ((¬ ∃ ses x dch, sk = .dir ses ∧ getE k dst0 = some (.dir x) ∧ getE k a.d = some (.dir dch)) ∧
      subStep o sub dst0 (k, sk) a = (a, none)) := by
  unfold subStep
  split
  · next ses x dch h1 h2 h3 => exact Or.inl ⟨ses, x, dch, h1, h2, h3, rfl⟩
  · next h => exact Or.inr ⟨fun ⟨ses, x, dch, h1, h2, h3⟩ => h ses x dch h1 h2 h3, rfl⟩

theorem walkSubs_eq (o : Opts) (sub : Path) (dst0 l : Entries) (a : Acc) :
    walkSubs o sub dst0 l a =
      (foldE (subStep o sub dst0) l a).1.res (foldE (subStep o sub dst0) l a).2 := by
  induction l generalizing a with
  | nil => rfl
  | cons x tl ih =>
    obtain ⟨k, sk⟩ := x
    rcases subStep_cases o sub dst0 k sk a with ⟨ses, x, dch, rfl, h1, h2, hs⟩ | ⟨hc, hs⟩
    · rw [walkSubs_cons_common o sub dst0 k ses x dch tl a h1 h2]
      cases he : (walkDir o (sub ++ [k]) (.dir ses) dch).err with
      | none => rw [foldE_cons_ok (by rw [hs]; exact he), hs]; exact ih _
      | some e => rw [foldE_cons_err (by rw [hs]; exact he), hs]
    · rw [walkSubs_cons_skip o sub dst0 k sk tl a hc, foldE_cons_ok (by rw [hs]), hs]
      exact ih a

theorem subStep_other (o : Opts) (sub : Path) (dst0 : Entries) {n : Name} (k : Name) (v : Node) (a : Acc)
    (h : k ≠ n) : getE n (subStep o sub dst0 (k, v) a).1.d = getE n a.d := by
  rcases subStep_cases o sub dst0 k v a with ⟨_, _, _, _, _, _, hs⟩ | ⟨_, hs⟩ <;> rw [hs]
  exact getE_setE_other h.symm _ _

theorem getE_subAcc_same (o : Opts) (sub : Path) (k : Name) (ses dch : Entries) (a : Acc) :
    getE k (subAcc o sub k ses dch a).d = some (.dir (walkDir o (sub ++ [k]) (.dir ses) dch).d) :=
  getE_setE_same _ _ _

theorem walkSubs_get_kept (o : Opts) (sub : Path) (dst0 : Entries) (n : Name) (l : Entries) (a : Acc)
    (hnd : (names l).Nodup)
    (h : (∀ ses, getE n l ≠ some (.dir ses)) ∨ (∀ x, getE n dst0 ≠ some (.dir x))) :
    getE n (walkSubs o sub dst0 l a).d = getE n a.d := by
  rw [walkSubs_eq]
  cases hl : getE n l with
  | none =>
    exact foldE_proj_not_mem (π := fun s => getE n s.d) (subStep_other o sub dst0) a (not_mem_names_of_getE hl)
  | some sn =>
    rcases foldE_proj_mem (π := fun s => getE n s.d) (subStep_other o sub dst0) a hnd (mem_of_getE hl) with
      ⟨h', _⟩ | ⟨a', h1, h2, _⟩
    · exact h'
    · refine h2.trans (Eq.trans ?_ h1)
      rcases subStep_cases o sub dst0 n sn a' with ⟨ses, x, _, hs, hd, _, _⟩ | ⟨_, hs⟩
      · rcases h with h | h
        · exact absurd (hs ▸ hl) (h ses)
        · exact absurd hd (h x)
      · rw [hs]

theorem walkSubs_get_common (o : Opts) (sub : Path) (dst0 : Entries) (n : Name) (ses x dch : Entries)
    (l : Entries) (a : Acc) (hnd : (names l).Nodup) (hl : getE n l = some (.dir ses))
    (h0 : getE n dst0 = some (.dir x)) (ha : getE n a.d = some (.dir dch)) :
    (getE n (walkSubs o sub dst0 l a).d = some (.dir dch) ∧ (walkSubs o sub dst0 l a).err ≠ none)
    ∨ (getE n (walkSubs o sub dst0 l a).d = some (.dir (walkDir o (sub ++ [n]) (.dir ses) dch).d) ∧
        ((walkSubs o sub dst0 l a).err = none → (walkDir o (sub ++ [n]) (.dir ses) dch).err = none)) := by
  rw [walkSubs_eq]
  rcases foldE_proj_mem (π := fun s => getE n s.d) (subStep_other o sub dst0) a hnd (mem_of_getE hl) with
    ⟨h1, h2⟩ | ⟨a', h1, h2, h3⟩
  · exact Or.inl ⟨h1.trans ha, h2⟩
  · have hs : subStep o sub dst0 (n, .dir ses) a' =
        (subAcc o sub n ses dch a', (walkDir o (sub ++ [n]) (.dir ses) dch).err) := by
      simp only [subStep, h0, h1.trans ha]
    rw [hs] at h2 h3
    exact Or.inr ⟨h2.trans (getE_subAcc_same _ _ _ _ _ _), h3⟩

/-! ### one directory level of the walk -/

/-- the state after the first two loops -/
def acc2 (o : Opts) (sub : Path) (ses des : Entries) : Acc :=
  (phase2 o sub des ses (phase1 o des ses ⟨des, []⟩)).1

/-- … and their error -/
def err2 (o : Opts) (sub : Path) (ses des : Entries) : Option Err :=
  (phase2 o sub des ses (phase1 o des ses ⟨des, []⟩)).2

theorem walkDir_dir (o : Opts) (sub : Path) (ses des : Entries) :
    walkDir o sub (.dir ses) des =
      match err2 o sub ses des with
      | some e => (acc2 o sub ses des).res (some e)
      | none =>
        if o.recursive then walkSubs o sub des ses (acc2 o sub ses des)
        else (acc2 o sub ses des).res none := by
  simp only [walkDir, acc2, err2]
  cases (phase2 o sub des ses (phase1 o des ses ⟨des, []⟩)).2 <;> rfl

theorem walkDir_get_of_subs (o : Opts) (sub : Path) (ses des : Entries) (n : Name)
    (h : ∀ a, getE n (walkSubs o sub des ses a).d = getE n a.d) :
    getE n (walkDir o sub (.dir ses) des).d = getE n (acc2 o sub ses des).d := by
  rw [walkDir_dir]
  split
  · rfl
  · split
    · exact h _
    · rfl

theorem acc2_get_of_no_conflict (o : Opts) (sub : Path) (ses des : Entries) (n : Name)
    (hnd : (names ses).Nodup)
    (hc : ∀ ms md, Conflict o ses des n ms md → verdict o (sub ++ [n]) ms md ≠ some true) :
    getE n (acc2 o sub ses des).d = getE n (phase1 o des ses ⟨des, []⟩).d := by
  rcases phase2_get_cases o sub des n ses _ hnd with h | ⟨ms, md, hc', hv, _⟩
  · exact h
  · exact absurd hv (hc ms md hc')

/-- a name the source directory does not have is left alone -/
theorem walkDir_get_absent (o : Opts) (sub : Path) (ses des : Entries) (n : Name)
    (hnd : (names ses).Nodup) (h : getE n ses = none) :
    getE n (walkDir o sub (.dir ses) des).d = getE n des := by
  rw [walkDir_get_of_subs o sub ses des n
    (fun a => walkSubs_get_kept o sub des n ses a hnd (.inl fun _ e => nomatch h.symm.trans e))]
  rw [acc2_get_of_no_conflict o sub ses des n hnd (fun _ _ hc => nomatch h.symm.trans hc.1)]
  rw [phase1_get o des n ses hnd]
  simp only [h]

/-- a name only the source has is created as `leftOnlyNode` says (not at all in a dry run) -/
theorem walkDir_get_leftonly (o : Opts) (sub : Path) (ses des : Entries) (n : Name) (sn : Node)
    (hnd : (names ses).Nodup) (hs : getE n ses = some sn) (hd : getE n des = none) :
    getE n (walkDir o sub (.dir ses) des).d = if o.dry then none else leftOnlyNode o n sn := by
  rw [walkDir_get_of_subs o sub ses des n
    (fun a => walkSubs_get_kept o sub des n ses a hnd (.inr fun _ e => nomatch hd.symm.trans e))]
  rw [acc2_get_of_no_conflict o sub ses des n hnd (fun _ _ hc => nomatch hd.symm.trans hc.2.1)]
  rw [phase1_get o des n ses hnd]
  simp only [hs, hd]
  cases leftOnlyNode o n sn <;> simp

/-- a file facing a directory (either way round) is left alone -/
theorem walkDir_get_clash (o : Opts) (sub : Path) (ses des : Entries) (n : Name) (sn dn : Node)
    (hnd : (names ses).Nodup) (hs : getE n ses = some sn) (hd : getE n des = some dn)
    (hclash : (∃ m x, sn = .file m ∧ dn = .dir x) ∨ (∃ x m, sn = .dir x ∧ dn = .file m)) :
    getE n (walkDir o sub (.dir ses) des).d = some dn := by
  have hsub : ∀ a, getE n (walkSubs o sub des ses a).d = getE n a.d := by
    intro a
    rcases hclash with ⟨m, x, h1, h2⟩ | ⟨x, m, h1, h2⟩
    · subst h1
      exact walkSubs_get_kept o sub des n ses a hnd (.inl fun _ e => nomatch hs.symm.trans e)
    · subst h2
      exact walkSubs_get_kept o sub des n ses a hnd (.inr fun _ e => nomatch hd.symm.trans e)
  rw [walkDir_get_of_subs o sub ses des n hsub]
  rw [acc2_get_of_no_conflict o sub ses des n hnd (by
    intro ms md hc
    rcases hclash with ⟨m, x, h1, h2⟩ | ⟨x, m, h1, h2⟩
    · subst h2; exact nomatch hd.symm.trans hc.2.1
    · subst h1; exact nomatch hs.symm.trans hc.1)]
  rw [phase1_get o des n ses hnd]
  simp only [hs, hd]

/-- a file on both sides stays as it is unless it is a conflict with verdict "overwrite" -/
theorem walkDir_get_file_kept (o : Opts) (sub : Path) (ses des : Entries) (n : Name) (ms md : FMeta)
    (hnd : (names ses).Nodup) (hs : getE n ses = some (.file ms)) (hd : getE n des = some (.file md))
    (hk : ¬ (differs o.deep ms md = true ∧ excluded o n = false ∧ verdict o (sub ++ [n]) ms md = some true)) :
    getE n (walkDir o sub (.dir ses) des).d = some (.file md) := by
  rw [walkDir_get_of_subs o sub ses des n
    (fun a => walkSubs_get_kept o sub des n ses a hnd (.inr fun _ e => nomatch hd.symm.trans e))]
  rw [acc2_get_of_no_conflict o sub ses des n hnd (by
    intro ms' md' hc hv
    obtain ⟨h1, h2, h3, h4⟩ := hc
    rw [hs] at h1; cases h1
    rw [hd] at h2; cases h2
    exact hk ⟨h3, h4, hv⟩)]
  rw [phase1_get o des n ses hnd]
  simp only [hs, hd]

theorem walkDir_err_none (o : Opts) (sub : Path) (ses des : Entries)
    (h : (walkDir o sub (.dir ses) des).err = none) : err2 o sub ses des = none := by
  rw [walkDir_dir] at h
  cases he : err2 o sub ses des with
  | none => rfl
  | some e => simp [he] at h

/-- in a successful real run a conflict with verdict "overwrite" carries the source's bytes -/
theorem walkDir_get_file_overwritten (o : Opts) (sub : Path) (ses des : Entries) (n : Name) (ms md : FMeta)
    (hnd : (names ses).Nodup) (hs : getE n ses = some (.file ms)) (hd : getE n des = some (.file md))
    (hdiff : differs o.deep ms md = true) (hx : excluded o n = false)
    (hv : verdict o (sub ++ [n]) ms md = some true)
    (hok : (walkDir o sub (.dir ses) des).err = none) (hdry : o.dry = false) :
    getE n (walkDir o sub (.dir ses) des).d = some (.file (touch o.now ms)) := by
  rw [walkDir_get_of_subs o sub ses des n
    (fun a => walkSubs_get_kept o sub des n ses a hnd (.inr fun _ e => nomatch hd.symm.trans e))]
  exact phase2_get_true o sub des n ms md ses _ hnd ⟨hs, hd, hdiff, hx⟩ hv (walkDir_err_none o sub ses des hok) hdry

/-- a conflict without verdict makes the level fail (first loop done, nothing overwritten) -/
theorem walkDir_conflict_fails (o : Opts) (sub : Path) (ses des : Entries) (n : Name) (ms md : FMeta)
    (hs : getE n ses = some (.file ms)) (hd : getE n des = some (.file md))
    (hdiff : differs o.deep ms md = true) (hx : excluded o n = false)
    (hv : verdict o (sub ++ [n]) ms md = none) :
    ∃ fn, (walkDir o sub (.dir ses) des).err = some (.fileConflict fn) := by
  cases he : err2 o sub ses des with
  | none => exact absurd hv (phase2_ok_verdict o sub des ses _ he n ms md ⟨hs, hd, hdiff, hx⟩)
  | some e =>
    obtain ⟨fn, _, _, hfn, _⟩ := phase2_err o sub des ses _ e he
    exact ⟨fn, by rw [walkDir_dir, he, hfn]⟩

/-- a directory on both sides holds its old content or the result of its own walk; in a
    successful recursive run the latter, and that walk succeeded too -/
theorem walkDir_get_common (o : Opts) (sub : Path) (ses des : Entries) (n : Name) (sch dch : Entries)
    (hnd : (names ses).Nodup) (hs : getE n ses = some (.dir sch)) (hd : getE n des = some (.dir dch)) :
    (getE n (walkDir o sub (.dir ses) des).d = some (.dir dch) ∧
      ((walkDir o sub (.dir ses) des).err = none → o.recursive = false))
    ∨ (o.recursive = true ∧
       getE n (walkDir o sub (.dir ses) des).d = some (.dir (walkDir o (sub ++ [n]) (.dir sch) dch).d) ∧
       ((walkDir o sub (.dir ses) des).err = none → (walkDir o (sub ++ [n]) (.dir sch) dch).err = none)) := by
  have h2 : getE n (acc2 o sub ses des).d = some (.dir dch) := by
    rw [acc2_get_of_no_conflict o sub ses des n hnd (fun _ _ hc => nomatch hd.symm.trans hc.2.1)]
    rw [phase1_get o des n ses hnd]
    simp only [hs, hd]
  rw [walkDir_dir]
  cases he : err2 o sub ses des with
  | some e => left; exact ⟨h2, by simp⟩
  | none =>
    simp only
    cases hr : o.recursive with
    | false => left; simp [h2]
    | true =>
      simp only [if_true]
      rcases walkSubs_get_common o sub des n sch dch dch ses (acc2 o sub ses des) hnd hs hd h2 with ⟨h, hne⟩ | ⟨h, hok⟩
      · left; exact ⟨h, fun hh => absurd hh hne⟩
      · right; exact ⟨trivial, h, hok⟩

theorem walkDir_get_common_ok (o : Opts) (sub : Path) (ses des : Entries) (n : Name) (sch dch : Entries)
    (hnd : (names ses).Nodup) (hs : getE n ses = some (.dir sch)) (hd : getE n des = some (.dir dch))
    (hrec : o.recursive = true) (hok : (walkDir o sub (.dir ses) des).err = none) :
    getE n (walkDir o sub (.dir ses) des).d = some (.dir (walkDir o (sub ++ [n]) (.dir sch) dch).d) ∧
    (walkDir o (sub ++ [n]) (.dir sch) dch).err = none := by
  rcases walkDir_get_common o sub ses des n sch dch hnd hs hd with ⟨_, h2⟩ | ⟨_, h', h2⟩
  · rw [h2 hok] at hrec; cases hrec
  · exact ⟨h', h2 hok⟩

/-! ### the whole walk: what it logs, and how it can fail -/

theorem walkSubs_ext_of (o : Opts) (sub : Path) (dst0 l : Entries) (a : Acc)
    (ih : ∀ x ∈ l, ∀ sub des, Ext o.dry ⟨des, []⟩ (walkDir o sub x.2 des).acc) :
    Ext o.dry a (walkSubs o sub dst0 l a).acc := by
  rw [walkSubs_eq]
  refine foldE_inv (fun x hx s hs => hs.trans ?_) (Ext.refl _ _)
  rcases subStep_cases o sub dst0 x.1 x.2 s with ⟨ses, _, dch, hx2, _, h2, he⟩ | ⟨_, he⟩ <;> rw [he]
  · exact Ext.under h2 (hx2 ▸ ih x hx _ dch)
  · exact Ext.refl _ _

theorem walkDir_ext (o : Opts) (sn : Node) :
    ∀ (sub : Path) (des : Entries), Ext o.dry ⟨des, []⟩ (walkDir o sub sn des).acc := by
  induction sn using Node.rec_mem with
  | file m => exact fun _ _ => Ext.refl _ _
  | dir ses ih =>
    intro sub des
    have h2 : Ext o.dry ⟨des, []⟩ (acc2 o sub ses des) := (phase1_ext _ _ _ _).trans (phase2_ext _ _ _ _ _)
    rw [walkDir_dir]
    cases err2 o sub ses des with
    | some e => exact h2
    | none =>
      cases o.recursive with
      | false => exact h2
      | true => exact h2.trans (walkSubs_ext_of o sub des ses _ ih)

theorem walkSubs_ext (o : Opts) (sub : Path) (dst0 l : Entries) (a : Acc) :
    Ext o.dry a (walkSubs o sub dst0 l a).acc :=
  walkSubs_ext_of o sub dst0 l a (fun x _ => walkDir_ext o x.2)

theorem walkSubs_refines (o : Opts) (sub : Path) (dst0 a0 : Entries) : (l : List (Name × Node)) →
      (a : Acc) → Refines a0 a →
      applyAll a0 (walkSubs o sub dst0 l a).log = (walkSubs o sub dst0 l a).d :=
  fun l a h => (walkSubs_ext o sub dst0 l a).refines h

theorem walkSubs_dry (o : Opts) (h : o.dry = true) (sub : Path) (dst0 : Entries) :
      (l : List (Name × Node)) → (a : Acc) →
      (walkSubs o sub dst0 l a).d = a.d ∧ (walkSubs o sub dst0 l a).log = a.log :=
  fun l a => (h ▸ walkSubs_ext o sub dst0 l a).of_dry

theorem walkSubs_err_kind_of (o : Opts) (sub : Path) (dst0 l : Entries) (a : Acc) (e : Err)
    (ih : ∀ x ∈ l, ∀ sub des e, (walkDir o sub x.2 des).err = some e → ∃ fn, e = .fileConflict fn)
    (h : (walkSubs o sub dst0 l a).err = some e) : ∃ fn, e = .fileConflict fn := by
  rw [walkSubs_eq] at h
  obtain ⟨x, hx, s, hs⟩ := foldE_err h
  rcases subStep_cases o sub dst0 x.1 x.2 s with ⟨_, _, _, hx2, _, _, he⟩ | ⟨_, he⟩ <;> rw [he] at hs
  · exact ih x hx _ _ e (hx2 ▸ hs)
  · cases hs

/-- every error of the file walk is a FileSyncConflict -/
theorem walkDir_err_kind (o : Opts) (sub : Path) : (sn : Node) → (des : Entries) → (e : Err) →
      (walkDir o sub sn des).err = some e → ∃ fn, e = .fileConflict fn := by
  intro sn
  induction sn using Node.rec_mem generalizing sub with
  | file m => intro des e h; cases h
  | dir ses ih =>
    intro des e h
    rw [walkDir_dir] at h
    cases he : err2 o sub ses des with
    | some e' =>
      rw [he] at h
      obtain ⟨fn, _, _, hfn, _⟩ := phase2_err o sub des ses _ e' he
      exact ⟨fn, (Option.some.inj h) ▸ hfn⟩
    | none =>
      rw [he] at h
      cases hr : o.recursive with
      | false => rw [hr] at h; cases h
      | true =>
        rw [hr] at h
        exact walkSubs_err_kind_of o sub des ses _ e (fun x hx sub des e => ih x hx sub des e) h

theorem walkSubs_err_kind (o : Opts) (sub : Path) (dst0 : Entries) : (l : List (Name × Node)) → (a : Acc) →
      (e : Err) → (walkSubs o sub dst0 l a).err = some e → ∃ fn, e = .fileConflict fn :=
  fun l a e => walkSubs_err_kind_of o sub dst0 l a e (fun x _ sub => walkDir_err_kind o sub x.2)

end Signac.Sync
