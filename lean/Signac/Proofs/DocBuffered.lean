/-
  Buffered runs against unbuffered runs: the simulation invariant `BInv` (one handle object
  per document inside the blocks), preserved by flushes, block entry / exit and operations.
  Per document the invariant is a relation `FileRel` between five cells (file, handle value and
  buffer entry of the buffered run; file and handle value of the unbuffered run); every primitive
  replaces the cells of one handle and its file (`Upd`), so one lemma (`BCore.update`) carries the
  rest of the world along and each primitive only has to say what it does to `FileRel`.
-/
import Signac.Proofs.DocWorld
namespace Signac.Doc
open Signac

theorem flushObj_none {w : World} {o : Nat} (h : w.buf (w.fileOf o) = none) : flushObj w o = w := by
  unfold flushObj; rw [h]

theorem flushObj_write {w : World} {o : Nat} {e : Entry} (h : w.buf (w.fileOf o) = some e)
    (hc : changed (w.data o) e.base = true) :
    flushObj w o =
      { w with data := upd w.data o (mergeVal (w.data o) e.contents),
               files := upd w.files (w.fileOf o) (some (mergeVal (w.data o) e.contents)),
               buf := upd w.buf (w.fileOf o) none, hit := w.hit || nullHit (w.data o) e.contents } := by
  unfold flushObj; rw [h]; simp only [hc, if_true]

theorem flushObj_skip {w : World} {o : Nat} {e : Entry} (h : w.buf (w.fileOf o) = some e)
    (hc : changed (w.data o) e.base = false) :
    flushObj w o = { w with buf := upd w.buf (w.fileOf o) none } := by
  unfold flushObj; rw [h]; simp only [hc, Bool.false_eq_true, if_false]

theorem flushObj_buf (w : World) (o : Nat) : (flushObj w o).buf = upd w.buf (w.fileOf o) none := by
  cases hb : w.buf (w.fileOf o) with
  | none => rw [flushObj_none hb, ← hb, upd_self]
  | some e =>
    cases hc : changed (w.data o) e.base with
    | true => rw [flushObj_write hb hc]
    | false => rw [flushObj_skip hb hc]

theorem flushObj_order (w : World) (o : Nat) : (flushObj w o).order = w.order := by
  unfold flushObj; split
  · rfl
  · split <;> rfl

theorem flushList_order (os : List Nat) (w : World) : (flushList os w).order = w.order := by
  induction os generalizing w with
  | nil => rfl
  | cons o os ih => simp only [flushList]; rw [ih, flushObj_order]

theorem flushList_buf (os : List Nat) (w : World) (g : Nat) :
    (flushList os w).buf g = if g ∈ os.map w.fileOf then none else w.buf g := by
  induction os generalizing w with
  | nil => rfl
  | cons o os ih =>
    simp only [flushList]
    rw [ih, (step_flushObj w o).fileOf, flushObj_buf]
    by_cases h1 : g = w.fileOf o
    · subst h1; simp
    · simp [upd_other _ _ h1, h1]

/-- One document seen from both runs: file `bf`, value `bd` held by the designated handle and buffer
    entry `be` of the buffered run against file `uf` and handle value `ud` of the unbuffered run. -/
structure FileRel (bf : Option JVal) (bd : JVal) (be : Option Entry) (uf : Option JVal) (ud : JVal) : Prop where
  /-- `Coherent` of the unbuffered run -/
  cohU : uf = none → Sim ud (.obj [])
  dsim : Sim bd ud
  /-- the buffered run never has a file the unbuffered run lacks -/
  absent : uf = none → bf = none
  /-- without an entry the files agree and the buffered run is `Coherent` -/
  noent : be = none → CSim bf uf ∧ (bf = none → Sim bd (.obj []))
  /-- the entry holds what the unbuffered file holds; its base is what the buffered file holds, and is
      the empty document (not "no file") when the unbuffered run has no file -/
  ent : ∀ e, be = some e → Sim bd e.contents ∧ Sim e.contents (content uf) ∧
    (∀ b, e.base = some b → Sim b (content bf)) ∧ (uf = none → e.base = some (.obj []))

/-- base recorded for a buffer entry created or overwritten by a save (the `bs` of `FileRel.store`) -/
def baseFor (w : World) (f : Nat) : Option JVal :=
  match w.buf f with
  | some e => e.base
  | none => w.files f

theorem bufStore_eq (w : World) (o : Nat) :
    bufStore w o = { w with buf := upd w.buf (w.fileOf o) (some ⟨w.data o, baseFor w (w.fileOf o)⟩) } := by
  unfold bufStore baseFor; cases w.buf (w.fileOf o) <;> rfl

theorem changed_empty : changed (.obj []) (some (.obj [])) = false := by decide

namespace FileRel
variable {bf uf : Option JVal} {bd ud : JVal} {be : Option Entry}

theorem dataB (r : FileRel bf bd be uf ud) {v : JVal} (hv : Sim v bd) : FileRel bf v be uf ud :=
  ⟨r.cohU, hv.trans r.dsim, r.absent, fun hb => ⟨(r.noent hb).1, fun hn => hv.trans ((r.noent hb).2 hn)⟩,
    fun e he => ⟨hv.trans (r.ent e he).1, (r.ent e he).2⟩⟩

theorem dataU (r : FileRel bf bd be uf ud) {v : JVal} (hv : Sim v ud) : FileRel bf bd be uf v :=
  ⟨fun hn => hv.trans (r.cohU hn), r.dsim.trans hv.symm, r.absent, r.noent, r.ent⟩

/-- both handles load their files, no buffer entry -/
theorem load (r : FileRel bf bd none uf ud) {v v' : JVal} (hv : Sim v (content bf)) (hv' : Sim v' (content uf)) :
    FileRel bf v none uf v' :=
  have hc := (r.noent rfl).1
  ⟨fun hn => by rw [hn] at hv'; exact hv', hv.trans (hc.trans hv'.symm), r.absent,
    fun _ => ⟨hc, fun hn => by rw [hn] at hv; exact hv⟩, fun _ he => nomatch he⟩

/-- a buffer entry is made of the handle's value, which is what the file holds -/
theorem addEntry (r : FileRel bf bd none uf ud) (hs : Sim bd (content bf)) :
    FileRel bf bd (some ⟨bd, some bd⟩) uf ud :=
  ⟨r.cohU, r.dsim, r.absent, nofun, fun e he => by
    cases he
    exact ⟨Sim.refl _, hs.trans (r.noent rfl).1, fun b hb => by cases hb; exact hs,
      fun hn => congrArg some (sim_to_empty (r.dsim.trans (r.cohU hn)))⟩⟩

/-- both handles write their value to the file -/
theorem write {v v' : JVal} (hv : Sim v v') : FileRel (some v) v none (some v') v' :=
  ⟨nofun, hv, nofun, fun _ => ⟨hv, nofun⟩, nofun⟩

/-- the buffered handle writes to the buffer entry, the unbuffered one to the file -/
theorem store {v v' : JVal} (hv : Sim v v') {bs : Option JVal} (hbs : ∀ x, bs = some x → Sim x (content bf)) :
    FileRel bf v (some ⟨v, bs⟩) (some v') v' :=
  ⟨nofun, hv, nofun, nofun, fun e he => by cases he; exact ⟨Sim.refl _, hv, hbs, nofun⟩⟩

/-- a flush that writes the merged value `m` -/
theorem flushed {e : Entry} (r : FileRel bf bd (some e) uf ud) {m : JVal} (hm : Sim m e.contents)
    (hc : changed bd e.base = true) : FileRel (some m) m none uf ud := by
  obtain ⟨e1, e2, _, e4⟩ := r.ent e rfl
  refine ⟨r.cohU, hm.trans (e1.symm.trans r.dsim), fun hn => ?_, fun _ => ⟨hm.trans e2, nofun⟩, nofun⟩
  -- no unbuffered file: handle value and base are both exactly `{}`, nothing is written
  rw [sim_to_empty (r.dsim.trans (r.cohU hn)), e4 hn, changed_empty] at hc
  cases hc

/-- a flush that finds the handle's value to be the entry's base: only the entry goes -/
theorem skipped {e : Entry} (r : FileRel bf bd (some e) uf ud) (hb : e.base = some bd) :
    FileRel bf bd none uf ud := by
  obtain ⟨e1, e2, e3, _⟩ := r.ent e rfl
  have hbf := e3 bd hb
  exact ⟨r.cohU, r.dsim, r.absent, fun _ => ⟨hbf.symm.trans (e1.trans e2), fun hn => by rw [hn] at hbf; exact hbf⟩,
    nofun⟩

end FileRel

/-- `w'` is `w` with the cells of handle object `o` and of its file replaced -/
structure Upd (w w' : World) (o : Nat) (d : JVal) (fv : Option JVal) (be : Option Entry) : Prop where
  fileOf : w'.fileOf = w.fileOf
  data : w'.data = upd w.data o d
  files : w'.files = upd w.files (w.fileOf o) fv
  buf : w'.buf = upd w.buf (w.fileOf o) be
  order : w'.order = w.order

theorem Upd.refl (w : World) (o : Nat) : Upd w w o (w.data o) (w.files (w.fileOf o)) (w.buf (w.fileOf o)) :=
  ⟨rfl, (upd_self _ _).symm, (upd_self _ _).symm, (upd_self _ _).symm, rfl⟩

theorem Upd.wf {w w' : World} {o : Nat} {d : JVal} {fv : Option JVal} {be : Option Entry}
    (hu : Upd w w' o d fv be) (hw : WFWorld w) (wd : WF d) (wf : ∀ v, fv = some v → WF v)
    (wb : ∀ e, be = some e → WF e.contents) : WFWorld w' := by
  refine ⟨?_, ?_, ?_⟩
  · rw [hu.data]; exact upd_forall wd fun j _ => hw.data j
  · rw [hu.files]; exact upd_forall (P := fun _ x => ∀ v, x = some v → WF v) wf fun j _ => hw.files j
  · rw [hu.buf]; exact upd_forall (P := fun _ (x : Option Entry) => ∀ e, x = some e → WF e.contents) wb fun j _ => hw.buf j

theorem Upd.ofData (w : World) (o : Nat) (v : JVal) (b : Bool) :
    Upd w { w with data := upd w.data o v, hit := b } o v (w.files (w.fileOf o)) (w.buf (w.fileOf o)) :=
  ⟨rfl, rfl, (upd_self _ _).symm, (upd_self _ _).symm, rfl⟩

theorem Upd.write (w : World) (o : Nat) (v : JVal) (b : Bool) :
    Upd w (saveU (setData w o v b) o) o v (some v) (w.buf (w.fileOf o)) :=
  ⟨rfl, rfl, congrArg (fun x => upd w.files (w.fileOf o) (some x)) (upd_same _ _ _), (upd_self _ _).symm, rfl⟩

section
/- `F` is the `fileOf` common to both runs; `rep f` is the handle object designated for file `f`. -/
variable (F : Nat → Nat) (rep : Nat → Nat)

/-- the document has a handle object designated for the blocks -/
def Active (f : Nat) : Prop := F (rep f) = f

/-- `o` is the designated handle of its own document -/
abbrev Designated (o : Nat) : Prop := rep (F o) = o

/-- the invariant apart from what it says at depth 0 -/
structure BCore (wb wu : World) : Prop where
  fob : wb.fileOf = F
  fou : wu.fileOf = F
  du : wu.depth = 0
  wfb : WFWorld wb
  wfu : WFWorld wu
  /-- only designated handles are in the flush order -/
  ord : ∀ o ∈ wb.order, Designated F rep o
  /-- the handle of an entry is in the flush order: `flushAll` reaches every entry -/
  bufo : ∀ f e, wb.buf f = some e → rep f ∈ wb.order ∧ Active F rep f
  /-- a document without designated handle is not touched by either run -/
  frozen : ∀ f, ¬ Active F rep f → wb.files f = wu.files f
  act : ∀ f, Active F rep f →
    FileRel (wb.files f) (wb.data (rep f)) (wb.buf f) (wu.files f) (wu.data (rep f))

structure BInv (wb wu : World) : Prop extends BCore F rep wb wu where
  d0 : wb.depth = 0 → ∀ f, wb.buf f = none

variable {F rep}

theorem active_of_rep {o : Nat} (h : Designated F rep o) : Active F rep (F o) := by
  unfold Active; rw [h]

theorem rep_ne {o g : Nat} (hg : Active F rep g) (hne : g ≠ F o) : rep g ≠ o :=
  fun e => hne (by rw [← hg, e])

/-- the cells of the document handled through the designated object `o` -/
theorem BCore.rel {wb wu : World} (h : BCore F rep wb wu) {o : Nat} (ho : Designated F rep o) :
    FileRel (wb.files (wb.fileOf o)) (wb.data o) (wb.buf (wb.fileOf o)) (wu.files (wu.fileOf o)) (wu.data o) := by
  have := h.act (F o) (active_of_rep ho)
  rw [ho] at this
  rw [congrFun h.fob o, congrFun h.fou o]; exact this

theorem BCore.congrB {wb wu wb' : World} (h : BCore F rep wb wu)
    (h1 : wb'.files = wb.files) (h2 : wb'.data = wb.data) (h3 : wb'.fileOf = wb.fileOf)
    (h4 : wb'.buf = wb.buf) (h5 : wb'.order = wb.order) : BCore F rep wb' wu :=
  ⟨h3 ▸ h.fob, h.fou, h.du, ⟨h2 ▸ h.wfb.data, h1 ▸ h.wfb.files, h4 ▸ h.wfb.buf⟩, h.wfu, h5 ▸ h.ord,
    h4 ▸ h5 ▸ h.bufo, h1 ▸ h.frozen, h1 ▸ h2 ▸ h4 ▸ h.act⟩

/-- Both runs replace the cells of the designated object `o` and of its file (the unbuffered run has
    no buffer): the invariant holds again if the new cells are well-formed and related.  A new entry's
    handle must be in the flush order (`bufo`), else `flushAll` would miss the entry. -/
theorem BCore.update {wb wu X Y : World} (h : BCore F rep wb wu) {o : Nat} (ho : Designated F rep o)
    {dx dy : JVal} {fx fy : Option JVal} {bx : Option Entry}
    (hx : Upd wb X o dx fx bx) (hy : Upd wu Y o dy fy (wu.buf (wu.fileOf o))) (ydep : Y.depth = 0)
    (wdx : WF dx) (wfx : ∀ v, fx = some v → WF v) (wbx : ∀ e, bx = some e → WF e.contents ∧ o ∈ wb.order)
    (wdy : WF dy) (wfy : ∀ v, fy = some v → WF v)
    (rel : FileRel fx dx bx fy dy) : BCore F rep X Y := by
  have hact := active_of_rep ho
  have xf : X.files = upd wb.files (F o) fx := h.fob ▸ hx.files
  have xb : X.buf = upd wb.buf (F o) bx := h.fob ▸ hx.buf
  have yf : Y.files = upd wu.files (F o) fy := h.fou ▸ hy.files
  refine ⟨hx.fileOf.trans h.fob, hy.fileOf.trans h.fou, ydep,
    hx.wf h.wfb wdx wfx fun e he => (wbx e he).1, hy.wf h.wfu wdy wfy (h.wfu.buf _), ?_, ?_, ?_, ?_⟩
  · rw [hx.order]; exact h.ord
  · rw [xb, hx.order]
    exact upd_forall (P := fun f x => ∀ e, x = some e → rep f ∈ wb.order ∧ Active F rep f)
      (fun e he => ⟨ho.symm ▸ (wbx e he).2, hact⟩) fun f _ => h.bufo f
  · intro f hf
    have : f ≠ F o := fun e => hf (e ▸ hact)
    rw [xf, yf, upd_other _ _ this, upd_other _ _ this]; exact h.frozen f hf
  · intro g hg
    rw [xf, hx.data, xb, yf, hy.data]
    by_cases hgf : g = F o
    · subst hgf; rw [ho]; simp only [upd_same]; exact rel
    · have hr := rep_ne hg hgf
      rw [upd_other _ _ hgf, upd_other _ _ hr, upd_other _ _ hgf, upd_other _ _ hgf, upd_other _ _ hr]
      exact h.act g hg

/-- only the buffered run moves -/
theorem BCore.updateB {wb wu X : World} (h : BCore F rep wb wu) {o : Nat} (ho : Designated F rep o)
    {dx : JVal} {fx : Option JVal} {bx : Option Entry} (hx : Upd wb X o dx fx bx)
    (wdx : WF dx) (wfx : ∀ v, fx = some v → WF v) (wbx : ∀ e, bx = some e → WF e.contents ∧ o ∈ wb.order)
    (rel : FileRel fx dx bx (wu.files (wu.fileOf o)) (wu.data o)) : BCore F rep X wu :=
  h.update ho hx (.refl wu o) h.du wdx wfx wbx (h.wfu.data o) (h.wfu.files _) rel

theorem BCore.entry {wb wu : World} (h : BCore F rep wb wu) {o : Nat} (ho : Designated F rep o) :
    ∀ e, wb.buf (wb.fileOf o) = some e → WF e.contents ∧ o ∈ wb.order := fun e he =>
  ⟨h.wfb.buf _ e he, ho ▸ (h.bufo (F o) e (h.fob ▸ he)).1⟩

theorem bcore_touch {wb wu : World} (h : BCore F rep wb wu) {o : Nat} (ho : Designated F rep o) :
    BCore F rep (touch wb o) wu := by
  rw [touch_eq]
  refine ⟨h.fob, h.fou, h.du, ⟨h.wfb.data, h.wfb.files, h.wfb.buf⟩, h.wfu, fun o' ho' => ?_,
    fun f e he => ⟨?_, (h.bufo f e he).2⟩, h.frozen, h.act⟩
  · dsimp only at ho'; split at ho'
    · exact h.ord o' ho'
    · rcases List.mem_append.mp ho' with h' | h'
      · exact h.ord o' h'
      · rw [List.mem_singleton.mp h']; exact ho
  · dsimp only; split
    · exact (h.bufo f e he).1
    · exact List.mem_append_left _ (h.bufo f e he).1

theorem bcore_flushObj {wb wu : World} (h : BCore F rep wb wu) {o : Nat} (ho : Designated F rep o)
    (hh : (flushObj wb o).hit = false) : BCore F rep (flushObj wb o) wu := by
  cases hb : wb.buf (wb.fileOf o) with
  | none => rw [flushObj_none hb]; exact h
  | some e =>
    have r := h.rel ho
    rw [hb] at r
    have hwe := (h.wfb.buf _ e hb)
    cases hc : changed (wb.data o) e.base with
    | true =>
      rw [flushObj_write hb hc] at hh ⊢
      have hm := merge_sim (h.wfb.data o) hwe (Bool.or_eq_false_iff.mp hh).2
      have hwm := wf_merge (h.wfb.data o) hwe
      exact h.updateB ho ⟨rfl, rfl, rfl, rfl, rfl⟩ hwm (fun v hv => by cases hv; exact hwm) nofun
        (r.flushed hm hc)
    | false =>
      rw [flushObj_skip hb hc]
      have hbase : e.base = some (wb.data o) := by
        cases hbs : e.base with
        | none => rw [hbs] at hc; cases hc
        | some b =>
          rw [hbs] at hc
          exact congrArg some (jsame_eq (by simpa [changed] using hc)).symm
      exact h.updateB ho ⟨rfl, (upd_self _ _).symm, (upd_self _ _).symm, rfl, rfl⟩ (h.wfb.data o)
        (h.wfb.files _) nofun (r.skipped hbase)

theorem bcore_flushList {wu : World} (os : List Nat) : ∀ {wb : World}, BCore F rep wb wu →
    (∀ o ∈ os, Designated F rep o) → (flushList os wb).hit = false → BCore F rep (flushList os wb) wu := by
  induction os with
  | nil => intro wb h _ _; exact h
  | cons o os ih =>
    intro wb h ho hh
    exact ih (bcore_flushObj h (ho o List.mem_cons_self) ((step_flushList os _).hit_false hh))
      (fun o' h' => ho o' (List.mem_cons_of_mem _ h')) hh

theorem flushAll_buf_none {wb wu : World} (h : BCore F rep wb wu) (g : Nat) : (flushAll wb).buf g = none := by
  show (flushList wb.order.reverse wb).buf g = none
  rw [flushList_buf]
  split
  · rfl
  · next hg =>
    cases hb : wb.buf g with
    | none => rfl
    | some e =>
      obtain ⟨h1, h2⟩ := h.bufo g e hb
      exact absurd (List.mem_map.mpr ⟨rep g, List.mem_reverse.mpr h1, h.fob ▸ h2⟩) hg

theorem bcore_flushAll {wb wu : World} (h : BCore F rep wb wu) (hh : (flushAll wb).hit = false) :
    BCore F rep (flushAll wb) wu := by
  have hl : BCore F rep (flushList wb.order.reverse wb) wu :=
    bcore_flushList _ h (fun o ho => h.ord o (List.mem_reverse.mp ho)) hh
  refine ⟨hl.fob, hl.fou, hl.du, ⟨hl.wfb.data, hl.wfb.files, hl.wfb.buf⟩, hl.wfu, nofun, fun f e he => ?_,
    hl.frozen, hl.act⟩
  rw [flushAll_buf_none h f] at he; cases he

theorem bcore_maybeFlush {wb wu : World} (h : BCore F rep wb wu) (hh : (maybeFlush wb).hit = false) :
    BCore F rep (maybeFlush wb) wu := by
  unfold maybeFlush at hh ⊢
  split
  · next hc => rw [if_pos hc] at hh; exact bcore_flushAll h hh
  · exact h

/-- the buffered handle's value replaced by a `Sim` one (`mergeBlob`, an operation without save) -/
theorem bcore_dataB {wb wu : World} (h : BCore F rep wb wu) {o : Nat} (ho : Designated F rep o) {v : JVal}
    (hv : Sim v (wb.data o)) (hw : WF v) (b : Bool) :
    BCore F rep { wb with data := upd wb.data o v, hit := b } wu := by
  exact h.updateB ho (.ofData wb o v b) hw (h.wfb.files _) (h.entry ho) ((h.rel ho).dataB hv)

theorem bcore_dataU {wb wu : World} (h : BCore F rep wb wu) {o : Nat} (ho : Designated F rep o) {v : JVal}
    (hv : Sim v (wu.data o)) (hw : WF v) (b : Bool) :
    BCore F rep wb { wu with data := upd wu.data o v, hit := b } := by
  exact h.update ho (.refl wb o) (.ofData wu o v b) h.du (h.wfb.data o) (h.wfb.files _) (h.entry ho) hw
    (h.wfu.files _) ((h.rel ho).dataU hv)

theorem loadU_sim {w : World} (hw : WFWorld w) {o : Nat} (hh : (loadU w o).hit = false)
    (hc : w.files (w.fileOf o) = none → Sim (w.data o) (.obj [])) :
    Sim (loadedFrom (w.data o) (w.files (w.fileOf o))) (content (w.files (w.fileOf o))) :=
  loadedFrom_sim (hw.data o) (hw.files _) (Bool.or_eq_false_iff.mp hh).2 hc

/-- both sides load outside any buffer entry -/
theorem bcore_load0 {wb wu : World} (h : BCore F rep wb wu) {o : Nat} (ho : Designated F rep o)
    (hb : wb.buf (wb.fileOf o) = none) (h1 : (loadU wb o).hit = false) (h2 : (loadU wu o).hit = false) :
    BCore F rep (loadU wb o) (loadU wu o) := by
  have r := h.rel ho
  rw [hb] at r
  refine h.update ho (.ofData wb o _ _) (.ofData wu o _ _) h.du
    (wf_loadedFrom (h.wfb.data o) (h.wfb.files _)) (h.wfb.files _) (h.entry ho)
    (wf_loadedFrom (h.wfu.data o) (h.wfu.files _)) (h.wfu.files _) ?_
  rw [hb]
  exact r.load (loadU_sim h.wfb h1 (r.noent rfl).2) (loadU_sim h.wfu h2 r.cohU)

/-- the unbuffered side loads while the buffered side holds a buffer entry -/
theorem bcore_loadU_ent {wb wu : World} (h : BCore F rep wb wu) {o : Nat} (ho : Designated F rep o) {e : Entry}
    (hb : wb.buf (wb.fileOf o) = some e) (h2 : (loadU wu o).hit = false) : BCore F rep wb (loadU wu o) := by
  have r := h.rel ho
  obtain ⟨e1, e2, _⟩ := r.ent e hb
  exact bcore_dataU h ho ((loadU_sim h.wfu h2 r.cohU).trans (e2.symm.trans (e1.symm.trans r.dsim)))
    (wf_loadedFrom (h.wfu.data o) (h.wfu.files _)) _

theorem bufInit_of_some {w : World} {o : Nat} {e : Entry} (h : w.buf (w.fileOf o) = some e) : bufInit w o = w := by
  unfold bufInit; rw [h]

theorem bufInit_of_none {w : World} {o : Nat} (h : w.buf (w.fileOf o) = none) :
    bufInit w o = { loadU w o with
      buf := upd w.buf (w.fileOf o) (some ⟨(loadU w o).data o, some ((loadU w o).data o)⟩) } := by
  unfold bufInit; rw [h]; rfl

/-- first part of a buffered load: the entry exists afterwards, both sides related -/
theorem bcore_bufInit {wb wu : World} (h : BCore F rep wb wu) {o : Nat} (ho : Designated F rep o)
    (h1 : (touch (bufInit wb o) o).hit = false) (h2 : (loadU wu o).hit = false) :
    BCore F rep (touch (bufInit wb o) o) (loadU wu o) ∧
    ∃ e, (touch (bufInit wb o) o).buf ((touch (bufInit wb o) o).fileOf o) = some e := by
  cases hb : wb.buf (wb.fileOf o) with
  | some e =>
    rw [bufInit_of_some hb]
    exact ⟨bcore_touch (bcore_loadU_ent h ho hb h2) ho, e, by rw [touch_eq]; exact hb⟩
  | none =>
    rw [bufInit_of_none hb] at h1 ⊢
    have h1' : (loadU wb o).hit = false := by rw [touch_eq] at h1; exact h1
    have L := bcore_load0 h ho hb h1' h2
    have r := L.rel ho
    rw [show (loadU wb o).buf ((loadU wb o).fileOf o) = none from hb] at r
    have B0 := bcore_touch L ho
    have hm := touch_mem (loadU wb o) o
    rw [touch_eq] at B0 hm ⊢
    have hs : Sim ((loadU wb o).data o) (content (wb.files (wb.fileOf o))) := by
      have hr := h.rel ho
      rw [hb] at hr
      show Sim (upd wb.data o _ o) _
      rw [upd_same]; exact loadU_sim h.wfb h1' (hr.noent rfl).2
    refine ⟨B0.updateB ho ⟨rfl, (upd_self _ _).symm, (upd_self _ _).symm, rfl, rfl⟩
      (B0.wfb.data o) (B0.wfb.files _) (fun e he => ?_) (r.addEntry hs), ⟨_, upd_same _ _ _⟩⟩
    cases he; exact ⟨B0.wfb.data o, hm⟩

theorem bcore_loadB {wb wu : World} (h : BCore F rep wb wu) {o : Nat} (ho : Designated F rep o)
    (h1 : (loadB wb o).hit = false) (h2 : (loadU wu o).hit = false) :
    BCore F rep (loadB wb o) (loadU wu o) := by
  obtain ⟨BA, e, he⟩ := bcore_bufInit h ho ((step_loadB_tail wb o).hit_false h1) h2
  have he' : (touch (bufInit wb o) o).buf (wb.fileOf o) = some e := congrFun (BA.fob.trans h.fob.symm) o ▸ he
  rw [loadB_eq, he'] at h1 ⊢
  dsimp only at h1 ⊢
  have BF := bcore_maybeFlush BA ((step_mergeBlob _ o _).hit_false h1)
  have hwe := BA.wfb.buf _ e he
  -- the handle's value after a flush is still `Sim` to what the entry held
  have hblob : Sim e.contents ((maybeFlush (touch (bufInit wb o) o)).data o) :=
    ((BA.rel ho).ent e he).1.symm.trans ((BA.rel ho).dsim.trans (BF.rel ho).dsim.symm)
  have hm := merge_sim (BF.wfb.data o) hwe (Bool.or_eq_false_iff.mp h1).2
  exact bcore_dataB BF ho (hm.trans hblob) (wf_merge (BF.wfb.data o) hwe) _

theorem bcore_write0 {wb wu : World} (h : BCore F rep wb wu) {o : Nat} (ho : Designated F rep o)
    (hb : wb.buf (wb.fileOf o) = none) {v v' : JVal} (hv : Sim v v') (wv : WF v) (wv' : WF v') (b b' : Bool) :
    BCore F rep (saveU (setData wb o v b) o) (saveU (setData wu o v' b') o) := by
  refine h.update ho (.write wb o v b) (.write wu o v' b') h.du wv (fun _ hx => by cases hx; exact wv)
    (h.entry ho) wv' (fun _ hx => by cases hx; exact wv') ?_
  rw [hb]; exact .write hv

theorem bcore_writeB {wb wu : World} (h : BCore F rep wb wu) {o : Nat} (ho : Designated F rep o)
    {v v' : JVal} (hv : Sim v v') (wv : WF v) (wv' : WF v') (b b' : Bool)
    (hh : (saveB (setData wb o v b) o).hit = false) :
    BCore F rep (saveB (setData wb o v b) o) (saveU (setData wu o v' b') o) := by
  refine bcore_maybeFlush ?_ hh
  have W := bcore_touch h ho
  have hm := touch_mem wb o
  rw [bufStore_eq, touch_eq]
  rw [touch_eq] at W hm
  have hbase : ∀ x, baseFor wb (wb.fileOf o) = some x → Sim x (content (wb.files (wb.fileOf o))) := by
    intro x hx
    unfold baseFor at hx
    cases hb : wb.buf (wb.fileOf o) with
    | none => rw [hb] at hx; dsimp only at hx; rw [hx]; exact Sim.refl _
    | some e => rw [hb] at hx; exact ((h.rel ho).ent e hb).2.2.1 x hx
  refine W.update ho (dx := v) (fx := wb.files (wb.fileOf o))
    ⟨rfl, rfl, (upd_self _ _).symm, congrArg (fun x => upd wb.buf (wb.fileOf o) (some ⟨x, _⟩)) (upd_same _ _ _), rfl⟩
    (.write wu o v' b') h.du wv (h.wfb.files _) (fun e he => ?_) wv' (fun _ hx => by cases hx; exact wv')
    (.store hv hbase)
  cases he; exact ⟨wv, hm⟩

/-- what an operation does once the handle has loaded -/
def finish (w : World) (o : Nat) (op : DictOp) : World :=
  let r := memOp op (w.data o)
  let w2 := setData w o r.val (opHit op (w.data o))
  if r.saved then save w2 o else w2

theorem execOp_eq (w : World) (o : Nat) (op : DictOp) :
    execOp w o op = (finish (if op.loads then load w o else w) o op,
      (memOp op ((if op.loads then load w o else w).data o)).out) := by
  cases op <;> rfl

theorem step_finish_tail (w : World) (o : Nat) (op : DictOp) :
    Step (setData w o (memOp op (w.data o)).val (opHit op (w.data o))) (finish w o op) := by
  unfold finish; dsimp only; split
  · exact step_save _ o
  · exact .refl _

theorem step_finish (w : World) (o : Nat) (op : DictOp) : Step w (finish w o op) :=
  (step_setData w o _ _).trans (step_finish_tail w o op)

theorem bcore_finish {Lb Lu : World} (h : BCore F rep Lb Lu) {o : Nat} (ho : Designated F rep o) (op : DictOp)
    (hop : WFOp op) (hd0 : Lb.depth = 0 → Lb.buf (Lb.fileOf o) = none)
    (h1 : (finish Lb o op).hit = false) (h2 : (finish Lu o op).hit = false) :
    BCore F rep (finish Lb o op) (finish Lu o op) ∧
    OutSim (memOp op (Lb.data o)).out (memOp op (Lu.data o)).out := by
  have hob : opHit op (Lb.data o) = false := (Bool.or_eq_false_iff.mp ((step_finish_tail Lb o op).hit_false h1)).2
  have hou : opHit op (Lu.data o) = false := (Bool.or_eq_false_iff.mp ((step_finish_tail Lu o op).hit_false h2)).2
  have hr := memOp_congr op (h.rel ho).dsim (h.wfb.data o) (h.wfu.data o) hop hob hou
  have wv := wf_memOp op (h.wfb.data o) hop
  have wv' := wf_memOp op (h.wfu.data o) hop
  refine ⟨?_, hr.out⟩
  unfold finish at h1 ⊢
  dsimp only at h1 ⊢
  cases hs : (memOp op (Lb.data o)).saved with
  | true =>
    rw [← hr.saved, hs, if_pos rfl]
    rw [hs, if_pos rfl] at h1
    rw [show save (setData Lu o _ _) o = saveU (setData Lu o _ _) o from if_pos h.du]
    by_cases hd : Lb.depth = 0
    · rw [show save (setData Lb o _ _) o = saveU (setData Lb o _ _) o from if_pos hd]
      exact bcore_write0 h ho (hd0 hd) hr.val wv wv' _ _
    · rw [show save (setData Lb o _ _) o = saveB (setData Lb o _ _) o from if_neg hd] at h1 ⊢
      exact bcore_writeB h ho hr.val wv wv' _ _ h1
  | false =>
    rw [← hr.saved, hs, if_neg Bool.false_ne_true]
    rw [memOp_unsaved hop _ hs, memOp_unsaved hop _ (hr.saved ▸ hs)]
    exact bcore_dataU (bcore_dataB h ho (Sim.refl _) (h.wfb.data o) _) ho (Sim.refl _) (h.wfu.data o) _

theorem binv_op {wb wu : World} (h : BInv F rep wb wu) {o : Nat} (ho : Designated F rep o) (op : DictOp)
    (hop : WFOp op) (h1 : (execOp wb o op).1.hit = false) (h2 : (execOp wu o op).1.hit = false) :
    BInv F rep (execOp wb o op).1 (execOp wu o op).1 ∧ OutSim (execOp wb o op).2 (execOp wu o op).2 := by
  -- at depth 0 an operation does not touch the buffer
  have hd0 : (execOp wb o op).1.depth = 0 → ∀ f, (execOp wb o op).1.buf f = none := fun hd f => by
    have hd' : wb.depth = 0 := (step_execOp wb o op).depth.symm.trans hd
    rw [execOp_depth0 hd']; exact h.d0 hd' f
  suffices hc : BCore F rep (execOp wb o op).1 (execOp wu o op).1 ∧
      OutSim (execOp wb o op).2 (execOp wu o op).2 from ⟨⟨hc.1, hd0⟩, hc.2⟩
  rw [execOp_eq wb] at h1; rw [execOp_eq wu] at h2; rw [execOp_eq wb, execOp_eq wu]
  cases hl : op.loads with
  | false =>
    simp only [hl, Bool.false_eq_true, if_false] at h1 h2 ⊢
    exact bcore_finish h.toBCore ho op hop (fun hd => h.d0 hd _) h1 h2
  | true =>
    simp only [hl, if_true] at h1 h2 ⊢
    have hLb := (step_finish _ o op).hit_false h1
    have hLu := (step_finish _ o op).hit_false h2
    rw [show load wu o = loadU wu o from if_pos h.du] at hLu h2 ⊢
    by_cases hd : wb.depth = 0
    · rw [show load wb o = loadU wb o from if_pos hd] at hLb h1 ⊢
      exact bcore_finish (bcore_load0 h.toBCore ho (h.d0 hd _) hLb hLu) ho op hop (fun _ => h.d0 hd _) h1 h2
    · rw [show load wb o = loadB wb o from if_neg hd] at hLb h1 ⊢
      exact bcore_finish (bcore_loadB h.toBCore ho hLb hLu) ho op hop
        (fun hd' => absurd ((step_loadB wb o).depth.symm.trans hd') hd) h1 h2

theorem binv_flushAll {wb wu : World} (h : BCore F rep wb wu) (hh : (flushAll wb).hit = false) :
    BInv F rep (flushAll wb) wu :=
  ⟨bcore_flushAll h hh, fun _ => flushAll_buf_none h⟩

theorem binv_setCap {wb wu : World} (h : BInv F rep wb wu) (c : Nat) (hh : (setCap wb c).hit = false) :
    BInv F rep (setCap wb c) wu := by
  unfold setCap at hh ⊢
  dsimp only at hh ⊢
  split
  · next hc => rw [if_pos hc] at hh; exact binv_flushAll (h.toBCore.congrB rfl rfl rfl rfl rfl) hh
  · exact ⟨h.toBCore.congrB rfl rfl rfl rfl rfl, h.d0⟩

theorem binv_enter {wb wu : World} (h : BInv F rep wb wu) (cap : Option Nat)
    (hh : (execCmd wb (.enter cap)).1.hit = false) : BInv F rep (execCmd wb (.enter cap)).1 wu := by
  cases cap with
  | none => exact ⟨h.toBCore.congrB rfl rfl rfl rfl rfl, fun hd => absurd hd (Nat.succ_ne_zero _)⟩
  | some c =>
    exact binv_setCap (wb := { wb with depth := wb.depth + 1, capStack := some wb.cap :: wb.capStack })
      ⟨h.toBCore.congrB rfl rfl rfl rfl rfl, fun hd => absurd hd (Nat.succ_ne_zero _)⟩ c hh

theorem binv_exitFlush {wb wu : World} (h : BInv F rep wb wu) (hh : (exitFlush wb).hit = false) :
    BInv F rep (exitFlush wb) wu := by
  unfold exitFlush at hh ⊢
  dsimp only at hh ⊢
  split
  · next hd => rw [if_pos hd] at hh; exact binv_flushAll (h.toBCore.congrB rfl rfl rfl rfl rfl) hh
  · next hd => exact ⟨h.toBCore.congrB rfl rfl rfl rfl rfl, fun hd' => absurd hd' hd⟩

theorem binv_popCap {wb wu : World} (h : BInv F rep wb wu) (hh : (popCap wb).hit = false) :
    BInv F rep (popCap wb) wu := by
  unfold popCap at hh ⊢
  split
  · exact h
  · exact ⟨h.toBCore.congrB rfl rfl rfl rfl rfl, h.d0⟩
  · next c st heq =>
    rw [heq] at hh
    exact binv_setCap (wb := { wb with capStack := st }) ⟨h.toBCore.congrB rfl rfl rfl rfl rfl, h.d0⟩ c hh

theorem binv_exit {wb wu : World} (h : BInv F rep wb wu)
    (hh : (execCmd wb .exit).1.hit = false) : BInv F rep (execCmd wb .exit).1 wu := by
  simp only [execCmd] at hh ⊢
  by_cases hd : wb.depth = 0
  · rw [if_pos hd]; exact h
  · rw [if_neg hd] at hh ⊢
    exact binv_popCap (binv_exitFlush h ((grows_popCap _).hit_false hh)) hh

variable (F rep) in
/-- commands of a block program: no `remove()`, every operation through the designated handle -/
def CmdOK : Cmd → Prop
  | .op o d => rep (F o) = o ∧ WFOp d
  | .rm _ => False
  | .reopen _ => False
  | _ => True

/-- outputs of the program as written against the outputs of its unbuffered counterpart:
    block commands have no counterpart; results of operations are related by `OutSim`; observations
    (`file`, `hit`) are aligned but not compared — inside a block the file legitimately lags -/
inductive OutsRel : List Cmd → List Out → List Out → Prop
  | nil : OutsRel [] [] []
  | block {c : Cmd} {cs : List Cmd} {x : Out} {ob ou : List Out} :
      c.isBlock = true → OutsRel cs ob ou → OutsRel (c :: cs) (x :: ob) ou
  | op {o : Nat} {d : DictOp} {cs : List Cmd} {x y : Out} {ob ou : List Out} :
      OutSim x y → OutsRel cs ob ou → OutsRel (.op o d :: cs) (x :: ob) (y :: ou)
  | obs {c : Cmd} {cs : List Cmd} {x y : Out} {ob ou : List Out} :
      c.isBlock = false → (∀ o d, c ≠ .op o d) → OutsRel cs ob ou → OutsRel (c :: cs) (x :: ob) (y :: ou)

theorem binv_run (cs : List Cmd) : ∀ {wb wu : World}, BInv F rep wb wu → (∀ c ∈ cs, CmdOK F rep c) →
    (run cs wb).1.hit = false → (run (stripBlocks cs) wu).1.hit = false →
    BInv F rep (run cs wb).1 (run (stripBlocks cs) wu).1 ∧
    OutsRel cs (run cs wb).2 (run (stripBlocks cs) wu).2 := by
  induction cs with
  | nil => intro wb wu h _ _ _; exact ⟨h, .nil⟩
  | cons c cs ih =>
    intro wb wu h hc h1 h2
    have hc0 := hc c List.mem_cons_self
    have hcs : ∀ c' ∈ cs, CmdOK F rep c' := fun c' h' => hc c' (List.mem_cons_of_mem _ h')
    rw [run_cons] at h1 ⊢
    have hb1 := hit_false_of_run h1
    cases c with
    | enter cap =>
      have := ih (binv_enter h cap hb1) hcs h1 h2
      exact ⟨this.1, .block rfl this.2⟩
    | exit =>
      have := ih (binv_exit h hb1) hcs h1 h2
      exact ⟨this.1, .block rfl this.2⟩
    | op o d =>
      rw [show stripBlocks (.op o d :: cs) = .op o d :: stripBlocks cs from rfl, run_cons] at h2 ⊢
      obtain ⟨hB, ho⟩ := binv_op h hc0.1 d hc0.2 hb1 (hit_false_of_run h2)
      have := ih hB hcs h1 h2
      exact ⟨this.1, .op ho this.2⟩
    | file f =>
      rw [show stripBlocks (.file f :: cs) = .file f :: stripBlocks cs from rfl, run_cons] at h2 ⊢
      have := ih (wb := wb) (wu := wu) h hcs h1 h2
      exact ⟨this.1, .obs rfl (fun _ _ e => by cases e) this.2⟩
    | hit =>
      rw [show stripBlocks (.hit :: cs) = .hit :: stripBlocks cs from rfl, run_cons] at h2 ⊢
      have := ih (wb := wb) (wu := wu) h hcs h1 h2
      exact ⟨this.1, .obs rfl (fun _ _ e => by cases e) this.2⟩
    | rm f => exact hc0.elim
    | reopen f => exact hc0.elim

theorem binv_init {w : World} (rep : Nat → Nat) (hd : w.depth = 0) (hb : ∀ f, w.buf f = none)
    (ho : w.order = []) (hw : WFWorld w) (hc : Coherent w) : BInv w.fileOf rep w w := by
  refine ⟨⟨rfl, rfl, hd, hw, hw, fun o h => ?_, fun f e he => ?_, fun _ _ => rfl, fun f hf => ?_⟩, fun _ => hb⟩
  · rw [ho] at h; cases h
  · rw [hb f] at he; cases he
  · have hcoh : w.files f = none → Sim (w.data (rep f)) (.obj []) := fun hn => hc (rep f) (hf.symm ▸ hn)
    rw [hb f]
    exact ⟨hcoh, Sim.refl _, id, fun _ => ⟨Sim.refl _, hcoh⟩, nofun⟩

/-- at depth 0 the two worlds hold the same documents, and the buffered run never has a file the
    unbuffered run lacks -/
theorem binv_final {wb wu : World} (h : BInv F rep wb wu) (hd : wb.depth = 0) (f : Nat) :
    CSim (wb.files f) (wu.files f) ∧ (wu.files f = none → wb.files f = none) := by
  by_cases hf : Active F rep f
  · exact ⟨((h.act f hf).noent (h.d0 hd f)).1, (h.act f hf).absent⟩
  · rw [h.frozen f hf]; exact ⟨Sim.refl _, id⟩

theorem binv_final_absent {wb wu : World} (h : BInv F rep wb wu) (hd : wb.depth = 0) {f : Nat}
    (hn : wb.files f = none) : wu.files f = none ∨ wu.files f = some (.obj []) := by
  have hcs := (binv_final h hd f).1
  cases hu : wu.files f with
  | none => exact .inl rfl
  | some v => rw [hn, hu] at hcs; exact .inr (congrArg some (sim_to_empty hcs.symm))

theorem cmdOK_not_rm {c : Cmd} (h : CmdOK F rep c) (g : Nat) : c ≠ .rm g := fun e => by
  rw [e] at h; exact h

end
end Signac.Doc
