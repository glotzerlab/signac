/-
  Order independence of the schema gate: Mapping equality of schemas is transitive, the reported keys
  do not depend on the job order, and without the bool/int clash of F-6a (`NoBoolIntClash`) neither do
  the reported value sets up to `==`, hence neither does the gate.  All for `exclude_const=False`, the
  default the gate calls `detect_schema()` with; a constant key is one whose values fall into the slot
  of the FIRST job, so with `exclude_const` not even the key set is claimed order independent.  Core only.
-/
import Signac.Proofs.SchemaGate
namespace Signac.Schema
open Signac

theorem valSetEq_trans {a b c : List JVal} (h1 : valSetEq a b = true) (h2 : valSetEq b c = true) :
    valSetEq a c = true := by
  obtain ⟨l1, c1⟩ := valSetEq_iff.mp h1
  obtain ⟨l2, c2⟩ := valSetEq_iff.mp h2
  refine valSetEq_iff.mpr ⟨l1.trans l2, fun x hx => ?_⟩
  obtain ⟨r, hr, e1⟩ := c1 x hx
  obtain ⟨s, hs, e2⟩ := c2 r hr
  exact ⟨s, hs, pyEq_trans e2 e1⟩

theorem typedEq_trans {a b c : List (String × List JVal)} (h1 : typedEq a b = true)
    (h2 : typedEq b c = true) : typedEq a c = true :=
  dictEq_trans (fun _ _ _ _ => valSetEq_trans) h1 h2

/-- Mapping equality of schemas is transitive; no well-formedness is needed, because Python `==` is
    transitive on all JSON-born values (`pyEq_trans`: numbers are compared exactly, also int/float). -/
theorem schemaEq_trans_nohyp {a b c : Schema} (h1 : schemaEq a b = true) (h2 : schemaEq b c = true) :
    schemaEq a c = true :=
  dictEq_trans (fun _ _ _ _ => typedEq_trans) h1 h2

theorem schemaEq_trans {a b c : Schema} (_ha : SchemaWF a) (_hb : SchemaWF b) (_hc : SchemaWF c)
    (h1 : schemaEq a b = true) (h2 : schemaEq b c = true) : schemaEq a c = true :=
  schemaEq_trans_nohyp h1 h2

theorem detectSchema_keys_of_mem {jobs jobs' : List Job} (hm : ∀ j, j ∈ jobs ↔ j ∈ jobs') (k : String) :
    k ∈ (detectSchema false jobs).map Prod.fst ↔ k ∈ (detectSchema false jobs').map Prod.fst := by
  rw [mem_schema_keys, mem_schema_keys]
  exact and_congr (exists_congr fun j => and_congr_left fun _ => hm j)
    ⟨fun _ h => (nomatch h.1), fun _ h => (nomatch h.1)⟩

theorem detectSchema_perm_keys {jobs jobs' : List Job} (hp : jobs.Perm jobs') (k : String) :
    k ∈ (detectSchema false jobs).map Prod.fst ↔ k ∈ (detectSchema false jobs').map Prod.fst :=
  detectSchema_keys_of_mem (fun _ => hp.mem_iff) k

theorem mem_collectByType_types {vals : List JVal} {t : String} :
    t ∈ (collectByType vals).map Prod.fst ↔ ∃ v ∈ vals, pyTypeName v = t := by
  have := List.foldl_hom (List.map Prod.fst) (g₁ := fun a v => addTyped v a)
    (g₂ := fun ks v => addNew (pyTypeName v) ks) (l := vals) (init := [])
    fun a v => (addTyped_types v a).symm
  rw [collectByType, ← this, ← List.foldl_map (f := pyTypeName) (g := fun a t => addNew t a),
    mem_foldl_addNew]
  exact ⟨fun h => h.elim (fun h => nomatch h) List.mem_map.mp, fun h => .inr (List.mem_map.mpr h)⟩

/-- every value of `S` has an `==`-equal value of its own type in `S'` -/
def CoveredBy (S S' : List JVal) : Prop :=
  ∀ x ∈ S, ∃ r ∈ S', pyTypeName r = pyTypeName x ∧ pyEq r x = true

theorem CoveredBy.types {S S' : List JVal} (h : CoveredBy S S') :
    ∀ t ∈ (collectByType S).map Prod.fst, t ∈ (collectByType S').map Prod.fst := by
  intro t ht
  obtain ⟨v, hv, e⟩ := mem_collectByType_types.mp ht
  obtain ⟨r, hr, hrt, _⟩ := h v hv
  exact mem_collectByType_types.mpr ⟨r, hr, hrt.trans e⟩

theorem CoveredBy.filter {S S' : List JVal} (h : CoveredBy S S') (t : String) :
    ∀ x ∈ S.filter (fun v => pyTypeName v == t),
      ∃ r ∈ S'.filter (fun v => pyTypeName v == t), pyEq r x = true := by
  intro x hx
  obtain ⟨hx, ht⟩ := List.mem_filter.mp hx
  obtain ⟨r, hr, hrt, he⟩ := h x hx
  exact ⟨r, List.mem_filter.mpr ⟨hr, hrt ▸ ht⟩, he⟩

theorem typedEq_collectByType {S S' : List JVal} (hS : S.Pairwise SlotApart)
    (hS' : S'.Pairwise SlotApart) (hn : ∀ v ∈ S, NodupKeysVal v) (hn' : ∀ v ∈ S', NodupKeysVal v)
    (hab : CoveredBy S S') (hba : CoveredBy S' S) :
    typedEq (collectByType S) (collectByType S') = true := by
  have w := collectByType_wf hn
  have w' := collectByType_wf hn'
  refine dictEq_of_keys w.types_nodup w'.types_nodup (fun t => ⟨hab.types t, hba.types t⟩)
    fun tv htv ws hws => ?_
  have hwm : (tv.1, ws) ∈ collectByType S' := alookup_mem hws
  -- both sets are the values of type `tv.1`
  have e : S.filter (fun v => pyTypeName v == tv.1) = tv.2 := by
    rw [← collectByType_eq hS, typedLookup, alookup_of_mem w.types_nodup htv]; rfl
  have e' : S'.filter (fun v => pyTypeName v == tv.1) = ws := by
    rw [← collectByType_eq hS', typedLookup, hws]; rfl
  have c1 := e ▸ e' ▸ hab.filter tv.1
  have c2 := e ▸ e' ▸ hba.filter tv.1
  exact valSetEq_iff.mpr ⟨Nat.le_antisymm
    (valSet_cover (w.apart tv htv) (w.ok tv htv) (w'.ok _ hwm) c1).1
    (valSet_cover (w'.apart _ hwm) (w'.ok _ hwm) (w.ok tv htv) c2).1, c1⟩

theorem NoBoolIntClash.mono {jobs jobs' : List Job} (hsub : ∀ j ∈ jobs', j ∈ jobs)
    (h : NoBoolIntClash jobs) : NoBoolIntClash jobs' :=
  fun k j1 h1 j2 h2 => h k j1 (hsub j1 h1) j2 (hsub j2 h2)

theorem slotValues_cover {jobs jobs' : List Job} (hsub : ∀ j ∈ jobs, j ∈ jobs')
    (hc : NoBoolIntClash jobs') (hj : ∀ j ∈ jobs, NodupKeysObj j.sp) (k : String) :
    CoveredBy (slotValues (buildIndex k jobs)) (slotValues (buildIndex k jobs')) := by
  intro x hx
  obtain ⟨hno, j, hjm, hv⟩ := slotValues_sound hx
  obtain ⟨r, hr, hs, ht⟩ := slotValues_complete_typed hc (hsub j hjm) hv hno
  refine ⟨r, hr, ht, ?_⟩
  rcases hs with rfl | hs
  · exact pyEq_refl _ (getPath_nodupKeys _ (.obj j.sp) _ (hj j hjm) hv)
  · exact ((Bool.and_eq_true _ _).mp hs).2

/-- On the proven domain (no bool next to an `==`-equal int under one key; state points are Python
    dicts) two selections of the same jobs, in whatever order and multiplicity, have the same detected
    schema up to Mapping equality. -/
theorem detectSchema_schemaEq_of_mem {jobs jobs' : List Job} (hclash : NoBoolIntClash jobs)
    (hj : ∀ j ∈ jobs, NodupKeysObj j.sp) (hm : ∀ j, j ∈ jobs ↔ j ∈ jobs') :
    schemaEq (detectSchema false jobs) (detectSchema false jobs') = true := by
  have hj' : ∀ j ∈ jobs', NodupKeysObj j.sp := fun j h => hj j ((hm j).mpr h)
  refine dictEq_of_keys (detectSchema_nodup_keys false jobs) (detectSchema_nodup_keys false jobs')
    (detectSchema_keys_of_mem hm) fun ⟨k, tv⟩ hkv w hw => ?_
  obtain rfl : tv = collectByType (slotValues (buildIndex k jobs)) := mem_detectSchema hkv
  obtain rfl : w = collectByType (slotValues (buildIndex k jobs')) := mem_detectSchema (alookup_mem hw)
  exact typedEq_collectByType (slotValues_apart _ _) (slotValues_apart _ _) (slotValues_nodupKeys hj _)
    (slotValues_nodupKeys hj' _)
    (slotValues_cover (fun j => (hm j).mp) (hclash.mono fun j => (hm j).mpr) hj _)
    (slotValues_cover (fun j => (hm j).mpr) hclash hj' _)

theorem detectSchema_perm_schemaEq_partial {jobs jobs' : List Job} (hclash : NoBoolIntClash jobs)
    (hj : ∀ j ∈ jobs, NodupKeysObj j.sp) (hp : jobs.Perm jobs') :
    schemaEq (detectSchema false jobs) (detectSchema false jobs') = true :=
  detectSchema_schemaEq_of_mem hclash hj fun _ => hp.mem_iff

theorem isEmpty_eq_of_schemaEq {a b : Schema} (h : schemaEq a b = true) : a.isEmpty = b.isEmpty := by
  have hl := (dictEq_iff.mp h).1
  cases a <;> cases b <;> first | rfl | cases hl

/-- the gate sees the source jobs through their detected schema, up to Mapping equality … -/
theorem syncGate_congr_src {src src' : List Job} (dst : List Job)
    (h : schemaEq (detectSchema false src) (detectSchema false src') = true)
    (h' : schemaEq (detectSchema false src') (detectSchema false src) = true) :
    syncGate src dst = syncGate src' dst := by
  rw [syncGate_simple, syncGate_simple, isEmpty_eq_of_schemaEq h,
    Bool.eq_iff_iff.mpr ⟨schemaEq_trans_nohyp (c := detectSchema false dst) h', schemaEq_trans_nohyp h⟩]

/-- … and the destination jobs likewise -/
theorem syncGate_congr_dst (src : List Job) {dst dst' : List Job}
    (h : schemaEq (detectSchema false dst) (detectSchema false dst') = true)
    (h' : schemaEq (detectSchema false dst') (detectSchema false dst) = true) :
    syncGate src dst = syncGate src dst' := by
  rw [syncGate_simple, syncGate_simple, isEmpty_eq_of_schemaEq h,
    Bool.eq_iff_iff.mpr ⟨fun e => schemaEq_trans_nohyp (a := detectSchema false src) e h,
      fun e => schemaEq_trans_nohyp e h'⟩]

/-- both ways, since a re-ordering can be undone -/
theorem detectSchema_perm_schemaEq_both {jobs jobs' : List Job} (hclash : NoBoolIntClash jobs)
    (hj : ∀ j ∈ jobs, NodupKeysObj j.sp) (hp : jobs.Perm jobs') :
    schemaEq (detectSchema false jobs) (detectSchema false jobs') = true ∧
      schemaEq (detectSchema false jobs') (detectSchema false jobs) = true :=
  ⟨detectSchema_schemaEq_of_mem hclash hj fun _ => hp.mem_iff,
    detectSchema_schemaEq_of_mem (hclash.mono fun _ => hp.mem_iff.mpr)
      (fun j h => hj j (hp.mem_iff.mpr h)) fun _ => hp.mem_iff.symm⟩

/-- The gate does not depend on the order of the SOURCE jobs when these are free of the bool/int clash
    (nothing is asked of the destination). -/
theorem syncGate_perm_partial {src src' : List Job} (dst : List Job) (hclash : NoBoolIntClash src)
    (hj : ∀ j ∈ src, NodupKeysObj j.sp) (hp : src.Perm src') :
    syncGate src dst = syncGate src' dst :=
  have ⟨e, e'⟩ := detectSchema_perm_schemaEq_both hclash hj hp
  syncGate_congr_src dst e e'

/-- … nor on the order of the DESTINATION jobs when these are free of the clash. -/
theorem syncGate_perm_partial_dst (src : List Job) {dst dst' : List Job} (hclash : NoBoolIntClash dst)
    (hj : ∀ j ∈ dst, NodupKeysObj j.sp) (hp : dst.Perm dst') :
    syncGate src dst = syncGate src dst' :=
  have ⟨e, e'⟩ := detectSchema_perm_schemaEq_both hclash hj hp
  syncGate_congr_dst src e e'

/-- a clash-free corpus of Python-dict state points with an int next to the equal float, a nested
    mapping and a list (hypotheses of `detectSchema_perm_schemaEq_partial`, `syncGate_perm_partial`);
    listed in another order it gives an `==`-equal schema (though with the keys in another order) and the
    same gate decision -/
example :
    let jobs : List Job := [⟨"j1", [("a", .int 1), ("b", .arr [.int 1])]⟩,
                            ⟨"j2", [("a", .flt 1 0 "1.0")]⟩,
                            ⟨"j3", [("a", .obj [("x", .null)])]⟩]
    let jobs' : List Job := [⟨"j3", [("a", .obj [("x", .null)])]⟩,
                             ⟨"j2", [("a", .flt 1 0 "1.0")]⟩,
                             ⟨"j1", [("a", .int 1), ("b", .arr [.int 1])]⟩]
    NoBoolIntClash jobs ∧ (∀ j ∈ jobs, NodupKeysObj j.sp)
      ∧ schemaEq (detectSchema false jobs) (detectSchema false jobs') = true
      ∧ (detectSchema false jobs).map Prod.fst ≠ (detectSchema false jobs').map Prod.fst
      ∧ syncGate jobs [⟨"j4", [("a", .int 1)]⟩] = syncGate jobs' [⟨"j4", [("a", .int 1)]⟩] := by
  exact ⟨noBoolIntClash_of_noBool (by decide +kernel), by decide +kernel⟩

end Signac.Schema
