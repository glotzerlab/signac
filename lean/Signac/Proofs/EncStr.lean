/-
  String literals: the shapes `escapeChar` produces, and the reader (`readChar1`, `readStrBody`)
  takes each of them back.  Core only.
-/
import Signac.JsonParse
namespace Signac

theorem hexNib_hexDigit {k : Nat} (h : k < 16) : hexNib (hexDigit k) = some k := by
  have key : ∀ x : Fin 16, hexNib (hexDigit x.val) = some x.val := by decide +kernel
  exact key ⟨k, h⟩

theorem hexDigit_inj {a b : Nat} (ha : a < 16) (hb : b < 16) (h : hexDigit a = hexDigit b) :
    a = b := by
  have := hexNib_hexDigit ha
  rw [h, hexNib_hexDigit hb] at this
  exact (Option.some.inj this).symm

/-- The four hex digits of `n < 16^4` give `n` back.  Horner form and three times
    `Nat.div_add_mod`; `omega` on the nested `/` and `%` is slow. -/
theorem hex4_value {n : Nat} (hn : n < 65536) :
    4096 * (n / 4096 % 16) + 256 * (n / 256 % 16) + 16 * (n / 16 % 16) + n % 16 = n := by
  have h3 : n / 4096 % 16 = n / 256 / 16 := by
    rw [Nat.div_div_eq_div_mul, Nat.mod_eq_of_lt (Nat.div_lt_of_lt_mul hn)]
  have h2 : n / 256 = n / 16 / 16 := (Nat.div_div_eq_div_mul n 16 16).symm
  have e : ∀ a b c d : Nat, 4096 * a + 256 * b + 16 * c + d = 16 * (16 * (16 * a + b) + c) + d := by
    intros; omega
  rw [e, h3, Nat.div_add_mod, h2, Nat.div_add_mod, Nat.div_add_mod]

theorem readU4_hex4 {n : Nat} (hn : n < 65536) (R : List Char) :
    readU4 (hex4 n ++ R) = some (n, R) := by
  simp only [hex4, List.cons_append, List.nil_append, readU4,
    hexNib_hexDigit (Nat.mod_lt _ (by decide : 0 < 16)), hex4_value hn]

theorem readUEsc_bmp {n : Nat} (hn : n < 65536) (hs : n < 55296 ∨ 57343 < n) (R : List Char) :
    readUEsc (hex4 n ++ R) = some (Char.ofNat n, R) := by
  simp only [readUEsc, readU4_hex4 hn]
  rw [if_neg (by omega), if_neg (by omega)]

/-- a surrogate pair: high half `0xD800 + a`, low half `0xDC00 + b` -/
theorem readUEsc_astral {a b : Nat} (ha : a < 1024) (hb : b < 1024) (R : List Char) :
    readUEsc (hex4 (55296 + a) ++ (uEsc (56320 + b) ++ R))
      = some (Char.ofNat (65536 + a * 1024 + b), R) := by
  simp only [readUEsc, readU4_hex4 (by omega : 55296 + a < 65536), uEsc, List.cons_append]
  rw [if_pos (by omega)]
  simp only [and_self, if_true, readU4_hex4 (by omega : 56320 + b < 65536)]
  rw [if_pos (by omega), Nat.add_sub_cancel_left, Nat.add_sub_cancel_left]

/-- The four shapes `escapeChar c` can have, each with what the reader needs to take it back. -/
inductive EscShape (c : Char) : List Char → Prop
  | short (x : Char) : unescShort x = some c → EscShape c ['\\', x]
  | plain : 32 ≤ c.toNat → c ≠ '\\' → c ≠ '"' → EscShape c [c]
  | bmp : c.toNat < 65536 → EscShape c (uEsc c.toNat)
  | astral (a b : Nat) : a < 1024 → b < 1024 → c.toNat = 65536 + a * 1024 + b →
      EscShape c (uEsc (55296 + a) ++ uEsc (56320 + b))

theorem char_eq_of_toNat {c : Char} {n : Nat} (h : c.toNat = n) : c = Char.ofNat n := by
  rw [← h, Char.ofNat_toNat]

/-- A `Char` is a Unicode scalar value: below 0x110000 and not a surrogate. -/
theorem char_scalar (c : Char) : c.toNat < 55296 ∨ 57343 < c.toNat ∧ c.toNat < 1114112 := c.valid

theorem escapeChar_shape (c : Char) : EscShape c (escapeChar c) := by
  by_cases h1 : c = '"'
  · subst h1; exact .short '"' rfl
  by_cases h2 : c = '\\'
  · subst h2; exact .short '\\' rfl
  by_cases h3 : c = '\n'
  · subst h3; exact .short 'n' rfl
  by_cases h4 : c = '\r'
  · subst h4; exact .short 'r' rfl
  by_cases h5 : c = '\t'
  · subst h5; exact .short 't' rfl
  by_cases h6 : c.toNat = 8
  · rw [char_eq_of_toNat h6]; exact .short 'b' rfl
  by_cases h7 : c.toNat = 12
  · rw [char_eq_of_toNat h7]; exact .short 'f' rfl
  simp only [escapeChar, if_neg h1, if_neg h2, if_neg h3, if_neg h4, if_neg h5, if_neg h6,
    if_neg h7]
  by_cases h8 : 32 ≤ c.toNat ∧ c.toNat ≤ 126
  · rw [if_pos h8]; exact .plain h8.1 h2 h1
  rw [if_neg h8]
  by_cases h9 : c.toNat < 65536
  · rw [if_pos h9]; exact .bmp h9
  rw [if_neg h9]
  have hm : c.toNat - 65536 < 1024 * 1024 := by have := char_scalar c; omega
  refine .astral _ _ (Nat.mod_lt _ (by decide)) (Nat.mod_lt _ (by decide)) ?_
  rw [Nat.mod_eq_of_lt (Nat.div_lt_of_lt_mul hm), Nat.add_assoc, Nat.div_add_mod']
  omega

theorem readChar1_short {x d : Char} (h : unescShort x = some d) (R : List Char) :
    readChar1 ('\\' :: x :: R) = some (d, R) := by
  have hu : x ≠ 'u' := fun e => by subst e; cases h
  simp only [readChar1, if_true, if_neg hu, h]

theorem readChar1_plain {c : Char} (h32 : 32 ≤ c.toNat) (hb : c ≠ '\\') (R : List Char) :
    readChar1 (c :: R) = some (c, R) := by
  simp only [readChar1, if_neg hb, if_neg (Nat.not_lt.mpr h32)]

theorem readChar1_u (s : List Char) : readChar1 ('\\' :: 'u' :: s) = readUEsc s := rfl

theorem readChar1_shape {c : Char} {e : List Char} (h : EscShape c e) (R : List Char) :
    readChar1 (e ++ R) = some (c, R) := by
  cases h with
  | short x hx => exact readChar1_short hx R
  | plain h32 hb _ => exact readChar1_plain h32 hb R
  | bmp h =>
    have := char_scalar c
    rw [uEsc, List.cons_append, List.cons_append, readChar1_u,
      readUEsc_bmp h (by omega), Char.ofNat_toNat]
  | astral a b ha hb h =>
    rw [List.append_assoc, uEsc, List.cons_append, List.cons_append, readChar1_u,
      readUEsc_astral ha hb, ← h, Char.ofNat_toNat]

theorem readChar1_escapeChar (c : Char) (R : List Char) :
    readChar1 (escapeChar c ++ R) = some (c, R) :=
  readChar1_shape (escapeChar_shape c) R

theorem EscShape.cons {c : Char} {e : List Char} (h : EscShape c e) :
    ∃ d ds, e = d :: ds ∧ d ≠ '"' := by
  cases h with
  | short x _ => exact ⟨_, _, rfl, by decide⟩
  | plain _ _ hq => exact ⟨_, _, rfl, hq⟩
  | bmp _ => exact ⟨_, _, rfl, by decide⟩
  | astral _ _ _ _ _ => exact ⟨_, _, rfl, by decide⟩

theorem readStrBody_step {f : Nat} {e d : Char} {s r ds R : List Char} (hq : e ≠ '"')
    (h1 : readChar1 (e :: s) = some (d, r)) (h2 : readStrBody f r = some (ds, R)) :
    readStrBody (f + 1) (e :: s) = some (d :: ds, R) := by
  simp only [readStrBody, if_neg hq, h1, h2]

theorem fuel_split {k n fuel : Nat} (h : k + n ≤ fuel) : ∃ f, fuel = f + k ∧ n ≤ f :=
  ⟨fuel - k, by omega, by omega⟩

theorem readStrBody_escapeChars : ∀ (s : List Char) (fuel : Nat) (R : List Char),
    1 + (escapeChars s).length ≤ fuel →
    readStrBody fuel (escapeChars s ++ '"' :: R) = some (s, R)
  | [], fuel, R, hf => by
    obtain ⟨f, rfl, _⟩ := fuel_split hf
    rfl
  | c :: cs, fuel, R, hf => by
    obtain ⟨f, rfl, hf'⟩ := fuel_split hf
    obtain ⟨d, ds, hd, hq⟩ := (escapeChar_shape c).cons
    have h1 := readChar1_escapeChar c (escapeChars cs ++ '"' :: R)
    rw [escapeChars, List.length_append, hd, List.length_cons] at hf'
    rw [escapeChars, List.append_assoc]
    rw [hd] at h1 ⊢
    exact readStrBody_step hq h1 (readStrBody_escapeChars cs f R (by omega))

/-- reading a string literal (after its opening quote) with the fuel `readVal` uses -/
theorem readStrBody_enc (s : String) (R : List Char) :
    readStrBody (escapeChars s.toList ++ '"' :: R).length (escapeChars s.toList ++ '"' :: R)
      = some (s.toList, R) := by
  apply readStrBody_escapeChars
  simp only [List.length_append, List.length_cons]
  omega

end Signac
