/- C19: `get_job` (complete-component matches only), with and without the layout hypothesis;
   `init_project`; decidable checks of the layout hypotheses on listed trees (for the examples),
   with `DecidableEq` for `Except`.  Defines `HasMatch`, `IdLike`, `Layout`, `LayoutW`,
   `LayoutDirOnly`, `IsJobDir` of the C19 statements. -/
import Signac.Proofs.DiscLocate
namespace Signac.Disc
open Signac

/-- the component contains a match of the id pattern somewhere (`re.finditer` yields one) -/
def HasMatch (c : String) : Prop := scan c.toList 0 0 ≠ []

/-- the component is exactly an id: `idLen` characters of `[a-f0-9]` -/
def IdLike (c : String) : Prop := c.toList.length = idLen ∧ ∀ ch ∈ c.toList, isIdChar ch = true

theorem idLen_pos : 0 < idLen := by decide

theorem isIdName_iff (c : String) : isIdName c = true ↔ IdLike c := by
  simp [isIdName, IdLike]

/-! ### the literal scan-and-filter agrees with `isIdName` -/

theorem scan_start_ge (cs : List Char) (pos skip : Nat) : ∀ m ∈ scan cs pos skip, pos ≤ m.1 := by
  fun_induction scan cs pos skip with
  | case1 => nofun
  | case2 c cs pos skip ih => exact fun m hm => Nat.le_of_succ_le (ih m hm)
  | case3 c cs pos hm ih =>
    exact List.forall_mem_cons.mpr ⟨Nat.le_refl _, fun m hm => Nat.le_of_succ_le (ih m hm)⟩
  | case4 c cs pos hm ih => exact fun m hm => Nat.le_of_succ_le (ih m hm)

theorem scan_filter_later (n : Nat) (cs : List Char) (pos skip : Nat) (h : 0 < pos) :
    (scan cs pos skip).filter (isComplete n) = [] := by
  rw [List.filter_eq_nil_iff]
  intro m hm
  have := scan_start_ge cs pos skip m hm
  simp only [isComplete, Bool.and_eq_true, decide_eq_true_eq]
  omega

theorem matchAt_of_length {cs : List Char} (hl : cs.length = idLen) :
    matchAt cs = cs.all isIdChar := by
  unfold matchAt
  rw [List.take_of_length_le (by omega)]
  simp [hl]

theorem matchAt_length {cs : List Char} (h : matchAt cs = true) : idLen ≤ cs.length := by
  unfold matchAt at h
  simp only [Bool.and_eq_true, decide_eq_true_eq, List.length_take] at h
  omega

/-- one component: a match passes the filter iff the whole component is an id, and then it ends
    at `idLen` -/
theorem lastCompleteEnd_eq (cs : List Char) :
    lastCompleteEnd cs =
      if (decide (cs.length = idLen) && cs.all isIdChar) = true then some idLen else none := by
  -- only the match at the head starts at offset 0 (`scan_filter_later`); it ends at `idLen`, so it
  -- passes the filter iff the component has exactly `idLen` characters
  unfold lastCompleteEnd
  cases cs with
  | nil =>
    have : ¬ (0 = idLen) := by decide
    simp [scan, this]
  | cons x xs =>
    simp only [scan]
    by_cases hl : (x :: xs).length = idLen
    · rw [← matchAt_of_length hl]
      by_cases hm : matchAt (x :: xs) = true
      · simp [hm, hl, isComplete, scan_filter_later]
      · simp [hm, scan_filter_later]
    · have hl' : ¬ (xs.length + 1 = idLen) := by simpa using hl
      have hl'' : ¬ (idLen = xs.length + 1) := fun h => hl' h.symm
      by_cases hm : matchAt (x :: xs) = true
      · simp [hm, hl', hl'', isComplete, scan_filter_later]
      · simp [hm, hl', scan_filter_later]

theorem lastMatchEnd_eq (c : String) :
    lastMatchEnd c = if isIdName c = true then some idLen else none := by
  unfold lastMatchEnd isIdName
  exact lastCompleteEnd_eq c.toList

theorem lastMatchEnd_isSome (c : String) : (lastMatchEnd c).isSome = isIdName c := by
  rw [lastMatchEnd_eq]; cases isIdName c <;> simp

theorem idLike_lastMatchEnd {c : String} (h : IdLike c) : lastMatchEnd c = some idLen := by
  rw [lastMatchEnd_eq, (isIdName_iff c).mpr h]; rfl

/-- an id contains a match: `HasMatch` is the wider notion -/
theorem idLike_hasMatch {c : String} (h : IdLike c) : HasMatch c := by
  obtain ⟨hl, hc⟩ := h
  unfold HasMatch
  cases hcs : c.toList with
  | nil => rw [hcs] at hl; have := idLen_pos; simp at hl; omega
  | cons x xs =>
    rw [hcs] at hl hc
    have hm : matchAt (x :: xs) = true := by
      rw [matchAt_of_length hl, List.all_eq_true]; exact hc
    simp [scan, hm]

theorem isIdName_hasMatch {c : String} (h : isIdName c = true) : HasMatch c :=
  idLike_hasMatch ((isIdName_iff c).mp h)

theorem idLike_cut {c : String} (h : IdLike c) : cutAt c idLen = c := by
  unfold cutAt
  rw [List.take_of_length_le (by rw [h.1]; exact Nat.le_refl _), String.ofList_toList]

theorem idLike_matched {c : String} (h : IdLike c) : matchedId c idLen = c := by
  unfold matchedId
  rw [List.take_of_length_le (by rw [h.1]; exact Nat.le_refl _), Nat.sub_self, List.drop_zero,
    String.ofList_toList]

/-- The literal form of the model (scan every component with `re.finditer`, keep the complete
    matches, take the last) is the simple one: the innermost component that is an id; the
    matched id and the cut component are that component itself. -/
theorem lastJob_eq_simple (p : Path) : lastJob p = lastJobSimple p := by
  induction p with
  | nil => rfl
  | cons c rest ih =>
    simp only [lastJob, lastJobSimple, lastMatchEnd_eq]
    by_cases h : isIdName c = true
    · have hid := (isIdName_iff c).mp h
      simp [h, idLike_cut hid, idLike_matched hid]
    · simp [h, ih]

theorem lastJob_none (p : Path) : lastJob p = none ↔ ∀ c ∈ p, isIdName c = false := by
  rw [lastJob_eq_simple]
  fun_induction lastJobSimple p with
  | case1 => exact ⟨nofun, fun _ => rfl⟩
  | case2 c rest h => exact ⟨nofun, fun hn => by rw [hn c (List.mem_cons_self ..)] at h; cases h⟩
  | case3 c rest h ih =>
    rw [ih, List.forall_mem_cons]
    exact (and_iff_right (Bool.eq_false_iff.mpr h)).symm

/-- The component chosen by `lastJob` is the innermost one that is an id: it is returned as
    it stands, with the path from there up, and every ancestor-or-self of `p` whose last
    component is an id lies at or above it. -/
theorem lastJob_spec (p : Path) (jid : String) (jp : Path) (h : lastJob p = some (jid, jp)) :
    ∃ rest, jp = jid :: rest ∧ (jid :: rest) <:+ p ∧ isIdName jid = true ∧
      ∀ c tl, (c :: tl) <:+ p → isIdName c = true → (c :: tl) <:+ (jid :: rest) := by
  rw [lastJob_eq_simple] at h
  fun_induction lastJobSimple p with
  | case1 => cases h
  | case2 x xs hm =>
    cases h
    exact ⟨xs, rfl, List.suffix_refl _, hm, fun _ _ hs _ => hs⟩
  | case3 x xs hm ih =>
    obtain ⟨rest, hp, hs, hid, hmax⟩ := ih h
    refine ⟨rest, hp, hs.trans (List.suffix_cons _ _), hid, fun h' tl hs' hh => ?_⟩
    rcases List.suffix_cons_iff.mp hs' with heq | hs''
    · cases heq; exact absurd hh hm
    · exact hmax h' tl hs'' hh

/-- Layout hypothesis of C19, strict form (the one the property is stated with): a name CONTAINING an id match occurs, among
    existing paths, only as a directory named exactly by an id, directly inside the
    `workspace` directory of a project, and that `workspace` directory is not itself a project;
    and every existing path sits in a directory. -/
structure Layout (t : Tree) : Prop where
  idlike : ∀ c rest, t.kind (c :: rest) ≠ .absent → HasMatch c →
    t.kind (c :: rest) = .dir ∧ IdLike c ∧
      ∃ q, rest = "workspace" :: q ∧ isProject t q = true ∧ isProject t rest = false
  closed : ∀ c rest, t.kind (c :: rest) ≠ .absent → t.kind rest = .dir

/-- Layout hypothesis of C19, weak form: only names that ARE ids matter.  A directory whose
    name is an id sits directly inside the `workspace` directory of a project, and that
    `workspace` directory is not itself a project; an existing path whose name is an id is a
    directory; and every existing path sits in a directory.  Names that merely contain an
    id-like run are unconstrained. -/
structure LayoutW (t : Tree) : Prop where
  idname : ∀ c rest, t.kind (c :: rest) = .dir → isIdName c = true →
    ∃ q, rest = "workspace" :: q ∧ isProject t q = true ∧ isProject t rest = false
  iddir : ∀ c rest, t.kind (c :: rest) ≠ .absent → isIdName c = true → t.kind (c :: rest) = .dir
  closed : ∀ c rest, t.kind (c :: rest) ≠ .absent → t.kind rest = .dir

theorem Layout.toW {t : Tree} (L : Layout t) : LayoutW t where
  idname := fun c rest hd hid =>
    (L.idlike c rest (by rw [hd]; intro h; cases h) (isIdName_hasMatch hid)).2.2
  iddir := fun c rest hk hid => (L.idlike c rest hk (isIdName_hasMatch hid)).1
  closed := L.closed

/-- `d` is `q/workspace/j` for some project `q` and id `j`, and is a directory. -/
def IsJobDir (t : Tree) (d : Path) : Prop :=
  ∃ j q, d = j :: "workspace" :: q ∧ IdLike j ∧ isProject t q = true ∧ t.kind d = .dir

theorem LayoutW.exists_up {t : Tree} (L : LayoutW t) {p r : Path} (hp : t.kind p ≠ .absent)
    (hr : r <:+ p) : t.kind r ≠ .absent := by
  induction p with
  | nil =>
    have : r = [] := List.suffix_nil.mp hr
    subst this; exact hp
  | cons c rest ih =>
    rcases List.suffix_cons_iff.mp hr with rfl | hr'
    · exact hp
    · have := L.closed c rest hp
      exact ih (by rw [this]; intro h; cases h) hr'

/-! ### `get_job`, case by case -/

theorem getJob_absent {t : Tree} {p : Path} (h : t.kind p = .absent) :
    getJob t p = (.error .lookup, []) := by
  rw [getJob, if_pos h]

theorem getJob_noId {t : Tree} {p : Path} (h : lastJob p = none) :
    getJob t p = (.error .lookup, []) := by
  rw [getJob, h]; exact ite_self _

theorem getJob_notDir {t : Tree} {p jp : Path} {j : String} (h : lastJob p = some (j, jp))
    (hd : t.kind jp ≠ .dir) : getJob t p = (.error .lookup, []) := by
  rw [getJob, h]
  simp only [if_neg hd, ite_self]

theorem getJob_found {t : Tree} {p jp : Path} {j : String} (hk : t.kind p ≠ .absent)
    (h : lastJob p = some (j, jp)) (hd : t.kind jp = .dir) :
    getJob t p = ((getProjectFrom t jp.tail).1.map (j, ·), (getProjectFrom t jp.tail).2) := by
  rw [getJob, if_neg hk, h]
  simp only [if_pos hd]
  rcases getProjectFrom t jp.tail with ⟨_ | _, _⟩ <;> rfl

theorem map_eq_ok {ε α β : Type} {f : α → β} {r : Except ε α} {b : β} :
    r.map f = .ok b ↔ ∃ a, r = .ok a ∧ f a = b := by
  cases r <;> simp [Except.map]

theorem getJob_ok_iff (t : Tree) (p : Path) (j : String) (q : Path) :
    (getJob t p).1 = .ok (j, q) ↔
      t.kind p ≠ .absent ∧ ∃ jp, lastJob p = some (j, jp) ∧ t.kind jp = .dir ∧
        (getProjectFrom t jp.tail).1 = .ok q := by
  by_cases hk : t.kind p = .absent
  · rw [getJob_absent hk]; exact ⟨nofun, fun h => absurd hk h.1⟩
  cases hl : lastJob p with
  | none => rw [getJob_noId hl]; exact ⟨nofun, fun ⟨_, _, h, _⟩ => nomatch h⟩
  | some r =>
    obtain ⟨j', jp⟩ := r
    by_cases hd : t.kind jp = .dir
    · rw [getJob_found hk hl hd]
      exact map_eq_ok.trans ⟨fun ⟨q', hq, e⟩ => by cases e; exact ⟨hk, jp, rfl, hd, hq⟩,
        fun ⟨_, _, h, _, h'⟩ => by cases h; exact ⟨q, h', rfl⟩⟩
    · rw [getJob_notDir hl hd]
      exact ⟨nofun, fun ⟨_, _, h, h', _⟩ => by cases h; exact absurd h' hd⟩

/-- `get_job` without any layout hypothesis: the returned id is the innermost component of `p`
    that is an id, the path from that component up is a directory, and the project is the
    nearest one strictly above it (and passes the gate). -/
theorem getJob_ok_iff_innermostId (t : Tree) (p : Path) (j : String) (q : Path) :
    (getJob t p).1 = .ok (j, q) ↔
      t.kind p ≠ .absent ∧ ∃ rest, (j :: rest) <:+ p ∧ isIdName j = true ∧
        (∀ c tl, (c :: tl) <:+ p → isIdName c = true → (c :: tl) <:+ (j :: rest)) ∧
        t.kind (j :: rest) = .dir ∧ Nearest t rest q ∧ GateOk t q := by
  rw [getJob_ok_iff]
  constructor
  · intro ⟨hk, jp, hl, hd, hg⟩
    obtain ⟨rest, rfl, hs, hid, hmax⟩ := lastJob_spec p j jp hl
    simp only [List.tail_cons] at hg
    have hn := (getProjectFrom_ok_iff t rest q).mp hg
    exact ⟨hk, rest, hs, hid, hmax, hd, hn.1, hn.2⟩
  · intro ⟨hk, rest, hs, hid, hmax, hd, hn, hg⟩
    refine ⟨hk, j :: rest, ?_, hd, ?_⟩
    · cases hl : lastJob p with
      | none =>
        have := (lastJob_none p).mp hl j (hs.mem (List.mem_cons_self ..))
        rw [hid] at this; cases this
      | some pr =>
        obtain ⟨jid, jp⟩ := pr
        obtain ⟨rest', rfl, hs', hid', hmax'⟩ := lastJob_spec p jid _ hl
        have heq := (hmax' j rest hs hid).eq_of_length_le (hmax jid rest' hs' hid').length_le
        cases heq; rfl
    · simp only [List.tail_cons]
      exact (getProjectFrom_ok_iff t rest q).mpr ⟨hn, hg⟩

/-- The bridge is `L.idname`: under `LayoutW` "innermost id-named component that is a directory"
    and "innermost `IsJobDir`" coincide, and the project found from `workspace :: q` is `q`
    because `workspace :: q` is no project. -/
theorem getJob_ok_iff_of_layout (t : Tree) (L : LayoutW t) (p : Path) (j : String) (q : Path) :
    (getJob t p).1 = .ok (j, q) ↔
      t.kind p ≠ .absent ∧ GateOk t q ∧ IsJobDir t (j :: "workspace" :: q) ∧
        (j :: "workspace" :: q) <:+ p ∧
        ∀ d, IsJobDir t d → d <:+ p → d <:+ (j :: "workspace" :: q) := by
  rw [getJob_ok_iff_innermostId]
  constructor
  · intro ⟨hk, rest, hs, hid, hmax, hdir, hn, hg⟩
    obtain ⟨q', hrest, hpq', hnp⟩ := L.idname j rest hdir hid
    -- the project found from `workspace :: q'` is `q'`
    have hq : q = q' := by
      have h1 : findProject t rest = some q := (findProject_nearest t rest q).mpr hn
      rw [hrest, findProject_skip (by rw [← hrest]; exact hnp), findProject_self hpq'] at h1
      cases h1; rfl
    subst hq
    subst hrest
    refine ⟨hk, hg, ⟨j, q, rfl, (isIdName_iff j).mp hid, hpq', hdir⟩, hs, ?_⟩
    intro d hdj hds
    obtain ⟨j', q'', rfl, hid', _, _⟩ := hdj
    exact hmax j' _ hds ((isIdName_iff j').mpr hid')
  · intro ⟨hk, hg, hjd, hs, hmax⟩
    obtain ⟨j0, q0, heq, hid, hpq, hdir⟩ := hjd
    cases heq
    have hnp : isProject t ("workspace" :: q) = false := by
      obtain ⟨q', hrest, _, hnp⟩ := L.idname j _ hdir ((isIdName_iff j).mpr hid)
      exact hnp
    refine ⟨hk, "workspace" :: q, hs, (isIdName_iff j).mpr hid, ?_, hdir, ?_, hg⟩
    · intro h' tl hs' hid'
      -- an id-named path at or above an existing path is a job directory
      have hex : t.kind (h' :: tl) ≠ .absent := L.exists_up hk hs'
      have hdir' := L.iddir h' tl hex hid'
      obtain ⟨q', hrest, hpq', _⟩ := L.idname h' tl hdir' hid'
      exact hmax (h' :: tl) ⟨h', q', by rw [hrest], (isIdName_iff h').mp hid', hpq', hdir'⟩ hs'
    · rw [← findProject_nearest, findProject_skip hnp, findProject_self hpq]

/-! ### init_project -/

theorem getProject_nosearch_ok_iff (t : Tree) (p q : Path) :
    (getProject t p false).1 = .ok q ↔
      q = p ∧ t.kind p ≠ .absent ∧ isProject t p = true ∧ GateOk t p := by
  by_cases hk : t.kind p = .absent
  · rw [getProject_absent hk]; exact ⟨nofun, fun h => absurd hk h.2.1⟩
  rw [getProject_nosearch hk]
  cases hp : isProject t p
  · exact ⟨nofun, fun h => nomatch h.2.2.1⟩
  · rw [if_pos rfl, openProject_ok_iff]; exact ⟨fun h => ⟨h.1, hk, rfl, h.2⟩, fun h => ⟨h.1, h.2.2.2⟩⟩

theorem getProject_search_ok_iff (t : Tree) (p q : Path) :
    (getProject t p true).1 = .ok q ↔ t.kind p ≠ .absent ∧ Nearest t p q ∧ GateOk t q := by
  by_cases hk : t.kind p = .absent
  · rw [getProject_absent hk]; exact ⟨nofun, fun h => absurd hk h.1⟩
  · rw [getProject_search hk, getProjectFrom_ok_iff]; exact (and_iff_right hk).symm

theorem getProject_ok_anc (t : Tree) (p q : Path) (s : Bool) (h : (getProject t p s).1 = .ok q) :
    q <:+ p ∧ isProject t q = true := by
  cases s
  · have := (getProject_nosearch_ok_iff t p q).mp h
    rw [this.1]; exact ⟨List.suffix_refl _, this.2.2.1⟩
  · have := (getProject_search_ok_iff t p q).mp h
    exact ⟨this.2.1.1, this.2.1.2.1⟩

/-- On a project directory `init_project` is `get_project(search=False)`, which is the
    plain constructor. -/
theorem initProject_existing (t : Tree) (p : Path) (hp : isProject t p = true)
    (hk : t.kind p ≠ .absent) : initProject t p = openProject t p := by
  obtain ⟨v, hc⟩ := Option.isSome_iff_exists.mp hp
  rw [initProject, getProject_nosearch hk, if_pos hp]
  by_cases hg : Mig.gate (v.getD 1) = .ok
  · rw [openProject_accepted hc hg]
  · rw [openProject_refused hc hg]

/-- `init_project` on a directory that is no project and holds no legacy config: the missing
    levels of `<p>/.signac` are created, the config is written, the project is opened (which
    creates the workspace if missing). -/
theorem initProject_fresh_eq (t : Tree) (p : Path) (hp : isProject t p = false)
    (hrc : t.rc p = none) :
    initProject t p = (.ok p, mkdirP t (".signac" :: p) ++ [.writeConfig p] ++
      (if hasWorkspace t p then [] else [.mkdir ("workspace" :: p)])) := by
  have hgp := getProject_nosearch_of_not_project hp
  have hold : olderErr t p = none := by rw [olderErr, hrc]; rfl
  have hk' : (afterInit t p).kind p = .dir := by
    have h1 : p ≠ "config" :: ".signac" :: p := fun h => by
      have := congrArg List.length h; simp only [List.length_cons] at this; omega
    simp only [afterInit, if_neg h1, List.suffix_cons, decide_true, if_true]
  have hws : hasWorkspace (afterInit t p) p = hasWorkspace t p := by
    have h1 : "workspace" :: p ≠ "config" :: ".signac" :: p := fun h => by
      have := congrArg List.length h; simp only [List.length_cons] at this; omega
    have h2 : ¬ ("workspace" :: p) <:+ ".signac" :: p := fun h =>
      (List.suffix_cons_iff.mp h).elim (fun e => absurd (List.cons.inj e).1 (by decide))
        fun h => absurd h.length_le (by simp)
    simp only [hasWorkspace, afterInit, if_neg h1, h2, decide_false, Bool.false_eq_true, if_false]
  have hc : (afterInit t p).cfg p = some (some Mig.SCHEMA) := if_pos rfl
  have hopen : getProject (afterInit t p) p true =
      (.ok p, if hasWorkspace t p then [] else [.mkdir ("workspace" :: p)]) := by
    rw [getProject_search (by rw [hk']; nofun),
      getProjectFrom_found (findProject_self (by rw [isProject, hc]; rfl)),
      openProject_accepted hc (by decide), hws]
  rw [initProject, hgp]
  simp only [hold, hopen, List.append_assoc]

/-! ### decidable sufficient conditions for `Layout` / `LayoutW` on listed trees (non-vacuity examples) -/

-- results of the entry points on a listed tree are compared by evaluation
deriving instance DecidableEq for Except

def hasMatchB (c : String) : Bool := !(scan c.toList 0 0).isEmpty

theorem hasMatchB_iff (c : String) : hasMatchB c = true ↔ HasMatch c := by
  simp [hasMatchB, HasMatch]

/-- `f` holds of the listed tree at every listed node that exists -/
def checkNodes (ns : List Node) (f : Tree → Path → Bool) : Bool :=
  ns.all (fun n => decide (n.kind = .absent) || f (Tree.ofNodes ns) n.path)

theorem ofNodes_forall (ns : List Node) (f : Tree → Path → Bool) (h : checkNodes ns f = true) :
    ∀ p, (Tree.ofNodes ns).kind p ≠ .absent → f (Tree.ofNodes ns) p = true := by
  intro p hk
  simp only [Tree.ofNodes] at hk
  cases hf : findNode ns p with
  | none => rw [hf] at hk; exact absurd rfl hk
  | some n =>
    rw [hf] at hk
    simp only [] at hk
    unfold findNode at hf
    have hmem := List.mem_of_find?_eq_some hf
    have hpath := List.find?_some hf
    simp only [decide_eq_true_eq] at hpath
    have := (List.all_eq_true.mp h) n hmem
    simp only [Bool.or_eq_true, decide_eq_true_eq] at this
    rcases this with h1 | h1
    · exact absurd h1 hk
    · rw [hpath] at h1; exact h1

def inWorkspace (t : Tree) (rest : Path) : Bool :=
  match rest with
  | w :: q => decide (w = "workspace") && isProject t q && !isProject t rest
  | [] => false

theorem inWorkspace_spec {t : Tree} {rest : Path} (h : inWorkspace t rest = true) :
    ∃ q, rest = "workspace" :: q ∧ isProject t q = true ∧ isProject t rest = false := by
  cases rest with
  | nil => simp [inWorkspace] at h
  | cons w q =>
    simp only [inWorkspace, Bool.and_eq_true, decide_eq_true_eq, Bool.not_eq_true'] at h
    obtain ⟨⟨hw, hp⟩, hn⟩ := h
    exact ⟨q, by rw [hw], hp, hn⟩

/-- every existing path sits in a directory, and where `trig` fires `req` holds -/
def nodeOk (trig req : Tree → String → Path → Bool) (t : Tree) : Path → Bool
  | [] => true
  | c :: rest => decide (t.kind rest = .dir) && (!trig t c rest || req t c rest)

theorem nodeOk_spec {ns : List Node} {trig req : Tree → String → Path → Bool}
    (h : checkNodes ns (nodeOk trig req) = true) (c : String) (rest : Path)
    (hk : (Tree.ofNodes ns).kind (c :: rest) ≠ .absent) :
    (Tree.ofNodes ns).kind rest = .dir ∧
      (trig (Tree.ofNodes ns) c rest = true → req (Tree.ofNodes ns) c rest = true) := by
  have := ofNodes_forall ns _ h (c :: rest) hk
  simp only [nodeOk, Bool.and_eq_true, decide_eq_true_eq, Bool.or_eq_true, Bool.not_eq_true'] at this
  exact ⟨this.1, fun ht => this.2.resolve_left (by rw [ht]; nofun)⟩

def layoutOk : Tree → Path → Bool :=
  nodeOk (fun _ c _ => hasMatchB c) fun t c rest =>
    decide (t.kind (c :: rest) = .dir) && isIdName c && inWorkspace t rest

def layoutWOk : Tree → Path → Bool :=
  nodeOk (fun _ c _ => isIdName c) fun t c rest =>
    decide (t.kind (c :: rest) = .dir) && inWorkspace t rest

theorem layout_of_check (ns : List Node) (h : checkNodes ns layoutOk = true) :
    Layout (Tree.ofNodes ns) where
  idlike c rest hk hm := by
    have := (nodeOk_spec h c rest hk).2 ((hasMatchB_iff c).mpr hm)
    simp only [Bool.and_eq_true, decide_eq_true_eq] at this
    exact ⟨this.1.1, (isIdName_iff c).mp this.1.2, inWorkspace_spec this.2⟩
  closed c rest hk := (nodeOk_spec h c rest hk).1

theorem layoutW_of_check (ns : List Node) (h : checkNodes ns layoutWOk = true) :
    LayoutW (Tree.ofNodes ns) := by
  have key : ∀ c rest, (Tree.ofNodes ns).kind (c :: rest) ≠ .absent → isIdName c = true →
      (Tree.ofNodes ns).kind (c :: rest) = .dir ∧ inWorkspace (Tree.ofNodes ns) rest = true :=
    fun c rest hk hid => by
      simpa only [Bool.and_eq_true, decide_eq_true_eq] using (nodeOk_spec h c rest hk).2 hid
  exact ⟨fun c rest hd hid => inWorkspace_spec (key c rest (by rw [hd]; nofun) hid).2,
    fun c rest hk hid => (key c rest hk hid).1, fun c rest hk => (nodeOk_spec h c rest hk).1⟩

/-- The weak hypothesis WITHOUT its second clause: only id-named DIRECTORIES are constrained
    (used to show that the clause about id-named non-directories is needed). -/
structure LayoutDirOnly (t : Tree) : Prop where
  idname : ∀ c rest, t.kind (c :: rest) = .dir → isIdName c = true →
    ∃ q, rest = "workspace" :: q ∧ isProject t q = true ∧ isProject t rest = false
  closed : ∀ c rest, t.kind (c :: rest) ≠ .absent → t.kind rest = .dir

theorem LayoutW.toDirOnly {t : Tree} (L : LayoutW t) : LayoutDirOnly t := ⟨L.idname, L.closed⟩

def layoutDirOnlyOk : Tree → Path → Bool :=
  nodeOk (fun t c rest => isIdName c && decide (t.kind (c :: rest) = .dir)) fun t _ rest =>
    inWorkspace t rest

theorem layoutDirOnly_of_check (ns : List Node) (h : checkNodes ns layoutDirOnlyOk = true) :
    LayoutDirOnly (Tree.ofNodes ns) where
  idname c rest hd hid := inWorkspace_spec
    ((nodeOk_spec h c rest (by rw [hd]; nofun)).2 (by rw [hid, hd]; rfl))
  closed c rest hk := (nodeOk_spec h c rest hk).1

end Signac.Disc
