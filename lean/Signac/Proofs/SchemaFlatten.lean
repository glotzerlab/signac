/-
  Dotted keys: `split(".")` against `".".join`, `flatten` as "flatten the sub-mapping, then prefix",
  `unflatten ∘ flatten = id`, and the value found by walking a flattened key.  Core only.
-/
import Signac.Proofs.JValInd
import Signac.Proofs.SchemaAssoc
namespace Signac.Schema
open Signac

theorem splitDots_ne_nil (l : List Char) : splitDots l ≠ [] := by
  cases l with
  | nil => simp [splitDots]
  | cons c cs =>
    simp only [splitDots]
    split
    · simp
    · split <;> simp

/-- `(a + "." + b).split(".") == a.split(".") + b.split(".")` -/
theorem splitDots_append_dot (a b : List Char) :
    splitDots (a ++ '.' :: b) = splitDots a ++ splitDots b := by
  induction a with
  | nil => simp [splitDots]
  | cons c cs ih =>
    simp only [List.cons_append, splitDots]
    split
    · simp [ih]
    · rw [ih]
      cases h : splitDots cs with
      | nil => exact absurd h (splitDots_ne_nil cs)
      | cons t ts => simp

theorem splitDots_dotfree {l : List Char} (h : '.' ∉ l) : splitDots l = [l] := by
  induction l with
  | nil => simp [splitDots]
  | cons c cs ih =>
    simp only [List.mem_cons, not_or] at h
    simp only [splitDots]
    have hc : ¬ c = '.' := fun e => h.1 e.symm
    simp only [hc, if_false, ih h.2]

theorem splitKey_ne_nil (k : String) : splitKey k ≠ [] :=
  fun h => splitDots_ne_nil _ (List.map_eq_nil_iff.mp h)

theorem splitKey_dotJoin (a b : String) : splitKey (dotJoin a b) = splitKey a ++ splitKey b := by
  unfold splitKey dotJoin
  have : (a ++ "." ++ b).toList = a.toList ++ '.' :: b.toList := by
    simp only [String.toList_append]
    have : ".".toList = ['.'] := by decide
    rw [this]
    simp
  rw [this, splitDots_append_dot, List.map_append]

/-- the key has no dot (signac refuses state point keys with dots) -/
def DotFreeKey (k : String) : Prop := '.' ∉ k.toList

theorem splitKey_dotfree {k : String} (h : DotFreeKey k) : splitKey k = [k] := by
  unfold splitKey
  rw [splitDots_dotfree h]
  simp [String.ofList_toList]

theorem dotJoin_assoc (a b c : String) : dotJoin a (dotJoin b c) = dotJoin (dotJoin a b) c := by
  simp only [dotJoin, String.append_assoc]

/-! ### well-formed mappings: distinct dot-free keys along the mapping spine -/

mutual
  /-- Not comparable with `NodupKeysVal`: that one also enters lists and allows dots. -/
  def WFVal : JVal → Prop
    | .obj kvs => WFKVs kvs
    | .null => True
    | .bool _ => True
    | .int _ => True
    | .flt _ _ _ => True
    | .str _ => True
    | .arr _ => True
  def WFKVs : KVs → Prop
    | [] => True
    | (k, v) :: rest => DotFreeKey k ∧ (∀ kv ∈ rest, kv.1 ≠ k) ∧ WFVal v ∧ WFKVs rest
end

theorem WFKVs_mem {kvs : KVs} (h : WFKVs kvs) : ∀ kv ∈ kvs, DotFreeKey kv.1 ∧ WFVal kv.2 := by
  induction kvs with
  | nil => exact fun _ hkv => nomatch hkv
  | cons e l ih => exact List.forall_mem_cons.mpr ⟨⟨h.1, h.2.2.1⟩, ih h.2.2.2⟩

theorem WFKVs_keys {kvs : KVs} (h : WFKVs kvs) : (kvs.map Prod.fst).Nodup := by
  induction kvs with
  | nil => exact List.nodup_nil
  | cons e l ih =>
    refine List.nodup_cons.mpr ⟨fun hk => ?_, ih h.2.2.2⟩
    obtain ⟨kv, hkv, e⟩ := List.mem_map.mp hk
    exact h.2.1 kv hkv e

/-- prefix a flattened pair with the key of the enclosing mapping -/
def pfx (key : String) (p : String × JVal) : String × JVal := (dotJoin key p.1, p.2)

theorem flattenKVs_eq (key : Option String) (kvs : KVs) :
    flattenKVs key kvs = kvs.flatMap fun kv => flattenVal (childKey key kv.1) kv.2 := by
  induction kvs with
  | nil => rfl
  | cons e l ih => rw [flattenKVs, ih, List.flatMap_cons]

/-- Induction along the mapping spine, in the two shapes `flattenVal` distinguishes: a value that is
    yielded as it is (a scalar, a list, the empty mapping) and a non-empty mapping. -/
theorem flattenVal_induction {P : JVal → Prop} (leaf : ∀ v, (∀ k, flattenVal k v = [(k, v)]) → P v)
    (node : ∀ kvs, kvs ≠ [] → (∀ kv ∈ kvs, P kv.2) →
      (∀ k, flattenVal k (.obj kvs) = flattenKVs (some k) kvs) → P (.obj kvs))
    (v : JVal) : P v := by
  induction v using JVal.rec_mem with
  | obj kvs ih =>
    cases kvs with
    | nil => exact leaf _ fun _ => rfl
    | cons e kvs => exact node _ (List.cons_ne_nil e kvs) ih fun _ => rfl
  | _ => exact leaf _ fun _ => rfl

theorem flattenVal_pfx (v : JVal) : ∀ (key k : String),
    flattenVal (dotJoin key k) v = (flattenVal k v).map (pfx key) := by
  induction v using flattenVal_induction with
  | leaf v h => intro key k; rw [h, h]; rfl
  | node kvs _ ih h =>
    intro key k
    rw [h, h, flattenKVs_eq, flattenKVs_eq, List.map_flatMap, List.flatMap_def, List.flatMap_def]
    congr 1
    refine List.map_congr_left fun kv hkv => ?_
    show flattenVal (dotJoin (dotJoin key k) kv.1) kv.2 = _
    rw [← dotJoin_assoc]
    exact ih kv hkv _ _

theorem flattenKVs_pfx : ∀ (kvs : KVs) (key k : String),
      flattenKVs (some (dotJoin key k)) kvs = (flattenKVs (some k) kvs).map (pfx key) := by
  intro kvs key k
  rw [flattenKVs_eq, flattenKVs_eq, List.map_flatMap]
  congr 1
  funext kv
  show flattenVal (dotJoin (dotJoin key k) kv.1) kv.2 = _
  rw [← dotJoin_assoc, flattenVal_pfx]
  rfl

theorem flattenKVs_some (kvs : KVs) (key : String) :
    flattenKVs (some key) kvs = (flatten kvs).map (pfx key) := by
  rw [flatten, flattenKVs_eq, flattenKVs_eq, List.map_flatMap]
  congr 1
  funext kv
  exact flattenVal_pfx kv.2 key kv.1

theorem flattenVal_ne_nil : ∀ (v : JVal) (key : String), flattenVal key v ≠ [] := by
  intro v
  induction v using flattenVal_induction with
  | leaf v h => intro key; rw [h]; exact List.cons_ne_nil _ _
  | node kvs hne ih h =>
    intro key
    obtain ⟨e, he⟩ := List.exists_mem_of_ne_nil kvs hne
    rw [h, flattenKVs_eq]
    exact fun hnil => ih e he _ (List.flatMap_eq_nil_iff.mp hnil e he)

theorem flattenKVs_ne_nil (key : Option String) {kvs : KVs} (h : kvs ≠ []) : flattenKVs key kvs ≠ [] := by
  obtain ⟨e, he⟩ := List.exists_mem_of_ne_nil kvs h
  rw [flattenKVs_eq]
  exact fun hnil => flattenVal_ne_nil _ _ (List.flatMap_eq_nil_iff.mp hnil e he)

theorem upsert_append {k : String} (f : Option JVal → JVal) {acc : KVs} (h : ∀ kv ∈ acc, kv.1 ≠ k)
    (rest : KVs) : upsert k f (acc ++ rest) = acc ++ upsert k f rest := by
  induction acc with
  | nil => rfl
  | cons e l ih =>
    rw [List.forall_mem_cons] at h
    rw [List.cons_append, upsert, if_neg (Ne.symm h.1), ih h.2, List.cons_append]

theorem upsert_new {k : String} {f : Option JVal → JVal} {acc : KVs} (h : ∀ kv ∈ acc, kv.1 ≠ k) :
    upsert k f acc = acc ++ [(k, f none)] := by
  have := upsert_append f h []
  rwa [List.append_nil] at this

theorem upsert_hit {k : String} {f : Option JVal → JVal} {acc : KVs} {x : JVal}
    (h : ∀ kv ∈ acc, kv.1 ≠ k) : upsert k f (acc ++ [(k, x)]) = acc ++ [(k, f (some x))] := by
  rw [upsert_append f h, upsert, if_pos rfl]

theorem unflattenFrom_cons (acc : KVs) (p : String × JVal) (ps : List (String × JVal)) :
    unflattenFrom acc (p :: ps) = unflattenFrom (setPath (splitKey p.1) p.2 acc) ps :=
  List.foldl_cons ..

theorem unflattenFrom_append (acc : KVs) (ps qs : List (String × JVal)) :
    unflattenFrom acc (ps ++ qs) = unflattenFrom (unflattenFrom acc ps) qs :=
  List.foldl_append

/-- a key below the dot-free `k` is set inside the mapping stored under `k` -/
theorem setPath_dotJoin {k : String} (hk : DotFreeKey k) (s : String) (v : JVal) (d : KVs) :
    setPath (splitKey (dotJoin k s)) v d = upsert k (fun old => match old with
      | some (.obj sub) => .obj (setPath (splitKey s) v sub)
      | _ => .obj (setPath (splitKey s) v [])) d := by
  rw [splitKey_dotJoin, splitKey_dotfree hk]
  cases hs : splitKey s with
  | nil => exact absurd hs (splitKey_ne_nil s)
  | cons t ts => rfl

/-- the first pair below `k` creates the mapping under the new key `k` … -/
theorem setPath_dotJoin_new {k : String} (hk : DotFreeKey k) {acc : KVs} (hacc : ∀ kv ∈ acc, kv.1 ≠ k)
    (s : String) (v : JVal) :
    setPath (splitKey (dotJoin k s)) v acc = acc ++ [(k, .obj (setPath (splitKey s) v []))] := by
  rw [setPath_dotJoin hk, upsert_new hacc]

/-- … and further pairs below `k` go into the mapping already stored under `k` -/
theorem setPath_dotJoin_hit {k : String} (hk : DotFreeKey k) {acc : KVs} (hacc : ∀ kv ∈ acc, kv.1 ≠ k)
    (s : String) (v : JVal) (sub : KVs) :
    setPath (splitKey (dotJoin k s)) v (acc ++ [(k, .obj sub)]) =
      acc ++ [(k, .obj (setPath (splitKey s) v sub))] := by
  rw [setPath_dotJoin hk, upsert_hit hacc]

theorem unflattenFrom_prefixed_hit {k : String} (hk : DotFreeKey k) {acc : KVs}
    (hacc : ∀ kv ∈ acc, kv.1 ≠ k) (ps : List (String × JVal)) :
    ∀ (sub : KVs), unflattenFrom (acc ++ [(k, .obj sub)]) (ps.map (pfx k))
      = acc ++ [(k, .obj (unflattenFrom sub ps))] := by
  induction ps with
  | nil => exact fun _ => rfl
  | cons p ps ih =>
    intro sub
    rw [List.map_cons, unflattenFrom_cons, pfx, setPath_dotJoin_hit hk hacc, ih, unflattenFrom_cons]

theorem unflattenFrom_prefixed_new {k : String} (hk : DotFreeKey k) {acc : KVs}
    (hacc : ∀ kv ∈ acc, kv.1 ≠ k) {ps : List (String × JVal)} (hne : ps ≠ []) :
    unflattenFrom acc (ps.map (pfx k)) = acc ++ [(k, .obj (unflattenFrom [] ps))] := by
  cases ps with
  | nil => exact absurd rfl hne
  | cons p ps =>
    rw [List.map_cons, unflattenFrom_cons, pfx, setPath_dotJoin_new hk hacc,
      unflattenFrom_prefixed_hit hk hacc, unflattenFrom_cons]

/-- flattened entries with distinct keys are written back one after the other -/
theorem unflattenFrom_flatten_of {kvs : KVs} (hnd : (kvs.map Prod.fst).Nodup)
    (hv : ∀ kv ∈ kvs, ∀ acc : KVs, (∀ a ∈ acc, a.1 ≠ kv.1) →
      unflattenFrom acc (flattenVal kv.1 kv.2) = acc ++ [kv]) :
    ∀ acc : KVs, (∀ kv ∈ kvs, ∀ a ∈ acc, a.1 ≠ kv.1) → unflattenFrom acc (flatten kvs) = acc ++ kvs := by
  induction kvs with
  | nil => exact fun acc _ => (List.append_nil acc).symm
  | cons e l ih =>
    intro acc hacc
    rw [List.map_cons, List.nodup_cons] at hnd
    rw [List.forall_mem_cons] at hv hacc
    obtain ⟨k, v⟩ := e
    rw [flatten, flattenKVs, unflattenFrom_append, childKey, hv.1 acc hacc.1, ← flatten,
      ih hnd.2 hv.2, List.append_assoc, List.singleton_append]
    intro kv hkv a ha
    rcases List.mem_append.mp ha with ha | ha
    · exact hacc.2 kv hkv a ha
    · cases List.mem_singleton.mp ha
      exact fun e => hnd.1 (e ▸ List.mem_map_of_mem (f := Prod.fst) hkv)

theorem unflattenFrom_flattenVal : ∀ (v : JVal) (k : String) (acc : KVs),
      DotFreeKey k → (∀ kv ∈ acc, kv.1 ≠ k) → WFVal v →
      unflattenFrom acc (flattenVal k v) = acc ++ [(k, v)] := by
  intro v
  induction v using flattenVal_induction with
  | leaf v h =>
    intro k acc hk hacc _
    rw [h, unflattenFrom_cons, splitKey_dotfree hk, setPath]
    exact upsert_new hacc
  | node kvs hne ih h =>
    intro k acc hk hacc hwf
    rw [h, flattenKVs_some, unflattenFrom_prefixed_new hk hacc (ps := flatten kvs) (flattenKVs_ne_nil none hne),
      unflattenFrom_flatten_of (WFKVs_keys hwf) (fun kv hkv acc' hacc' =>
        ih kv hkv kv.1 acc' (WFKVs_mem hwf kv hkv).1 hacc' (WFKVs_mem hwf kv hkv).2) []
        (fun _ _ _ ha => nomatch ha)]
    rfl

/-- `_dotted_dict_to_nested_dicts(dict(_nested_dicts_to_dotted_keys(sp))) == sp`, entry order included -/
theorem unflatten_flatten_eq {sp : KVs} (h : WFKVs sp) : unflatten (flatten sp) = sp :=
  unflattenFrom_flatten_of (WFKVs_keys h) (fun kv hkv acc hacc =>
    unflattenFrom_flattenVal kv.2 kv.1 acc (WFKVs_mem h kv hkv).1 hacc (WFKVs_mem h kv hkv).2) []
    (fun _ _ _ ha => nomatch ha)

/-- a property that passes from a mapping to the values of its entries holds of whatever a path
    through the value reaches -/
theorem getPath_preserves {Q : JVal → Prop}
    (step : ∀ kvs n w, Q (.obj kvs) → lookupKV n kvs = some w → Q w) :
    ∀ (nodes : List String) (v w : JVal), Q v → getPath nodes v = some w → Q w := by
  intro nodes
  induction nodes with
  | nil => intro v w h hg; cases hg; exact h
  | cons n ns ih =>
    intro v w h hg
    cases v with
    | obj kvs =>
      rw [getPath] at hg
      split at hg
      · next u hu => exact ih u w (step kvs n u h hu) hg
      · cases hg
    | _ => cases hg

theorem getPath_flatten_of {kvs : KVs} (hnd : (kvs.map Prod.fst).Nodup)
    (hv : ∀ kv ∈ kvs, ∀ k' v', (k', v') ∈ flattenVal kv.1 kv.2 →
      ∃ t, splitKey k' = kv.1 :: t ∧ getPath t kv.2 = some v')
    {k' : String} {v' : JVal} (h : (k', v') ∈ flatten kvs) :
    getPath (splitKey k') (.obj kvs) = some v' := by
  rw [flatten, flattenKVs_eq, List.mem_flatMap] at h
  obtain ⟨kv, hkv, hin⟩ := h
  obtain ⟨t, ht, hg⟩ := hv kv hkv k' v' hin
  rw [ht, getPath, lookupKV_eq_alookup, alookup_of_mem hnd hkv]
  exact hg

theorem getPath_flattenVal : ∀ (v : JVal) (k k' : String) (v' : JVal),
      DotFreeKey k → WFVal v → (k', v') ∈ flattenVal k v →
      ∃ t, splitKey k' = k :: t ∧ getPath t v = some v' := by
  intro v
  induction v using flattenVal_induction with
  | leaf v h =>
    intro k k' v' hk _ hin
    rw [h, List.mem_singleton] at hin
    cases hin
    exact ⟨[], splitKey_dotfree hk, rfl⟩
  | node kvs _ ih h =>
    intro k k' v' hk hwf hin
    rw [h, flattenKVs_some, List.mem_map] at hin
    obtain ⟨p, hp, e⟩ := hin
    cases e
    refine ⟨splitKey p.1, by rw [splitKey_dotJoin, splitKey_dotfree hk]; rfl, ?_⟩
    exact getPath_flatten_of (WFKVs_keys hwf) (fun kv hkv k' v' =>
      ih kv hkv kv.1 k' v' (WFKVs_mem hwf kv hkv).1 (WFKVs_mem hwf kv hkv).2) hp

end Signac.Schema
