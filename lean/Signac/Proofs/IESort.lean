/-
  C16, the order in which the import analysers visit directories: `sorted(names)` (a stable insertion
  sort by the joined names) lists parents before children — except for the one pair `[""]`, `[]`
  whose joined names are both the empty string; for that pair the sort keeps the input order.
-/
import Signac.ImportExport
import Signac.Proofs.IEChecks
namespace Signac.IE
open Signac

theorem insertBy_perm {α : Type} (le : α → α → Bool) (x : α) : ∀ l : List α, (insertBy le x l).Perm (x :: l)
  | [] => .refl _
  | y :: ys => by
    rw [insertBy]
    split
    · exact .refl _
    · exact ((insertBy_perm le x ys).cons y).trans (.swap x y ys)

theorem sortBy_perm {α : Type} (le : α → α → Bool) : ∀ l : List α, (sortBy le l).Perm l
  | [] => .refl _
  | x :: xs => (insertBy_perm le x _).trans ((sortBy_perm le xs).cons x)

theorem mem_sortDirs {a : Comps} {l : List Comps} : a ∈ sortDirs l ↔ a ∈ l :=
  (sortBy_perm _ l).mem_iff

theorem nodup_sortDirs {l : List Comps} : (sortDirs l).Nodup ↔ l.Nodup :=
  (sortBy_perm _ l).nodup_iff

theorem mem_dedup {α : Type} [DecidableEq α] (a : α) (l : List α) : a ∈ dedup l ↔ a ∈ l := by
  induction l with
  | nil => exact Iff.rfl
  | cons x xs ih =>
    rw [dedup, List.mem_cons, ← ih]
    by_cases hx : x ∈ dedup xs
    · rw [if_pos hx]
      exact ⟨Or.inr, fun h => h.elim (fun h => h ▸ hx) id⟩
    · rw [if_neg hx]
      exact List.mem_cons

theorem nodup_dedup {α : Type} [DecidableEq α] (l : List α) : (dedup l).Nodup := by
  induction l with
  | nil => exact List.nodup_nil
  | cons x xs ih =>
    rw [dedup]
    by_cases hx : x ∈ dedup xs
    · rw [if_pos hx]
      exact ih
    · rw [if_neg hx]
      exact List.nodup_cons.mpr ⟨hx, ih⟩

/-- what a stable insertion sort guarantees: ordered by `le`, and elements of equal rank keep a
    relation `Q` that held in the input (in input order) -/
theorem pairwise_insertBy {α : Type} {le : α → α → Bool} {Q : α → α → Prop}
    (total : ∀ a b, le a b = true ∨ le b a = true)
    (trans : ∀ a b c, le a b = true → le b c = true → le a c = true)
    (x : α) (S : List α)
    (hS : S.Pairwise (fun a b => le a b = true ∧ (le b a = true → Q a b)))
    (hx : ∀ y ∈ S, le x y = true → le y x = true → Q x y) :
    (insertBy le x S).Pairwise (fun a b => le a b = true ∧ (le b a = true → Q a b)) := by
  induction S with
  | nil => exact List.pairwise_singleton _ _
  | cons y ys ih =>
    have hS' := List.pairwise_cons.mp hS
    rw [insertBy]
    split
    · rename_i hxy
      refine List.pairwise_cons.mpr ⟨fun z hz => ?_, hS⟩
      have hxz : le x z = true := by
        rcases List.mem_cons.mp hz with rfl | hz'
        · exact hxy
        · exact trans _ _ _ hxy (hS'.1 z hz').1
      exact ⟨hxz, hx z hz hxz⟩
    · rename_i hxy
      refine List.pairwise_cons.mpr ⟨fun z hz => ?_, ih hS'.2 (fun z hz => hx z (List.mem_cons_of_mem _ hz))⟩
      rcases List.mem_cons.mp ((insertBy_perm le x ys).mem_iff.mp hz) with rfl | hz'
      · exact ⟨(total z y).resolve_left hxy, fun h => absurd h hxy⟩
      · exact hS'.1 z hz'

theorem pairwise_sortBy {α : Type} {le : α → α → Bool} {Q : α → α → Prop}
    (total : ∀ a b, le a b = true ∨ le b a = true)
    (trans : ∀ a b c, le a b = true → le b c = true → le a c = true)
    (l : List α) (hl : l.Pairwise (fun a b => le a b = true → le b a = true → Q a b)) :
    (sortBy le l).Pairwise (fun a b => le a b = true ∧ (le b a = true → Q a b)) := by
  induction hl with
  | nil => exact List.Pairwise.nil
  | cons hx _ ih =>
    exact pairwise_insertBy total trans _ _ ih (fun y hy => hx y ((sortBy_perm le _).mem_iff.mp hy))

theorem dirLe_total (a b : Comps) : dirLe a b = true ∨ dirLe b a = true := by
  simp only [dirLe, decide_eq_true_eq]
  exact String.le_total _ _

theorem dirLe_trans (a b c : Comps) (h1 : dirLe a b = true) (h2 : dirLe b c = true) : dirLe a c = true := by
  simp only [dirLe, decide_eq_true_eq] at *
  exact String.le_trans h1 h2

theorem dirLe_of_prefix {a b : Comps} (h : b <+: a) : dirLe b a = true := by
  rcases h with ⟨r, rfl⟩
  simp only [dirLe, decide_eq_true_eq, joinSlash, joinWithChar, List.map_append]
  have hle := List.IsPrefix.le (joinC_prefix '/' (b.map String.toList) (r.map String.toList))
  show ¬ (String.ofList _).toList < (String.ofList _).toList
  rw [String.toList_ofList, String.toList_ofList]
  exact hle

/-- the only strict prefix pair whose joined names coincide: the root `[]` and a directory named `""` -/
theorem joinSlash_eq_of_prefix {a b : Comps} (h : b <+: a) (hne : b ≠ a) (heq : joinSlash b = joinSlash a) :
    b = [] ∧ a = [""] := by
  rcases h with ⟨r, rfl⟩
  cases r with
  | nil => exact absurd (List.append_nil b).symm hne
  | cons c r' =>
    simp only [joinSlash, joinWithChar, List.map_append, List.map_cons] at heq
    have heq' := congrArg String.toList heq
    rw [String.toList_ofList, String.toList_ofList] at heq'
    cases b with
    | cons x xs =>
      have := joinC_length_lt '/' ((x :: xs).map String.toList) (List.cons_ne_nil _ _) c.toList
        (r'.map String.toList)
      rw [← heq'] at this
      exact absurd this (Nat.lt_irrefl _)
    | nil =>
      refine ⟨rfl, ?_⟩
      cases r' with
      | cons y ys =>
        -- the join of two or more parts contains a separator
        exact absurd (List.append_eq_nil_iff.mp heq'.symm).2 (List.cons_ne_nil _ _)
      | nil =>
        have hc : c = "" := String.toList_inj.mp heq'.symm
        rw [hc, List.nil_append]

/-- `b` is a strict prefix of `a`, and `U b`: a pair that must not occur in this order in a visiting
    list.  `U` restricts the claim to the directories that matter: `Under E` for the analysers (the
    proviso of `sortDirs_parentsFirst` then bites only when a job sits at the target root),
    everything for `ParentsFirst`. -/
def BadPair (U : Comps → Prop) (a b : Comps) : Prop := b <+: a ∧ b ≠ a ∧ U b

/-- After `sorted(dirs)` no directory `b` with `U b` comes after one that lies strictly below it —
    provided that, if `U []`, the input does not list `[""]` before `[]`. -/
theorem sortDirs_parentsFirst (U : Comps → Prop) (l : List Comps)
    (hl : U [] → l.Pairwise (fun a b => ¬ (a = [""] ∧ b = []))) :
    (sortDirs l).Pairwise (fun a b => ¬ BadPair U a b) := by
  have hin : l.Pairwise (fun a b => dirLe a b = true → dirLe b a = true → ¬ BadPair U a b) := by
    have key : ∀ a b : Comps, dirLe a b = true → dirLe b a = true → BadPair U a b →
        a = [""] ∧ b = [] ∧ U [] := by
      intro a b h1 h2 hb
      simp only [dirLe, decide_eq_true_eq] at h1 h2
      have := joinSlash_eq_of_prefix hb.1 hb.2.1 (String.le_antisymm h2 h1)
      exact ⟨this.2, this.1, this.1 ▸ hb.2.2⟩
    by_cases hu : U []
    · exact (hl hu).imp fun hab h1 h2 hb => hab ⟨(key _ _ h1 h2 hb).1, (key _ _ h1 h2 hb).2.1⟩
    · exact List.pairwise_of_forall (fun a b h1 h2 hb => hu (key a b h1 h2 hb).2.2)
  exact (pairwise_sortBy dirLe_total dirLe_trans l hin).imp fun hT hb => hT.2 (dirLe_of_prefix hb.1) hb

theorem sortDirs_parentsFirst_of_not_mem (U : Comps → Prop) (l : List Comps) (h : U [] → [""] ∉ l) :
    (sortDirs l).Pairwise (fun a b => ¬ BadPair U a b) :=
  sortDirs_parentsFirst U l fun hu =>
    (List.pairwise_of_forall (R := fun _ _ => True) (fun _ _ => trivial)).imp_of_mem
      fun ha _ _ hab => h hu (hab.1 ▸ ha)

theorem pairwise_not_of_not_mem_right {α : Type} (a0 b0 : α) (l : List α) (h : b0 ∉ l) :
    l.Pairwise (fun a b => ¬ (a = a0 ∧ b = b0)) :=
  (List.pairwise_of_forall (R := fun _ _ => True) (fun _ _ => trivial)).imp_of_mem
    fun _ hb _ hab => h (hab.2 ▸ hb)

end Signac.IE
