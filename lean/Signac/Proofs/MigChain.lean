/- C20: the gate; lookups in the entry table and the project document after `renameEnt` / `docSet`;
   what the migration chain does to a well-formed legacy project, to a colliding one, to an
   up-to-date one and to a too-new one.  Defines `WellFormed`, `Collides`, `migrated` of the C20
   statements. -/
import Signac.Migration
namespace Signac.Mig
open Signac

theorem schema_eq : SCHEMA = 2 := rfl

theorem gate_eq (v : Nat) : gate v = if v = SCHEMA then .ok else .incompatible := by
  unfold gate
  split
  · rename_i h; rw [if_neg (Nat.ne_of_gt h)]
  · split
    · rename_i h; rw [if_neg (Nat.ne_of_lt h)]
    · rename_i h1 h2; rw [if_pos (Nat.le_antisymm (Nat.not_lt.mp h1) (Nat.not_lt.mp h2))]

theorem gate_ok_iff (v : Nat) : gate v = .ok ↔ v = SCHEMA := by
  rw [gate_eq]; split <;> simp [*]

theorem gate_refuses_iff (v : Nat) : gate v = .incompatible ↔ v ≠ SCHEMA := by
  rw [ne_eq, ← gate_ok_iff]
  cases gate v <;> simp

/-! ### entry table -/

theorem lookup_renameEnt_dst (src dst : String) (ents : List (String × Blob))
    (hd : ents.lookup dst = none) :
    (renameEnt src dst ents).lookup dst = ents.lookup src := by
  fun_induction renameEnt src dst ents with
  | case1 => rfl
  | case2 b rest => rw [List.lookup_cons_self, List.lookup_cons_self]
  | case3 k b rest h ih =>
    rw [List.lookup_cons] at hd
    cases hdk : dst == k <;> rw [hdk] at hd
    · rw [List.lookup_cons, hdk, List.lookup_cons, beq_false_of_ne (Ne.symm h)]
      exact ih hd
    · cases hd

theorem lookup_renameEnt_other (src dst k : String) (ents : List (String × Blob))
    (h1 : k ≠ src) (h2 : k ≠ dst) :
    (renameEnt src dst ents).lookup k = ents.lookup k := by
  fun_induction renameEnt src dst ents with
  | case1 => rfl
  | case2 b rest =>
    rw [List.lookup_cons, List.lookup_cons, beq_false_of_ne h2, beq_false_of_ne h1]
  | case3 k' b rest h ih => rw [List.lookup_cons, List.lookup_cons, ih]

theorem lookup_docSet (k k0 : String) (v : JVal) (d : List (String × JVal)) :
    (docSet k v d).lookup k0 = if k0 = k then some v else d.lookup k0 := by
  have hcons : ∀ (k' : String) (v' : JVal) (l : List (String × JVal)),
      ((k', v') :: l).lookup k0 = if k0 = k' then some v' else l.lookup k0 := fun k' v' l => by
    rw [List.lookup_cons]
    by_cases h : k0 = k'
    · rw [if_pos h, beq_iff_eq.mpr h]
    · rw [if_neg h, beq_false_of_ne h]
  fun_induction docSet k v d with
  | case1 => exact hcons ..
  | case2 v' rest => rw [hcons, hcons]; split <;> rfl
  | case3 k' v' rest h ih =>
    rw [hcons, hcons, ih]
    by_cases h0 : k0 = k'
    · rw [if_pos h0, if_neg (h0 ▸ h), if_pos h0]
    · rw [if_neg h0, if_neg h0]

/-! ### the chain -/

/-- A legacy (v0 / v1) project as old signac left it: a loadable `signac.rc` declaring version
    0 or 1, no `.signac` directory, and — if a custom workspace directory is configured — that
    directory present. -/
structure WellFormed (L : Proj) (c : Conf) (name : String) : Prop where
  rc : L.rc = some c
  project : c.project = some name
  version : c.version.getD 0 ≤ 1
  cfg : L.cfg = none
  dot : L.dotSignac = false
  src : wsName c ≠ "workspace" → hasEnt L (wsName c) = true

/-- the configured workspace would have to replace something that is already called `workspace` -/
def Collides (L : Proj) (c : Conf) : Prop := wsName c ≠ "workspace" ∧ hasEnt L "workspace" = true

/-- what a successful migration of `L` looks like -/
def migrated (L : Proj) (c : Conf) (name : String) : Proj :=
  { rc := none
    cfg := some { version := some 2, project := none, wsDir := none }
    dotSignac := true
    ents := if wsName c ≠ "workspace" then renameEnt (wsName c) "workspace" L.ents else L.ents
    doc := if name ≠ "None" then some (docSet "signac_project_name" (.str name) (L.doc.getD []))
           else L.doc
    cacheOld := none
    histOld := none
    cacheNew := if L.cacheOld.isSome then L.cacheOld else L.cacheNew
    histNew := if L.histOld.isSome then L.histOld else L.histNew
    lock := false
    rest := L.rest }

theorem loadV1_of_rc {Q : Proj} {c : Conf} (hrc : Q.rc = some c) (hp : c.project.isSome = true) :
    loadV1 Q = some c := by
  rw [loadV1, hrc]; exact if_pos hp

theorem detect_legacy (Q : Proj) (c : Conf) (g : Nat) (hrc : Q.rc = some c)
    (hp : c.project.isSome = true) (hcfg : Q.cfg = none) :
    detect Q g = some (c.version.getD 0) := by
  have h1 := loadV1_of_rc hrc hp
  have h2 : loadV2 Q = none := by simp [loadV2, hcfg]
  unfold detect
  by_cases hg : g = 1 ∨ g = 2
  · rcases hg with rfl | rfl <;> simp [firstLoad, loader, h1, h2]
  · simp [hg, firstLoad, loader, h1, h2]

theorem detect_current (Q : Proj) (c : Conf) (hcfg : Q.cfg = some c) :
    detect Q 2 = some (c.version.getD 0) := by
  simp [detect, firstLoad, loader, loadV2, hcfg]

theorem bump_one {P : Proj} {c : Conf} (h : loadV1 P = some c) :
    bump 1 P = some { P with rc := some { c with version := some 1 } } := by
  rw [bump, if_pos rfl, h]; rfl

theorem bump_two {P : Proj} {c : Conf} (h : P.cfg = some c) :
    bump 2 P = some { P with cfg := some { c with version := some 2 } } := by
  rw [bump, if_neg (by decide), if_pos rfl, loadV2, h]; rfl

theorem migrate12_ok {Q : Proj} {c : Conf} (h1 : loadV1 Q = some c) (hdot : Q.dotSignac = false)
    (hsrc : wsName c ≠ "workspace" → hasEnt Q (wsName c) = true)
    (hcol : ¬ (wsName c ≠ "workspace" ∧ hasEnt Q "workspace" = true)) :
    migrate12 Q =
      ({ Q with
          ents := if wsName c ≠ "workspace" then renameEnt (wsName c) "workspace" Q.ents else Q.ents
          doc := if c.project ≠ some "None"
                 then some (docSet "signac_project_name" (.str (c.project.getD "")) (Q.doc.getD []))
                 else Q.doc
          rc := none
          cfg := some { c with project := none, wsDir := none }
          dotSignac := true
          histOld := none
          histNew := if Q.histOld.isSome then Q.histOld else Q.histNew
          cacheOld := none
          cacheNew := if Q.cacheOld.isSome then Q.cacheOld else Q.cacheNew }, true) := by
  unfold migrate12
  rw [h1]
  simp only []
  rw [if_neg hcol, if_neg (fun h => h.2 (hsrc h.1)), hdot]
  rfl

theorem migrate12_collides {Q : Proj} {c : Conf} (h1 : loadV1 Q = some c)
    (hcol : wsName c ≠ "workspace" ∧ hasEnt Q "workspace" = true) : migrate12 Q = (Q, false) := by
  unfold migrate12
  rw [h1]
  exact if_pos hcol

/-! one round of the loop, by what is found on disk -/

theorem loop_v0 (f g : Nat) (P P' : Proj) (hd : detect P g = some 0) (hb : bump 1 P = some P') :
    loop (f + 1) g P = loop f 1 P' := by
  simp only [loop, hd, hb, show (0 : Nat) < SCHEMA by decide, if_true]

theorem loop_v1_ok (f g : Nat) (P P' P'' : Proj) (hd : detect P g = some 1)
    (hm : migrate12 P = (P', true)) (hb : bump 2 P' = some P'') :
    loop (f + 1) g P = loop f 2 P'' := by
  simp only [loop, hd, hm, hb, show (1 : Nat) < SCHEMA by decide, if_true,
    show ¬ ((1 : Nat) = 0) by decide, if_false]

theorem loop_v1_fail (f g : Nat) (P P' : Proj) (hd : detect P g = some 1)
    (hm : migrate12 P = (P', false)) :
    loop (f + 1) g P = (P', .failed 2) := by
  simp only [loop, hd, hm, show (1 : Nat) < SCHEMA by decide, if_true,
    show ¬ ((1 : Nat) = 0) by decide, if_false]

theorem loop_done (f g v : Nat) (P : Proj) (hd : detect P g = some v) (hv : ¬ v < SCHEMA) :
    loop (f + 1) g P = (P, .ok) := by
  simp only [loop, hd, hv, if_false]

theorem loop_from_v1 (Q : Proj) (c : Conf) (name : String) (fuel : Nat)
    (hrc : Q.rc = some c) (hp : c.project = some name) (hv : c.version = some 1)
    (hcfg : Q.cfg = none) (hdot : Q.dotSignac = false)
    (hsrc : wsName c ≠ "workspace" → hasEnt Q (wsName c) = true)
    (hcol : ¬ (wsName c ≠ "workspace" ∧ hasEnt Q "workspace" = true)) :
    loop (fuel + 2) 1 Q = ({ migrated Q c name with lock := Q.lock }, .ok) := by
  have hps : c.project.isSome = true := by rw [hp]; rfl
  have hd : detect Q 1 = some 1 := by rw [detect_legacy Q c 1 hrc hps hcfg, hv]; rfl
  rw [loop_v1_ok (fuel + 1) 1 Q _ _ hd (migrate12_ok (loadV1_of_rc hrc hps) hdot hsrc hcol)
      (bump_two rfl),
    loop_done fuel 2 2 _ (by rw [detect_current _ _ rfl]; rfl) (by decide)]
  simp only [migrated, hp, Option.getD_some, ne_eq, Option.some.injEq]

/-- A legacy project declaring version 0 or 1: the chain comes to the loop started at version 1
    on the locked project whose `signac.rc` says `schema_version = 1` (for version 0 after the
    empty migration and the bump), with the lock removed at the end.  `f` is the fuel left over:
    0 for version 0 (the 0 → 1 round has used one unit), 1 for version 1. -/
theorem applyMigrations_legacy (L : Proj) (c : Conf) (hrc : L.rc = some c)
    (hp : c.project.isSome = true) (hv : c.version.getD 0 ≤ 1) (hcfg : L.cfg = none) :
    ∃ f, ∀ Q r, loop (f + 2) 1 { L with lock := true, rc := some { c with version := some 1 } } = (Q, r) →
      applyMigrations L = ({ Q with lock := false }, r) := by
  have hd : ∀ g, detect { L with lock := true } g = some (c.version.getD 0) :=
    fun g => detect_legacy { L with lock := true } c g hrc hp hcfg
  unfold applyMigrations
  simp only [hd, show ¬ (c.version.getD 0 > SCHEMA) by rw [schema_eq]; omega, if_false]
  rw [show SCHEMA + 1 = 2 + 1 from rfl]
  rcases Nat.le_one_iff_eq_zero_or_eq_one.mp hv with h0 | h1
  · refine ⟨0, fun Q r h => ?_⟩
    rw [h0, loop_v0 2 0 { L with lock := true } _ (by rw [hd 0, h0]) (bump_one (loadV1_of_rc hrc hp)), h]
  · have hc : c = { c with version := some 1 } := by
      obtain ⟨_ | n, _, _⟩ := c
      · cases h1
      · cases (show n = 1 from h1); rfl
    refine ⟨1, fun Q r h => ?_⟩
    rw [← hc, ← hrc] at h
    rw [h1, h]

theorem applyMigrations_wf (L : Proj) (c : Conf) (name : String) (wf : WellFormed L c name)
    (hcol : ¬ Collides L c) : applyMigrations L = (migrated L c name, .ok) := by
  obtain ⟨hrc, hp, hv, hcfg, hdot, hsrc⟩ := wf
  obtain ⟨f, h⟩ := applyMigrations_legacy L c hrc (by rw [hp]; rfl) hv hcfg
  exact h _ _ (loop_from_v1 _ { c with version := some 1 } name f rfl hp rfl hcfg hdot hsrc hcol)

/-- collision: the chain stops in `_migrate_v1_to_v2` before anything is moved; the only
    thing that may have changed is the version written into `signac.rc` by the 0 → 1 bump. -/
theorem applyMigrations_collision (L : Proj) (c : Conf) (name : String) (hrc : L.rc = some c)
    (hp : c.project = some name) (hv : c.version.getD 0 ≤ 1) (hcfg : L.cfg = none)
    (hcol : Collides L c) :
    applyMigrations L =
      ({ L with lock := false, rc := some { c with version := some 1 } }, .failed 2) := by
  have hps : c.project.isSome = true := by rw [hp]; rfl
  obtain ⟨f, h⟩ := applyMigrations_legacy L c hrc hps hv hcfg
  exact h _ _ (loop_v1_fail (f + 1) 1 _ _
    (detect_legacy _ { c with version := some 1 } 1 rfl hps hcfg)
    (migrate12_collides (c := { c with version := some 1 }) (loadV1_of_rc rfl hps) hcol))

theorem applyMigrations_uptodate (L : Proj) (c : Conf) (hcfg : L.cfg = some c)
    (hv : c.version = some SCHEMA) : applyMigrations L = ({ L with lock := false }, .ok) := by
  unfold applyMigrations
  have hd : detect { L with lock := true } SCHEMA = some SCHEMA := by
    rw [schema_eq, detect_current { L with lock := true } c hcfg, hv]; rfl
  simp only [hd, Nat.lt_irrefl, gt_iff_lt, if_false]
  rw [loop_done SCHEMA SCHEMA SCHEMA _ hd (Nat.lt_irrefl _)]

theorem applyMigrations_tooNew (L : Proj) (v : Nat) (hd : detect { L with lock := true } SCHEMA = some v)
    (hv : v > SCHEMA) : applyMigrations L = ({ L with lock := false }, .tooNew) := by
  unfold applyMigrations
  simp [hd, hv]

theorem unlock_eq {L : Proj} (h : L.lock = false) : { L with lock := false } = L := by
  cases L; cases h; rfl

end Signac.Mig
