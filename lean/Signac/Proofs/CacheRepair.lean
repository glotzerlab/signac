/-
  C09 helper lemmas: check is exact, open-by-id is sound for any damage; one iteration of
  `Project.repair()` read as three steps (`lookRaw`: look the state point up without validation,
  `relocate`: move the directory to the id of what was found, `initTwice`), each with its own
  lemmas; repair keeps the cache invariant.  `Known`, `StepOk`: preliminaries for the case that
  every state point is cached (CacheRepairRename).  Core only.
-/
import Signac.Proofs.CacheRun
namespace Signac.Cache
open Signac Signac.Ws

section
variable {hash : JVal → String}

theorem loadValid_isNone_iff (d : Dir) (id : String) :
    (loadValid hash d id).isNone = true ↔
      (d.sp = .absent ∨ d.sp = .garbage ∨ ∃ v, d.sp = .valid v ∧ hash v ≠ id) := by
  unfold loadValid
  cases d.sp with
  | absent => exact iff_of_true rfl (Or.inl rfl)
  | garbage => exact iff_of_true rfl (Or.inr (Or.inl rfl))
  | valid v =>
    dsimp only
    by_cases h : hash v = id
    · rw [if_pos h]
      exact iff_of_false nofun fun h' => h'.elim nofun fun h' => h'.elim nofun
        fun ⟨w, e, hw⟩ => hw (SpFile.valid.inj e ▸ h)
    · rw [if_neg h]
      exact iff_of_true rfl (Or.inr (Or.inr ⟨v, rfl, h⟩))

/-- `check()` names exactly the directories whose file is missing, unparsable, or parses to a
    value with another hash. -/
theorem check_exact (s : St) (id : String) :
    id ∈ check hash s ↔ ∃ d, (id, d) ∈ s.ws ∧
      (d.sp = .absent ∨ d.sp = .garbage ∨ ∃ v, d.sp = .valid v ∧ hash v ≠ id) := by
  unfold check
  rw [List.mem_map]
  constructor
  · rintro ⟨⟨i, d⟩, hm, rfl⟩
    exact ⟨d, (List.mem_filter.mp hm).1, (loadValid_isNone_iff d i).mp (List.mem_filter.mp hm).2⟩
  · rintro ⟨d, hm, h⟩
    exact ⟨(id, d), List.mem_filter.mpr ⟨hm, (loadValid_isNone_iff d id).mpr h⟩, rfl⟩

theorem check_nil_iff (s : St) : check hash s = [] ↔ AllValid hash s.ws := by
  unfold check AllValid
  rw [List.map_eq_nil_iff, List.filter_eq_nil_iff]
  refine ⟨fun h id d hm => ?_, fun h e he => ?_⟩
  · have := h (id, d) hm
    cases hl : loadValid hash d id with
    | some _ => rfl
    | none => rw [hl] at this; exact absurd rfl this
  · have := h e.1 e.2 he
    cases hl : loadValid hash e.2 e.1 with
    | some _ => exact Bool.false_ne_true
    | none => rw [hl] at this; cases this

/-- Opening by id in a FRESH session never yields a state point whose hash differs from the id —
    for any workspace content whatsoever (any damage), provided the cache file (if any) is sound. -/
theorem openById_fresh_sound (s : St) (hfile : ∀ c, s.cacheFile = some c → MapInv hash c)
    (id : String) (v : JVal) (hr : (openById hash (newSession s) id).2 = .ok v) : hash v = id :=
  getStatepoint_sound (s := newSession s) ⟨fun _ _ hm => (nomatch hm), hfile⟩ id hr

end

section
variable (hash : JVal → String)

/-- `_get_statepoint(id, validate=False)` once the cache file has been read: the session cache, else
    the state point file if it holds a mapping (which is then registered under `id`, right or wrong) -/
def lookRaw (s : St) (id : String) : St × Option JVal :=
  match alookup id s.session with
  | some v => (s, some v)
  | none => match alookup id s.ws with
    | some d => match d.sp with
      | .valid (.obj kvs) => (register s id (.obj kvs), some (.obj kvs))
      | _ => (s, none)
    | none => (s, none)

/-- the directory `id` moved to the name `correct`, unless that is taken by a non-empty directory -/
def relocate (s : St) (id correct : String) : Option St :=
  match alookup id s.ws with
  | none => none
  | some d =>
    match alookup correct s.ws with
    | some d2 => if dirEmpty d2 then some { s with ws := aset correct d (aerase id s.ws) } else none
    | none => some { s with ws := aerase id s.ws ++ [(correct, d)] }

/-- `init()`, and `init(force=True)` if that fails -/
def initTwice (s : St) (sp : JVal) : St × Bool :=
  match initJob hash s sp false with
  | (s', none) => (s', false)
  | (s', some _) =>
    match initJob hash s' sp true with
    | (s'', none) => (s'', false)
    | (s'', some _) => (s'', true)

theorem repairOne_eq (s : St) (id : String) :
    repairOne hash s id =
      match lookRaw (ensureRead s) id with
      | (s, none) => (s, true)
      | (s, some sp) =>
        let s : St := if hash sp = id then s else { s with session := aerase id s.session }
        match (if hash sp = id then some s else relocate s id (hash sp)) with
        | none => (s, true)
        | some s => initTwice hash s sp := by
  unfold repairOne lookRaw relocate initTwice
  rfl

variable {hash}

theorem repairOne_ensureRead (s : St) (id : String) :
    repairOne hash (ensureRead s) id = repairOne hash s id := by
  rw [repairOne_eq, repairOne_eq, ensureRead_of_read (ensureRead_cacheRead s)]

variable {s u : St} {id : String} {sp : JVal}

theorem repairOne_of_none (hr : s.cacheRead = true) (h : lookRaw s id = (u, none)) :
    repairOne hash s id = (u, true) := by
  rw [repairOne_eq, ensureRead_of_read hr, h]

theorem repairOne_of_right (hr : s.cacheRead = true) (h : lookRaw s id = (u, some sp))
    (he : hash sp = id) : repairOne hash s id = initTwice hash u sp := by
  rw [repairOne_eq, ensureRead_of_read hr, h]
  dsimp only
  rw [if_pos he, if_pos he]

/-- the state point found hashes to another name: it is not kept cached under `id`, and the
    directory moves if it can -/
theorem repairOne_of_wrong (hr : s.cacheRead = true) (h : lookRaw s id = (u, some sp))
    (hne : hash sp ≠ id) :
    repairOne hash s id =
      match relocate { u with session := aerase id u.session } id (hash sp) with
      | none => ({ u with session := aerase id u.session }, true)
      | some s' => initTwice hash s' sp := by
  rw [repairOne_eq, ensureRead_of_read hr, h]
  dsimp only
  rw [if_neg hne, if_neg hne]

theorem lookRaw_cases {motive : St × Option JVal → Prop} (s : St) (id : String)
    (cached : ∀ v, alookup id s.session = some v → motive (s, some v))
    (read : ∀ d kvs, alookup id s.session = none → alookup id s.ws = some d → d.sp = .valid (.obj kvs) →
      motive (register s id (.obj kvs), some (.obj kvs)))
    (nothing : alookup id s.session = none → motive (s, none)) : motive (lookRaw s id) := by
  unfold lookRaw
  cases hs : alookup id s.session with
  | some v => exact cached v hs
  | none =>
    dsimp only
    cases hd : alookup id s.ws with
    | none => exact nothing hs
    | some d =>
      dsimp only
      split
      · exact read d _ hs hd ‹_›
      · exact nothing hs

theorem lookRaw_read {s : St} {id : String} {d : Dir} {kvs : List (String × JVal)}
    (hs : alookup id s.session = none) (hd : alookup id s.ws = some d) (hsp : d.sp = .valid (.obj kvs)) :
    lookRaw s id = (register s id (.obj kvs), some (.obj kvs)) := by
  unfold lookRaw
  rw [hs, hd]
  dsimp only
  rw [hsp]

section
variable {s : St} {id c : String} {d d2 : Dir} (hd : alookup id s.ws = some d)
include hd

theorem relocate_free (hf : alookup c s.ws = none) :
    relocate s id c = some { s with ws := aerase id s.ws ++ [(c, d)] } := by
  unfold relocate
  rw [hd, hf]

theorem relocate_onto_empty (ho : alookup c s.ws = some d2) (he : dirEmpty d2 = true) :
    relocate s id c = some { s with ws := aset c d (aerase id s.ws) } := by
  unfold relocate
  rw [hd, ho]
  exact if_pos he

theorem relocate_blocked (ho : alookup c s.ws = some d2) (he : dirEmpty d2 = false) :
    relocate s id c = none := by
  unfold relocate
  rw [hd, ho]
  dsimp only
  rw [he]
  rfl

end

theorem cacheInv_relocate {s s' : St} {id c : String} (h : relocate s id c = some s')
    (hc : CacheInv hash s) : CacheInv hash s' := by
  unfold relocate at h
  split at h
  · cases h
  · split at h
    · split at h
      · cases h; exact hc
      · cases h
    · cases h; exact hc

theorem cacheInv_initTwice {s : St} (h : CacheInv hash s) (sp : JVal) :
    CacheInv hash (initTwice hash s sp).1 := by
  unfold initTwice
  have h1 := cacheInv_initJob h sp false
  cases hr : initJob hash s sp false with
  | mk s' e =>
    rw [hr] at h1
    cases e with
    | none => exact h1
    | some _ =>
      dsimp only
      have h2 := cacheInv_initJob (s := s') h1 sp true
      cases hr2 : initJob hash s' sp true with
      | mk s'' e2 =>
        rw [hr2] at h2
        cases e2 <;> exact h2

section
/- an existing directory, on a state that has read the cache file -/
variable {s : St} {v : JVal} {d : Dir} (hr : s.cacheRead = true) (hl : alookup (hash v) s.ws = some d)
include hr hl

/-- the outcomes of `initJob_cases` with the directory fixed -/
theorem initJob_existing_cases {motive : St × Option Err → Prop} (force : Bool)
    (valid : ∀ w, loadValid hash d (hash v) = some w → motive (s, none))
    (written : loadValid hash d (hash v) = none → (d.sp = .absent ∨ force = true) →
      motive (register { s with ws := aset (hash v) { d with sp := .valid v } s.ws } (hash v) v, none))
    (refused : loadValid hash d (hash v) = none → d.sp ≠ .absent → force = false →
      motive (s, some (.corrupted [hash v]))) : motive (initJob hash s v force) := by
  have he := ensureRead_of_read hr
  refine initJob_cases s v force (fun d' w hl' hv => ?_) (fun d' hl' hn hw => ?_)
    (fun d' hl' hn hna hf => ?_) (fun hl' => ?_) <;> rw [he] at hl' ⊢
  · cases hl.symm.trans hl'; exact valid w hv
  · cases hl.symm.trans hl'; exact written hn hw
  · cases hl.symm.trans hl'; exact refused hn hna hf
  · cases hl.symm.trans hl'

theorem initJob_valid {w : JVal} (hv : loadValid hash d (hash v) = some w) (force : Bool) : initJob hash s v force = (s, none) :=
  initJob_existing_cases (motive := (· = (s, none))) hr hl force (fun _ _ => rfl)
    (fun hn _ => nomatch hv.symm.trans hn) (fun hn _ _ => nomatch hv.symm.trans hn)

theorem initJob_written (hn : loadValid hash d (hash v) = none) {force : Bool} (hw : d.sp = .absent ∨ force = true) :
    initJob hash s v force =
      (register { s with ws := aset (hash v) { d with sp := .valid v } s.ws } (hash v) v, none) :=
  initJob_existing_cases (motive := (· = _)) hr hl force (fun _ hv => nomatch hv.symm.trans hn)
    (fun _ _ => rfl) (fun _ hna hf => (hw.elim hna fun h => nomatch h.symm.trans hf).elim)

theorem initJob_refused (hn : loadValid hash d (hash v) = none) (hna : d.sp ≠ .absent) :
    initJob hash s v false = (s, some (.corrupted [hash v])) :=
  initJob_existing_cases (motive := (· = _)) hr hl false (fun _ hv => nomatch hv.symm.trans hn)
    (fun _ hw => (hw.elim hna nofun).elim) (fun _ _ _ => rfl)

theorem initTwice_valid {w : JVal} (hv : loadValid hash d (hash v) = some w) : initTwice hash s v = (s, false) := by
  unfold initTwice
  rw [initJob_valid hr hl hv]

/-- Whatever is wrong with the state point file of an existing directory, the two calls together
    write it. -/
theorem initTwice_invalid (hn : loadValid hash d (hash v) = none) :
    initTwice hash s v =
      (register { s with ws := aset (hash v) { d with sp := .valid v } s.ws } (hash v) v, false) := by
  unfold initTwice
  by_cases ha : d.sp = .absent
  · rw [initJob_written hr hl hn (Or.inl ha)]
  · rw [initJob_refused hr hl hn ha]
    dsimp only
    rw [initJob_written hr hl hn (Or.inr rfl)]

end

theorem mapInv_erase_aset {m : List (String × JVal)} (h : MapInv hash m) (id : String) (v : JVal) :
    MapInv hash (aerase id (aset id v m)) := by
  intro i w hm
  obtain ⟨hm1, hne⟩ := mem_aerase_iff.mp hm
  exact (mem_aset hm1).elim (fun he => absurd (congrArg Prod.fst he) hne) (h i w)

/-- One iteration of repair keeps the cache invariant, whatever the damage: a state point read
    without validation is either registered under its true id or dropped again. -/
theorem cacheInv_repairOne (s : St) (id : String) (hc : CacheInv hash s) :
    CacheInv hash (repairOne hash s id).1 := by
  have hc0 := cacheInv_ensureRead hc
  have hr := ensureRead_cacheRead s
  rw [← repairOne_ensureRead]
  generalize ensureRead s = t at hc0 hr
  -- after the first step: sound as it stands if the state point belongs to `id`, and in any case
  -- once the entry of `id` is dropped
  have look : ∀ u r, lookRaw t id = (u, r) →
      (∀ sp, r = some sp → hash sp = id → CacheInv hash u) ∧ (r = none → CacheInv hash u) ∧
      CacheInv hash { u with session := aerase id u.session } := by
    intro u r
    refine lookRaw_cases (motive := fun p => p = (u, r) → _) t id
      (fun v _ e => ?_) (fun d kvs _ _ _ e => ?_) (fun _ e => ?_) <;> cases e
    · exact ⟨fun _ _ _ => hc0, fun _ => hc0, mapInv_erase hc0.1 id, hc0.2⟩
    · exact ⟨fun _ e he => cacheInv_register hc0 (Option.some.inj e ▸ he), nofun,
        mapInv_erase_aset hc0.1 id _, hc0.2⟩
    · exact ⟨fun _ _ _ => hc0, fun _ => hc0, mapInv_erase hc0.1 id, hc0.2⟩
  cases hlook : lookRaw t id with
  | mk u r =>
    obtain ⟨hright, hnone, hdrop⟩ := look u r hlook
    cases r with
    | none => rw [repairOne_of_none hr hlook]; exact hnone rfl
    | some sp =>
      by_cases he : hash sp = id
      · rw [repairOne_of_right hr hlook he]; exact cacheInv_initTwice (hright sp rfl he) sp
      · rw [repairOne_of_wrong hr hlook he]
        cases hrel : relocate { u with session := aerase id u.session } id (hash sp) with
        | none => exact hdrop
        | some s' => exact cacheInv_initTwice (cacheInv_relocate hrel hdrop) sp

theorem repairLoop_cons (s : St) (id : String) (r : List String) :
    repairLoop hash s (id :: r) =
      ((repairLoop hash (repairOne hash s id).1 r).1,
        if (repairOne hash s id).2 then id :: (repairLoop hash (repairOne hash s id).1 r).2
        else (repairLoop hash (repairOne hash s id).1 r).2) := rfl

theorem cacheInv_repairLoop (ids : List String) (s : St) (hc : CacheInv hash s) :
    CacheInv hash (repairLoop hash s ids).1 := by
  induction ids generalizing s with
  | nil => exact hc
  | cons id r ih => rw [repairLoop_cons]; exact ih _ (cacheInv_repairOne s id hc)

/-- repair() keeps the cache invariant for ANY workspace content. -/
theorem cacheInv_repair (s : St) (hc : CacheInv hash s) : CacheInv hash (repair hash s).1 :=
  cacheInv_repairLoop _ _ (cacheInv_readCache hc)

/-- every listed id has a session entry hashing to it -/
def Known (hash : JVal → String) (s : St) : Prop :=
  ∀ id, id ∈ K s.ws → ∃ v, alookup id s.session = some v ∧ hash v = id

theorem known_of_isSome {s : St} (hm : MapInv hash s.session)
    (h : ∀ id, id ∈ K s.ws → (alookup id s.session).isSome = true) : Known hash s := fun id hid =>
  let ⟨v, hv⟩ := Option.isSome_iff_exists.mp (h id hid)
  ⟨v, hv, hm id v (alookup_some_mem hv)⟩

/-- what one iteration of repair guarantees for an id whose state point is known -/
structure StepOk (hash : JVal → String) (s s' : St) (id : String) : Prop where
  keys : K s'.ws = K s.ws
  valid : ∃ d, alookup id s'.ws = some d ∧ (loadValid hash d id).isSome = true
  others : ∀ j, j ≠ id → alookup j s'.ws = alookup j s.ws
  payload : ∀ d d', alookup id s.ws = some d → alookup id s'.ws = some d' → d'.payload = d.payload
  known : Known hash s'
  inv : CacheInv hash s'

end
end Signac.Cache
