/-
  Parallel = sequential: steps whose targets lie in different job directories commute, so
  every schedule that keeps each job's own steps in order gives the same workspace.  Core only.
-/
import Signac.Proofs.SyncBasic
namespace Signac.Sync

/-- the entry of the directory a step works in (for workspace-level steps: the job id) -/
def Step.head : Step → Name
  | .put n _ _ => n
  | .del n _ => n

/-- what a step does to the entry it works in (nothing, like `putP` / `delP`, when the step goes
    below an entry that is not a directory) -/
def Step.on : Step → Option Node → Option Node
  | .put _ [] c, _ => some c
  | .put _ (m :: p) c, some (.dir ch) => some (.dir (putP m p c ch))
  | .put _ (_ :: _) _, x => x
  | .del _ [], _ => none
  | .del _ (m :: p), some (.dir ch) => some (.dir (delP m p ch))
  | .del _ (_ :: _), x => x

theorem getE_apply_other (es : Entries) (s : Step) (k : Name) (h : k ≠ s.head) :
    getE k (s.apply es) = getE k es := by
  cases s with
  | put n p c =>
    simp only [Step.head] at h
    cases p with
    | nil => simp [Step.apply, putP, getE_setE_other h]
    | cons m q =>
      simp only [Step.apply, putP]
      split
      · exact getE_setE_other h _ _
      · rfl
  | del n p =>
    simp only [Step.head] at h
    cases p with
    | nil => simp [Step.apply, delP, getE_delE_other h]
    | cons m q =>
      simp only [Step.apply, delP]
      split
      · exact getE_setE_other h _ _
      · rfl

theorem getE_apply_same (es : Entries) (s : Step) : getE s.head (s.apply es) = s.on (getE s.head es) := by
  cases s with
  | put n p c =>
    cases p with
    | nil => simp [Step.apply, Step.head, Step.on, putP, getE_setE_same]
    | cons m q =>
      simp only [Step.apply, Step.head, putP]
      cases hg : getE n es with
      | none => simp [Step.on, hg]
      | some x =>
        cases x with
        | file f => simp [Step.on, hg]
        | dir ch => simp [Step.on, getE_setE_same]
  | del n p =>
    cases p with
    | nil => simp [Step.apply, Step.head, Step.on, delP, getE_delE_same]
    | cons m q =>
      simp only [Step.apply, Step.head, delP]
      cases hg : getE n es with
      | none => simp [Step.on, hg]
      | some x =>
        cases x with
        | file f => simp [Step.on, hg]
        | dir ch => simp [Step.on, getE_setE_same]

/-- the steps of a schedule that work in entry `k`, in schedule order -/
def stepsOf (k : Name) (l : List Step) : List Step := l.filter (fun s => s.head == k)

theorem getE_applyAll (k : Name) (l : List Step) : ∀ es : Entries,
    getE k (applyAll es l) = (stepsOf k l).foldl (fun x s => s.on x) (getE k es) := by
  induction l with
  | nil => intro es; simp [applyAll, stepsOf]
  | cons s tl ih =>
    intro es
    simp only [applyAll, List.foldl] at ih ⊢
    rw [ih]
    by_cases h : s.head = k
    · subst h
      simp [stepsOf, List.filter, getE_apply_same]
    · have h' : (s.head == k) = false := by simpa using h
      simp only [stepsOf, List.filter, h']
      rw [getE_apply_other es s k (fun e => h e.symm)]

/-- the commutation theorem: two schedules that contain, for every job, the same steps in the
    same order produce the same job directories -/
theorem schedules_agree (es : Entries) (l1 l2 : List Step)
    (h : ∀ k, stepsOf k l1 = stepsOf k l2) (k : Name) :
    getE k (applyAll es l1) = getE k (applyAll es l2) := by
  rw [getE_applyAll, getE_applyAll, h k]

/-- all steps logged for the job `id` have their footprint inside that job's directory -/
theorem head_under (id : Name) (s : Step) : (s.under id).head = id := by
  cases s <;> rfl

theorem stepsOf_map_under_same (id : Name) (ss : List Step) :
    stepsOf id (ss.map (Step.under id)) = ss.map (Step.under id) := by
  refine List.filter_eq_self.mpr (fun s hs => ?_)
  obtain ⟨s', _, rfl⟩ := List.mem_map.mp hs
  rw [head_under]; exact beq_self_eq_true id

theorem stepsOf_map_under_other {id k : Name} (h : id ≠ k) (ss : List Step) :
    stepsOf k (ss.map (Step.under id)) = [] := by
  refine List.filter_eq_nil_iff.mpr (fun s hs => ?_)
  obtain ⟨s', _, rfl⟩ := List.mem_map.mp hs
  rw [head_under]; exact fun e => h (beq_iff_eq.mp e)

theorem stepsOf_append (k : Name) (a b : List Step) : stepsOf k (a ++ b) = stepsOf k a ++ stepsOf k b := by
  simp [stepsOf, List.filter_append]

end Signac.Sync
