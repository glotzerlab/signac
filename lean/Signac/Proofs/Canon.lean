/-
  Helper lemmas for C01: sorted insertion commutes, `canon` works member by member and is
  invariant under re-ordering of object entries at any depth; the id is a function of the
  canonical form.  Core only.
-/
import Signac.Md5
namespace Signac

theorem str_trichotomy (a b : String) : a < b ∨ a = b ∨ b < a := by
  by_cases h1 : a < b
  · exact Or.inl h1
  · by_cases h2 : b < a
    · exact Or.inr (Or.inr h2)
    · exact Or.inr (Or.inl (String.le_antisymm (String.not_lt.mp h2) (String.not_lt.mp h1)))

theorem insertKV_nil (k : String) (v : JVal) : insertKV k v [] = [(k, v)] := rfl

theorem insertKV_lt {k k' : String} (h : k < k') (v v' : JVal) (r : List (String × JVal)) :
    insertKV k v ((k', v') :: r) = (k, v) :: (k', v') :: r := by
  simp only [insertKV, if_pos h]

theorem insertKV_eq (k : String) (v v' : JVal) (r : List (String × JVal)) :
    insertKV k v ((k, v') :: r) = (k, v) :: r := by
  simp only [insertKV, if_neg (String.lt_irrefl k), if_true]

theorem insertKV_gt {k k' : String} (h : k' < k) (v v' : JVal) (r : List (String × JVal)) :
    insertKV k v ((k', v') :: r) = (k', v') :: insertKV k v r := by
  simp only [insertKV, if_neg (String.lt_asymm h), if_neg (String.ne_of_lt h).symm]

/-- two insertions with `k1 < k2` commute: case split on where the head key lies relative to them -/
theorem insertKV_comm_lt {k1 k2 : String} (h12 : k1 < k2) (v1 v2 : JVal)
    (l : List (String × JVal)) :
    insertKV k1 v1 (insertKV k2 v2 l) = insertKV k2 v2 (insertKV k1 v1 l) := by
  induction l with
  | nil => rw [insertKV_nil, insertKV_nil, insertKV_lt h12, insertKV_gt h12, insertKV_nil]
  | cons hd tl ih =>
    obtain ⟨k, v⟩ := hd
    rcases str_trichotomy k1 k with h1 | h1 | h1
    · rcases str_trichotomy k2 k with h2 | h2 | h2
      · rw [insertKV_lt h2, insertKV_lt h1, insertKV_lt h12, insertKV_gt h12, insertKV_lt h2]
      · subst h2
        rw [insertKV_eq, insertKV_lt h1, insertKV_lt h1, insertKV_gt h1, insertKV_eq]
      · rw [insertKV_gt h2, insertKV_lt h1, insertKV_lt h1, insertKV_gt h12, insertKV_gt h2]
    · subst h1
      rw [insertKV_gt h12, insertKV_eq, insertKV_eq, insertKV_gt h12]
    · have h2 : k < k2 := String.lt_trans h1 h12
      rw [insertKV_gt h2, insertKV_gt h1, insertKV_gt h1, insertKV_gt h2, ih]

theorem insertKV_comm (k1 k2 : String) (v1 v2 : JVal) (h : k1 ≠ k2) (l : List (String × JVal)) :
    insertKV k1 v1 (insertKV k2 v2 l) = insertKV k2 v2 (insertKV k1 v1 l) := by
  rcases str_trichotomy k1 k2 with h12 | h12 | h12
  · exact insertKV_comm_lt h12 v1 v2 l
  · exact absurd h12 h
  · exact (insertKV_comm_lt h12 v2 v1 l).symm

theorem insertKV_mem {k : String} {v : JVal} {l : List (String × JVal)} {x : String × JVal}
    (h : x ∈ insertKV k v l) : x = (k, v) ∨ x ∈ l := by
  induction l with
  | nil => exact Or.inl (List.mem_singleton.mp h)
  | cons hd tl ih =>
    obtain ⟨k', v'⟩ := hd
    rcases str_trichotomy k k' with hk | hk | hk
    · rw [insertKV_lt hk] at h; exact List.mem_cons.mp h
    · subst hk
      rw [insertKV_eq] at h
      exact (List.mem_cons.mp h).imp_right (List.mem_cons_of_mem _)
    · rw [insertKV_gt hk] at h
      rcases List.mem_cons.mp h with h | h
      · exact Or.inr (h ▸ List.mem_cons_self)
      · exact (ih h).imp_right (List.mem_cons_of_mem _)

theorem canonList_eq_map (xs : List JVal) : canonList xs = xs.map canon := by
  induction xs with
  | nil => rfl
  | cons x xs ih => rw [canonList, ih, List.map_cons]

theorem canonList_append (xs ys : List JVal) :
    canonList (xs ++ ys) = canonList xs ++ canonList ys := by
  rw [canonList_eq_map, canonList_eq_map, canonList_eq_map, List.map_append]

theorem mem_canonObj {kv : String × JVal} {kvs : List (String × JVal)} (h : kv ∈ canonObj kvs) :
    ∃ v, (kv.1, v) ∈ kvs ∧ kv.2 = canon v := by
  induction kvs with
  | nil => cases h
  | cons hd tl ih =>
    obtain ⟨k, v⟩ := hd
    rw [canonObj] at h
    rcases insertKV_mem h with rfl | h
    · exact ⟨v, List.mem_cons_self, rfl⟩
    · obtain ⟨w, hw, e⟩ := ih h
      exact ⟨w, List.mem_cons_of_mem _ hw, e⟩

theorem forall_canonList {Q : JVal → Prop} {xs : List JVal} (h : ∀ x ∈ xs, Q (canon x)) :
    ∀ y ∈ canonList xs, Q y := by
  intro y hy
  rw [canonList_eq_map] at hy
  obtain ⟨x, hx, rfl⟩ := List.mem_map.mp hy
  exact h x hx

theorem forall_canonObj {Q : JVal → Prop} {kvs : List (String × JVal)}
    (h : ∀ kv ∈ kvs, Q (canon kv.2)) : ∀ kv ∈ canonObj kvs, Q kv.2 := by
  intro kv hkv
  obtain ⟨v, hv, e⟩ := mem_canonObj hkv
  rw [e]
  exact h _ hv

theorem canonObj_append_congr (pre : List (String × JVal)) {a b : List (String × JVal)}
    (h : canonObj a = canonObj b) : canonObj (pre ++ a) = canonObj (pre ++ b) := by
  induction pre with
  | nil => simpa using h
  | cons hd tl ih =>
    obtain ⟨k, v⟩ := hd
    simp [canonObj, ih]

theorem canonObj_swap (k1 k2 : String) (v1 v2 : JVal) (h : k1 ≠ k2) (post : List (String × JVal)) :
    canonObj ((k1, v1) :: (k2, v2) :: post) = canonObj ((k2, v2) :: (k1, v1) :: post) := by
  simp only [canonObj]
  exact insertKV_comm k1 k2 _ _ h _

/-- Re-spelling of a JSON value: the equivalence closure of "swap two adjacent
    entries with distinct keys of some object, anywhere inside the value".
    Defined without reference to `canon`. -/
inductive JEquiv : JVal → JVal → Prop
  | refl (v : JVal) : JEquiv v v
  | symm {v w : JVal} : JEquiv v w → JEquiv w v
  | trans {u v w : JVal} : JEquiv u v → JEquiv v w → JEquiv u w
  | swap (pre post : List (String × JVal)) (k1 k2 : String) (v1 v2 : JVal) (h : k1 ≠ k2) :
      JEquiv (.obj (pre ++ (k1, v1) :: (k2, v2) :: post)) (.obj (pre ++ (k2, v2) :: (k1, v1) :: post))
  | inArr (pre post : List JVal) {x y : JVal} :
      JEquiv x y → JEquiv (.arr (pre ++ x :: post)) (.arr (pre ++ y :: post))
  | inObj (pre post : List (String × JVal)) (k : String) {x y : JVal} :
      JEquiv x y → JEquiv (.obj (pre ++ (k, x) :: post)) (.obj (pre ++ (k, y) :: post))

theorem JEquiv.canon_eq {v w : JVal} (h : JEquiv v w) : canon v = canon w := by
  induction h with
  | refl => rfl
  | symm _ ih => exact ih.symm
  | trans _ _ ih1 ih2 => exact ih1.trans ih2
  | swap pre post k1 k2 v1 v2 h =>
    simp only [canon]
    congr 1
    exact canonObj_append_congr pre (canonObj_swap k1 k2 v1 v2 h post)
  | inArr pre post _ ih =>
    simp only [canon, canonList_append, canonList, ih]
  | inObj pre post k _ ih =>
    simp only [canon]
    congr 1
    apply canonObj_append_congr
    simp only [canonObj, ih]

/-- Any permutation of the entries of an object with pairwise distinct keys
    (what a Python dict is) has the same canonical form. -/
theorem canonObj_perm {a b : List (String × JVal)} (hp : a.Perm b)
    (hn : (a.map Prod.fst).Nodup) : canonObj a = canonObj b := by
  induction hp with
  | nil => rfl
  | cons x _ ih =>
    obtain ⟨k, v⟩ := x
    simp only [List.map_cons, List.nodup_cons] at hn
    simp only [canonObj, ih hn.2]
  | swap x y l =>
    obtain ⟨k1, v1⟩ := x
    obtain ⟨k2, v2⟩ := y
    simp only [List.map_cons, List.nodup_cons, List.mem_cons, not_or] at hn
    exact canonObj_swap k2 k1 v2 v1 (fun h => hn.1.1 h) l
  | trans h1 _ ih1 ih2 =>
    have hn2 := (h1.map Prod.fst).nodup_iff.mp hn
    exact (ih1 hn).trans (ih2 hn2)

/-- the id is a function of the canonical form -/
theorem calcId_of_canon_eq {v w : JVal} (h : canon v = canon w) : calcId v = calcId w := by
  rw [calcId, calcId, calcIdChars, calcIdChars, canonChars, canonChars, h]

end Signac
