/-
  The schema gate of `sync_projects` (`Signac/SchemaGate.lean`): on schemas Python can hold (`SchemaWF`,
  `ValsWF`, value sets `PyApart`) Mapping equality is reflexive and symmetric, `difference` is empty both
  ways exactly for equal schemas, detected schemas are such (`TypedInv`), hence the inner test of the gate
  is redundant and the gate is symmetric.  At the end: witnesses that the hypotheses are needed and that
  the gate depends on the job order (`syncGate_perm_false`).  Core only.
-/
import Signac.SchemaGate
import Signac.Proofs.SchemaSpec
namespace Signac.Schema
open Signac

theorem pyEq_refl_list : ∀ (xs : List JVal), NodupKeysList xs → pyEqList xs xs = true :=
  fun _ h => pyEqList_refl fun x hx => pyEq_refl x (NodupKeysList_mem h x hx)

/-- no two members are `==` (a Python set) -/
abbrev PyApart (l : List JVal) : Prop := l.Pairwise (fun x y => pyEq x y = false)

theorem valSetEq_iff {a b : List JVal} :
    valSetEq a b = true ↔ a.length = b.length ∧ ∀ x ∈ a, ∃ r ∈ b, pyEq r x = true := by
  simp [valSetEq]

theorem valSetEq_refl {a : List JVal} (h : ∀ x ∈ a, NodupKeysVal x) : valSetEq a a = true :=
  valSetEq_iff.mpr ⟨rfl, fun x hx => ⟨x, hx, pyEq_refl x (h x hx)⟩⟩

/-- pigeonhole up to `==` -/
theorem valSet_cover {a b : List JVal} (hp : PyApart a) (ha : ∀ x ∈ a, NodupKeysVal x)
    (hb : ∀ y ∈ b, NodupKeysVal y) (hc : ∀ x ∈ a, ∃ r ∈ b, pyEq r x = true) :
    a.length ≤ b.length ∧ (b.length ≤ a.length → ∀ y ∈ b, ∃ x ∈ a, pyEq x y = true) := by
  -- two members of `a` with a common equal would be equal: `==` is symmetric and transitive
  have hd : a.Pairwise fun x y => ∀ r, (r ∈ b ∧ pyEq r x = true) → ¬ (r ∈ b ∧ pyEq r y = true) :=
    hp.imp_of_mem fun hx _ hxy r h1 h2 => Bool.eq_false_iff.mp hxy
      (pyEq_trans (pyEq_symm (hb r h1.1) (ha _ hx) h1.2) h2.2)
  obtain ⟨hle, hback⟩ := cover_pigeon hd fun x hx => (hc x hx).imp fun r h => ⟨h.1, h⟩
  exact ⟨hle, fun hl y hy => (hback hl y hy).imp fun x h =>
    ⟨h.1, pyEq_symm (hb y hy) (ha x h.1) h.2.2⟩⟩

theorem valSetEq_symm {a b : List JVal} (hp : PyApart a)
    (ha : ∀ x ∈ a, NodupKeysVal x) (hb : ∀ y ∈ b, NodupKeysVal y)
    (h : valSetEq a b = true) : valSetEq b a = true := by
  obtain ⟨hl, h⟩ := valSetEq_iff.mp h
  exact valSetEq_iff.mpr ⟨hl.symm, (valSet_cover hp ha hb h).2 (Nat.le_of_eq hl.symm)⟩

/-- a value dict as Python holds it: distinct type names, every value set a set (no two members
    `==`), every mapping inside a value has distinct keys -/
structure ValsWF (tvs : List (String × List JVal)) : Prop where
  types_nodup : (tvs.map Prod.fst).Nodup
  apart : ∀ tv ∈ tvs, PyApart tv.2
  ok : ∀ tv ∈ tvs, ∀ v ∈ tv.2, NodupKeysVal v

/-- a schema as Python holds it: distinct keys, every value dict well-formed -/
structure SchemaWF (s : Schema) : Prop where
  keys_nodup : (s.map Prod.fst).Nodup
  vals : ∀ kv ∈ s, ValsWF kv.2

theorem typedEq_refl {a : List (String × List JVal)} (h : ValsWF a) : typedEq a a = true :=
  dictEq_refl h.types_nodup (fun tv htv => valSetEq_refl (h.ok tv htv))

theorem typedEq_symm {a b : List (String × List JVal)} (ha : ValsWF a) (hb : ValsWF b)
    (h : typedEq a b = true) : typedEq b a = true :=
  dictEq_symm ha.types_nodup hb.types_nodup
    (fun tv htv tw htw he => valSetEq_symm (ha.apart tv htv) (ha.ok tv htv) (hb.ok tw htw) he) h

theorem schemaEq_refl {a : Schema} (h : SchemaWF a) : schemaEq a a = true :=
  dictEq_refl h.keys_nodup (fun kv hkv => typedEq_refl (h.vals kv hkv))

theorem schemaEq_symm {a b : Schema} (ha : SchemaWF a) (hb : SchemaWF b) :
    schemaEq a b = schemaEq b a := by
  have imp : ∀ {a b : Schema}, SchemaWF a → SchemaWF b → schemaEq a b = true → schemaEq b a = true :=
    fun ha hb => dictEq_symm ha.keys_nodup hb.keys_nodup
      fun kv hkv kw hkw => typedEq_symm (ha.vals kv hkv) (hb.vals kw hkw)
  exact Bool.eq_iff_iff.mpr ⟨imp ha hb, imp hb ha⟩

theorem mem_schemaDifference {ig : Bool} {a b : Schema} {k : String} :
    k ∈ schemaDifference ig a b ↔
      ∃ v, (k, v) ∈ a ∧ (alookup k b = none ∨
        (ig = false ∧ ∃ w, alookup k b = some w ∧ typedEq w v = false)) := by
  simp only [schemaDifference, List.mem_map, List.mem_filter, Prod.exists, exists_and_right,
    exists_eq_right]
  refine exists_congr fun v => and_congr_right fun _ => ?_
  cases alookup k b <;> simp

theorem schemaDifference_nil_iff {a b : Schema} :
    schemaDifference false a b = [] ↔
      ∀ kv ∈ a, ∃ w, alookup kv.1 b = some w ∧ typedEq w kv.2 = true := by
  rw [schemaDifference, List.map_eq_nil_iff, List.filter_eq_nil_iff]
  refine forall_congr' fun kv => forall_congr' fun _ => ?_
  cases alookup kv.1 b <;> simp

/-- `ignore_values=True` reports exactly the keys of `a` that are not keys of `b` -/
theorem difference_ignore_keys {a b : Schema} {k : String} :
    k ∈ schemaDifference true a b ↔ k ∈ a.map Prod.fst ∧ k ∉ b.map Prod.fst := by
  rw [mem_schemaDifference, ← alookup_none]
  constructor
  · rintro ⟨v, hv, h | ⟨h, _⟩⟩
    · exact ⟨List.mem_map.mpr ⟨(k, v), hv, rfl⟩, h⟩
    · cases h
  · rintro ⟨h1, h2⟩
    obtain ⟨kv, hkv, rfl⟩ := List.mem_map.mp h1
    exact ⟨kv.2, hkv, Or.inl h2⟩

theorem difference_ignore_subset {a b : Schema} :
    ∀ k ∈ schemaDifference true a b, k ∈ schemaDifference false a b := by
  intro k hk
  obtain ⟨v, hv, h⟩ := mem_schemaDifference.mp hk
  rcases h with h | ⟨h, _⟩
  · exact mem_schemaDifference.mpr ⟨v, hv, Or.inl h⟩
  · cases h

theorem schemaEq_of_differences {a b : Schema}
    (ha : (a.map Prod.fst).Nodup) (hb : (b.map Prod.fst).Nodup)
    (h1 : schemaDifference false a b = []) (h2 : schemaDifference false b a = []) :
    schemaEq a b = true := by
  rw [schemaDifference_nil_iff] at h1 h2
  have sub : ∀ {a b : Schema}, (∀ kv ∈ a, ∃ w, alookup kv.1 b = some w ∧ typedEq w kv.2 = true) →
      ∀ k ∈ a.map Prod.fst, k ∈ b.map Prod.fst := by
    intro a b h k hk
    obtain ⟨kv, hkv, rfl⟩ := List.mem_map.mp hk
    obtain ⟨w, hw, _⟩ := h kv hkv
    exact key_of_alookup hw
  refine dictEq_of_keys ha hb (fun k => ⟨sub h1 k, sub h2 k⟩) fun kv hkv w hw => ?_
  obtain ⟨v, hv, he⟩ := h2 (kv.1, w) (alookup_mem hw)
  rw [alookup_of_mem ha hkv] at hv
  cases hv
  exact he

theorem difference_nil_of_eq {a b : Schema} (ha : (a.map Prod.fst).Nodup)
    (h1 : schemaEq a b = true) (h2 : schemaEq b a = true) : schemaDifference false a b = [] := by
  rw [schemaDifference_nil_iff]
  intro kv hkv
  obtain ⟨w, hw, _⟩ := (dictEq_iff.mp h1).2 kv hkv
  obtain ⟨v, hv, he⟩ := (dictEq_iff.mp h2).2 (kv.1, w) (alookup_mem hw)
  rw [alookup_of_mem ha hkv] at hv
  cases hv
  exact ⟨w, hw, he⟩

theorem difference_empty_iff_nodup {a b : Schema}
    (ha : (a.map Prod.fst).Nodup) (hb : (b.map Prod.fst).Nodup) :
    (schemaDifference false a b = [] ∧ schemaDifference false b a = []) ↔
      (schemaEq a b = true ∧ schemaEq b a = true) :=
  ⟨fun h => ⟨schemaEq_of_differences ha hb h.1 h.2, schemaEq_of_differences hb ha h.2 h.1⟩,
   fun h => ⟨difference_nil_of_eq ha h.1 h.2, difference_nil_of_eq hb h.2 h.1⟩⟩

theorem difference_empty_iff {a b : Schema} (ha : SchemaWF a) (hb : SchemaWF b) :
    (schemaDifference false a b = [] ∧ schemaDifference false b a = []) ↔ schemaEq a b = true := by
  rw [difference_empty_iff_nodup ha.keys_nodup hb.keys_nodup]
  exact ⟨fun h => h.1, fun h => ⟨h, schemaEq_symm ha hb ▸ h⟩⟩

/-- `values_by_type[type(v)]` is created, at the end, exactly if the type is new -/
theorem addTyped_types (v : JVal) (tvs : List (String × List JVal)) :
    (addTyped v tvs).map Prod.fst = addNew (pyTypeName v) (tvs.map Prod.fst) := by
  unfold addNew
  induction tvs with
  | nil => rfl
  | cons e l ih =>
    obtain ⟨t, vs⟩ := e
    rw [addTyped, List.map_cons, List.contains_cons]
    by_cases h : t = pyTypeName v
    · rw [if_pos h, h, beq_self_eq_true, Bool.true_or, if_pos rfl]; rfl
    · rw [if_neg h, beq_eq_false_iff_ne.mpr (Ne.symm h), Bool.false_or, List.map_cons, ih]
      split <;> rfl

theorem addTyped_forall {P : List JVal → Prop} {v : JVal} (hnew : P [v])
    (hadd : ∀ vs, P vs → P (addSet v vs)) {tvs : List (String × List JVal)}
    (h : ∀ tv ∈ tvs, P tv.2) : ∀ tv ∈ addTyped v tvs, P tv.2 := by
  induction tvs with
  | nil => exact List.forall_mem_singleton.mpr hnew
  | cons e l ih =>
    obtain ⟨t, vs⟩ := e
    rw [List.forall_mem_cons] at h
    rw [addTyped]
    split
    · exact List.forall_mem_cons.mpr ⟨hadd vs h.1, h.2⟩
    · exact List.forall_mem_cons.mpr ⟨h.1, ih h.2⟩

theorem addSet_pyApart {v : JVal} {vs : List JVal} (h : PyApart vs) : PyApart (addSet v vs) := by
  unfold addSet
  split
  · exact h
  · next hn => exact pairwise_append_new h hn

/-- a value dict as `_collect_by_type` builds it from values that satisfy `Q`: distinct type names,
    every value set a set of values that satisfy `Q` -/
def TypedInv (Q : JVal → Prop) (tvs : List (String × List JVal)) : Prop :=
  (tvs.map Prod.fst).Nodup ∧ ∀ tv ∈ tvs, PyApart tv.2 ∧ ∀ x ∈ tv.2, Q x

theorem collectByType_inv {Q : JVal → Prop} {vals : List JVal} (hq : ∀ v ∈ vals, Q v) :
    TypedInv Q (collectByType vals) := by
  refine List.foldlRecOn (motive := TypedInv Q) vals _ ⟨List.nodup_nil, fun _ h => nomatch h⟩
    fun tvs h v hv => ⟨addTyped_types v tvs ▸ nodup_addNew h.1,
      addTyped_forall (P := fun s => PyApart s ∧ ∀ x ∈ s, Q x) ?_ (fun s hs => ?_) h.2⟩
  · exact ⟨List.pairwise_singleton _ _, List.forall_mem_singleton.mpr (hq v hv)⟩
  · exact ⟨addSet_pyApart hs.1, fun x hx => (of_mem_addSet hx).elim (hs.2 x) fun e => e ▸ hq v hv⟩

theorem collectByType_wf {vals : List JVal} (h : ∀ v ∈ vals, NodupKeysVal v) :
    ValsWF (collectByType vals) :=
  have ⟨hn, hi⟩ := collectByType_inv h
  ⟨hn, fun tv htv => (hi tv htv).1, fun tv htv => (hi tv htv).2⟩

theorem getPath_nodupKeys : ∀ (nodes : List String) (v w : JVal),
    NodupKeysVal v → getPath nodes v = some w → NodupKeysVal w :=
  getPath_preserves fun _ n u h hu => NodupKeysObj_mem h (n, u) (lookupKV_mem hu)

theorem slotValues_nodupKeys {jobs : List Job} (hj : ∀ j ∈ jobs, NodupKeysObj j.sp) (k : String) :
    ∀ v ∈ slotValues (buildIndex k jobs), NodupKeysVal v := by
  intro r hin
  obtain ⟨_, j, hjm, hv⟩ := slotValues_sound hin
  exact getPath_nodupKeys _ (.obj j.sp) _ (hj j hjm) hv

theorem detectSchema_types_nodup (excl : Bool) (jobs : List Job) :
    ∀ kv ∈ detectSchema excl jobs, (kv.2.map Prod.fst).Nodup ∧ ∀ tv ∈ kv.2, PyApart tv.2 :=
  fun _ hkv =>
    have ⟨hn, hi⟩ := collectByType_inv (Q := fun _ => True) fun _ _ => trivial
    mem_detectSchema hkv ▸ ⟨hn, fun tv htv => (hi tv htv).1⟩

theorem detectSchema_wf (excl : Bool) {jobs : List Job} (hj : ∀ j ∈ jobs, NodupKeysObj j.sp) :
    SchemaWF (detectSchema excl jobs) :=
  ⟨detectSchema_nodup_keys excl jobs,
    fun kv hkv => mem_detectSchema hkv ▸ collectByType_wf (slotValues_nodupKeys hj kv.1)⟩

/-- the contrapositive of `schemaEq_of_differences`, as the gate tests it -/
theorem difference_of_ne {a b : Schema} (ha : (a.map Prod.fst).Nodup) (hb : (b.map Prod.fst).Nodup)
    (h : schemaEq a b = false) :
    (!(schemaDifference false a b).isEmpty || !(schemaDifference false b a).isEmpty) = true := by
  cases h1 : (schemaDifference false a b).isEmpty with
  | false => rfl
  | true =>
    cases h2 : (schemaDifference false b a).isEmpty with
    | false => rfl
    | true =>
      rw [schemaEq_of_differences ha hb (List.isEmpty_iff.mp h1) (List.isEmpty_iff.mp h2)] at h
      cases h

/-- the inner test `only_in_src or only_in_dst` of the gate is redundant (no hypothesis) -/
theorem syncGate_simple (src dst : List Job) :
    syncGate src dst =
      (!(detectSchema false src).isEmpty && !(detectSchema false dst).isEmpty &&
        !schemaEq (detectSchema false src) (detectSchema false dst)) := by
  cases hE : schemaEq (detectSchema false src) (detectSchema false dst) with
  | true => simp only [syncGate, hE, Bool.not_true, Bool.and_false, Bool.false_eq_true, if_false]
  | false =>
    simp only [syncGate, hE, difference_of_ne (detectSchema_nodup_keys false src)
      (detectSchema_nodup_keys false dst) hE]
    cases (detectSchema false src).isEmpty <;> cases (detectSchema false dst).isEmpty <;> rfl

theorem syncGate_symm {a b : List Job} (ha : ∀ j ∈ a, NodupKeysObj j.sp)
    (hb : ∀ j ∈ b, NodupKeysObj j.sp) : syncGate a b = syncGate b a := by
  rw [syncGate_simple, syncGate_simple,
    schemaEq_symm (detectSchema_wf false ha) (detectSchema_wf false hb),
    Bool.and_comm (!(detectSchema false a).isEmpty)]

theorem syncGate_same {jobs : List Job} (h : ∀ j ∈ jobs, NodupKeysObj j.sp) :
    syncGate jobs jobs = false := by
  rw [syncGate_simple, schemaEq_refl (detectSchema_wf false h)]
  exact Bool.and_false _

theorem detectSchema_empty (excl : Bool) {jobs : List Job} (h : ∀ j ∈ jobs, j.sp = []) :
    detectSchema excl jobs = [] := by
  have : (jobs.flatMap fun j => (flatten j.sp).map Prod.fst) = [] :=
    List.flatMap_eq_nil_iff.mpr fun j hj => by rw [h j hj]; rfl
  rw [detectSchema_eq, dottedKeys, dottedKeysFrom_eq, this]
  rfl

theorem syncGate_empty_left {src : List Job} (dst : List Job) (h : ∀ j ∈ src, j.sp = []) :
    syncGate src dst = false := by
  rw [syncGate_simple, detectSchema_empty false h]
  rfl

theorem syncGate_empty_right (src : List Job) {dst : List Job} (h : ∀ j ∈ dst, j.sp = []) :
    syncGate src dst = false := by
  rw [syncGate_simple, detectSchema_empty false h]
  cases (detectSchema false src).isEmpty <;> rfl

theorem syncGate_nil_left (dst : List Job) : syncGate [] dst = false :=
  syncGate_empty_left dst fun _ hj => nomatch hj

theorem syncGate_nil_right (src : List Job) : syncGate src [] = false :=
  syncGate_empty_right src fun _ hj => nomatch hj

/-! ### the hypotheses are needed; non-vacuity -/

/-- `JVal.obj` with a repeated key is not a Python dict; on such a "mapping" (here inside a list)
    `pyEq` is not even reflexive and the gate would fire for a project against itself.  This is an
    artefact of association lists, not of signac: hence `NodupKeysObj` in `syncGate_same/_symm`. -/
theorem syncGate_same_needs_dicts :
    syncGate [⟨"j", [("a", .arr [.obj [("k", .int 1), ("k", .int 2)]])]⟩]
             [⟨"j", [("a", .arr [.obj [("k", .int 1), ("k", .int 2)]])]⟩] = true := by decide +kernel

/-- For lists that are not sets `valSetEq` is not symmetric, so "distinct keys" alone does not give
    `difference_empty_iff` with a one-sided `schemaEq` (only `difference_empty_iff_nodup`). -/
theorem difference_empty_iff_needs_sets :
    let a : Schema := [("k", [("int", [.int 1, .int 1])])]
    let b : Schema := [("k", [("int", [.int 1, .int 2])])]
    schemaEq a b = true ∧ schemaDifference false a b ≠ [] := by decide +kernel

/-- The gate DOES depend on the order of the jobs of a project (F-6a: `True` and `1` share a dict
    slot and the first one inserted decides under which type the slot is reported): source
    `{a: True}, {a: 1}` has schema `a ↦ bool ↦ {True}`, which equals that of the destination `{a: True}`;
    the same source jobs listed as `{a: 1}, {a: True}` give `a ↦ int ↦ {1}` and the gate fires. -/
theorem syncGate_perm_false :
    ¬ (∀ src src' dst : List Job, src.Perm src' → syncGate src dst = syncGate src' dst) := by
  intro h
  have := h [⟨"j1", [("a", .bool true)]⟩, ⟨"j2", [("a", .int 1)]⟩]
    [⟨"j2", [("a", .int 1)]⟩, ⟨"j1", [("a", .bool true)]⟩]
    [⟨"j3", [("a", .bool true)]⟩] (List.Perm.swap _ _ _)
  revert this
  decide +kernel

/-- gate fires: `{a: 1}` vs `{a: 2}` -/
example : syncGate [⟨"j1", [("a", .int 1)]⟩] [⟨"j2", [("a", .int 2)]⟩] = true := by decide +kernel

/-- gate silent: same keys and values, jobs in another order and under other ids -/
example : syncGate [⟨"j1", [("a", .int 1), ("b", .str "x")]⟩, ⟨"j2", [("a", .int 2), ("b", .str "x")]⟩]
    [⟨"j3", [("b", .str "x"), ("a", .int 2)]⟩, ⟨"j4", [("a", .int 1), ("b", .str "x")]⟩] = false := by
  decide +kernel

/-- gate fires: `{a: 1}` vs `{a: 1.0}` — equal values, different type -/
example : syncGate [⟨"j1", [("a", .int 1)]⟩] [⟨"j2", [("a", .flt 1 0 "1.0")]⟩] = true := by decide +kernel

/-- gate silent: one side has no jobs / only the empty state point -/
example : syncGate [] [⟨"j2", [("a", .int 2)]⟩] = false ∧
    syncGate [⟨"j1", [("a", .int 1)]⟩] [⟨"j0", []⟩] = false := by decide +kernel

/-- gate fires on a value difference below a common nested key; `difference` names the key, and
    with `ignore_values` only the missing key -/
example :
    let a : List Job := [⟨"j1", [("a", .obj [("b", .int 1)]), ("c", .null)]⟩]
    let b : List Job := [⟨"j2", [("a", .obj [("b", .int 2)])]⟩]
    syncGate a b = true ∧
      schemaDifference false (detectSchema false a) (detectSchema false b) = ["a.b", "c"] ∧
      schemaDifference true (detectSchema false a) (detectSchema false b) = ["c"] ∧
      schemaDifference false (detectSchema false b) (detectSchema false a) = ["a.b"] := by decide +kernel

/-- a key that holds only the empty mapping is reported with an EMPTY value dict (`a ↦ {}`): equal
    to itself, different from `a ↦ int ↦ {1}` -/
example : syncGate [⟨"j1", [("a", .obj [])]⟩] [⟨"j2", [("a", .obj [])]⟩] = false ∧
    syncGate [⟨"j1", [("a", .obj [])]⟩] [⟨"j2", [("a", .int 1)]⟩] = true := by decide +kernel

/-- the hypothesis of `syncGate_symm` / `syncGate_same` holds of a nested, mixed corpus -/
example : ∀ j ∈ ([⟨"j1", [("a", .obj [("b", .int 1)]), ("c", .arr [.obj [("x", .null), ("y", .bool true)]])]⟩,
    ⟨"j2", [("a", .flt 1 0 "1.0")]⟩] : List Job), NodupKeysObj j.sp := by
  decide +kernel

end Signac.Schema
