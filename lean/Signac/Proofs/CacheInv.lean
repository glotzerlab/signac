/-
  The cache invariant (every entry of the session cache and of the cache file maps an id to a
  state point hashing to it), the key-set algebra of update_cache, and the operations of the cache
  model by their outcomes.  Core only.
-/
import Signac.Cache
import Signac.Proofs.WsAssoc
namespace Signac.Cache
open Signac Signac.Ws

section
variable {hash : JVal → String}

abbrev K {β : Type} (l : List (String × β)) : List String := l.map Prod.fst

theorem mem_keys_cons {β : Type} {x k : String} {v : β} {l : List (String × β)} :
    x ∈ K ((k, v) :: l) ↔ x = k ∨ x ∈ K l := List.mem_cons

theorem readCache_ws (s : St) : (readCache s).ws = s.ws := by
  unfold readCache; split <;> rfl

theorem readCache_cacheFile (s : St) : (readCache s).cacheFile = s.cacheFile := by
  unfold readCache; split <;> rfl

theorem ensureRead_ws (s : St) : (ensureRead s).ws = s.ws := by
  unfold ensureRead; split
  · rfl
  · exact readCache_ws s

theorem ensureRead_cacheFile (s : St) : (ensureRead s).cacheFile = s.cacheFile := by
  unfold ensureRead; split
  · rfl
  · exact readCache_cacheFile s

theorem ensureRead_cacheRead (s : St) : (ensureRead s).cacheRead = true := by
  unfold ensureRead; split
  · assumption
  · rfl

theorem ensureRead_of_read {s : St} (h : s.cacheRead = true) : ensureRead s = s := if_pos h

theorem mem_keys_updateAll (x : String) (b c : List (String × JVal)) :
    x ∈ K (updateAll b c) ↔ x ∈ K b ∨ x ∈ K c := by
  fun_induction updateAll b c with
  | case1 => exact (or_iff_left List.not_mem_nil).symm
  | case2 b k v r ih => rw [ih, mem_keys_aset_iff, mem_keys_cons, or_assoc, or_left_comm]

theorem dropStale_sub (ws : List (String × Dir)) (m : List (String × JVal)) :
    ∀ e, e ∈ dropStale ws m → e ∈ m := by
  intro e he
  fun_induction dropStale ws m with
  | case1 => exact he
  | case2 id v r h ih =>
    exact (List.mem_cons.mp he).elim (· ▸ List.mem_cons_self) fun h => List.mem_cons_of_mem _ (ih h)
  | case3 id v r h ih => exact List.mem_cons_of_mem _ (ih he)

theorem mem_keys_dropStale (x : String) (ws : List (String × Dir)) (m : List (String × JVal)) :
    x ∈ K (dropStale ws m) ↔ x ∈ K m ∧ x ∈ K ws := by
  fun_induction dropStale ws m with
  | case1 => exact iff_of_false List.not_mem_nil fun h => List.not_mem_nil h.1
  | case2 id v r h ih =>
    rw [mem_keys_cons, mem_keys_cons, ih, or_and_right]
    exact or_congr_left (iff_self_and.mpr fun e => e ▸ alookup_isSome_iff.mp h)
  | case3 id v r h ih =>
    rw [ih, mem_keys_cons, or_and_right]
    exact (or_iff_right fun ⟨e, hw⟩ => h (alookup_isSome_iff.mpr (e ▸ hw))).symm

/-- all directories of `l` validate -/
def AllValid (hash : JVal → String) (l : List (String × Dir)) : Prop :=
  ∀ id d, (id, d) ∈ l → (loadValid hash d id).isSome = true

theorem loadValid_ne_none_of_allValid {l : List (String × Dir)} (h : AllValid hash l) {id : String} {d : Dir}
    (hl : alookup id l = some d) : loadValid hash d id ≠ none :=
  Option.isSome_iff_ne_none.mp (h id d (alookup_some_mem hl))

theorem allValid_erase {l : List (String × Dir)} (h : AllValid hash l) (k : String) :
    AllValid hash (aerase k l) := fun id d hm => h id d (mem_aerase_iff.mp hm).1

theorem allValid_append {l : List (String × Dir)} (h : AllValid hash l) {id : String} {d : Dir}
    (hd : (loadValid hash d id).isSome = true) : AllValid hash (l ++ [(id, d)]) := by
  intro i d' hm
  rcases List.mem_append.mp hm with hm | hm
  · exact h i d' hm
  · cases List.mem_singleton.mp hm
    exact hd

theorem addMissing_valid (ws l : List (String × Dir)) (sess : List (String × JVal))
    (h : AllValid hash l) :
    (addMissing hash ws sess l).2 = [] ∧
    ∀ x, x ∈ K (addMissing hash ws sess l).1 ↔ x ∈ K sess ∨ x ∈ K l := by
  fun_induction addMissing hash ws sess l with
  | case1 => exact ⟨rfl, fun x => (or_iff_left List.not_mem_nil).symm⟩
  | case2 sess id d r hs ih =>
    obtain ⟨h1, h2⟩ := ih fun i d' hm => h i d' (List.mem_cons_of_mem _ hm)
    refine ⟨h1, fun x => ?_⟩
    rw [h2, mem_keys_cons]
    exact ⟨Or.imp_right Or.inr, fun h => h.elim Or.inl fun h =>
      h.elim (fun e => Or.inl (e ▸ alookup_isSome_iff.mp hs)) Or.inr⟩
  | case3 sess id d r hs v hv ih =>
    obtain ⟨h1, h2⟩ := ih fun i d' hm => h i d' (List.mem_cons_of_mem _ hm)
    refine ⟨h1, fun x => ?_⟩
    rw [h2, mem_keys_aset_iff, mem_keys_cons, or_assoc, or_left_comm]
  | case4 sess id d r hs hv sess' bad _ ih =>
    exact absurd hv (Option.isSome_iff_ne_none.mp (h id d List.mem_cons_self))

theorem loadValid_hash {d : Dir} {id : String} {v : JVal} (h : loadValid hash d id = some v) :
    hash v = id := by
  unfold loadValid at h
  split at h
  · split at h
    · cases h; assumption
    · cases h
  · cases h

theorem loadValid_of_sp {d : Dir} {v : JVal} (h : d.sp = .valid v) : loadValid hash d (hash v) = some v := by
  unfold loadValid
  rw [h]
  exact if_pos rfl

theorem loadValid_valid (sp : JVal) (p : Nat) : loadValid hash ⟨.valid sp, p⟩ (hash sp) = some sp :=
  loadValid_of_sp rfl

def MapInv (hash : JVal → String) (m : List (String × JVal)) : Prop := ∀ id v, (id, v) ∈ m → hash v = id

def CacheInv (hash : JVal → String) (s : St) : Prop :=
  MapInv hash s.session ∧ ∀ c, s.cacheFile = some c → MapInv hash c

theorem mapInv_aset {m : List (String × JVal)} (h : MapInv hash m) {id : String} {v : JVal}
    (hv : hash v = id) : MapInv hash (aset id v m) := by
  intro i w hm
  rcases mem_aset hm with hm | hm
  · cases hm; exact hv
  · exact h i w hm

theorem mapInv_of_values (vs : List JVal) : MapInv hash (vs.map fun v => (hash v, v)) := by
  intro id v hm
  obtain ⟨w, _, e⟩ := List.mem_map.mp hm
  cases e
  rfl

theorem mapInv_erase {m : List (String × JVal)} (h : MapInv hash m) (id : String) :
    MapInv hash (aerase id m) := fun i w hm => h i w (mem_aerase_iff.mp hm).1

theorem mapInv_updateAll {b c : List (String × JVal)} (hb : MapInv hash b) (hc : MapInv hash c) :
    MapInv hash (updateAll b c) := by
  fun_induction updateAll b c with
  | case1 => exact hb
  | case2 b k v r ih =>
    exact ih (mapInv_aset hb (hc k v List.mem_cons_self)) fun i w hm => hc i w (List.mem_cons_of_mem _ hm)

theorem mapInv_dropStale (ws : List (String × Dir)) {m : List (String × JVal)} (h : MapInv hash m) :
    MapInv hash (dropStale ws m) := fun i v hm => h i v (dropStale_sub ws m _ hm)

theorem mapInv_addMissing (ws l : List (String × Dir)) {sess : List (String × JVal)}
    (h : MapInv hash sess) : MapInv hash (addMissing hash ws sess l).1 := by
  fun_induction addMissing hash ws sess l with
  | case1 => exact h
  | case2 sess id d r hs ih => exact ih h
  | case3 sess id d r hs v hv ih => exact ih (mapInv_aset h (loadValid_hash hv))
  | case4 sess id d r hs hv sess' bad heq ih => exact (congrArg Prod.fst heq) ▸ ih h

theorem cacheInv_ws {s : St} (h : CacheInv hash s) (ws : List (String × Dir)) :
    CacheInv hash { s with ws := ws } := h

theorem cacheInv_readCache {s : St} (h : CacheInv hash s) : CacheInv hash (readCache s) := by
  unfold readCache
  split
  · exact ⟨mapInv_updateAll h.1 (h.2 _ ‹_›), h.2⟩
  · exact h

theorem cacheInv_ensureRead {s : St} (h : CacheInv hash s) : CacheInv hash (ensureRead s) := by
  unfold ensureRead
  split
  · exact h
  · exact cacheInv_readCache h

theorem cacheInv_register {s : St} (h : CacheInv hash s) {id : String} {v : JVal} (hv : hash v = id) :
    CacheInv hash (register s id v) := ⟨mapInv_aset h.1 hv, h.2⟩

theorem cacheInv_newSession {s : St} (h : CacheInv hash s) : CacheInv hash (newSession s) :=
  ⟨fun _ _ hm => (nomatch hm), h.2⟩

theorem cacheInv_rmCache {s : St} (h : CacheInv hash s) : CacheInv hash (rmCache s) :=
  ⟨h.1, fun _ hc => (nomatch hc)⟩

/- the operations by their outcomes -/

/-- `init`: the directory exists and validates (nothing happens); exists, does not validate, and
    the file is written (it was absent, or the call is forced); exists with an unparsable or foreign
    file that is not overwritten; or does not exist and is created. -/
theorem initJob_cases {motive : St × Option Err → Prop} (s : St) (sp : JVal) (force : Bool)
    (valid : ∀ d v, alookup (hash sp) (ensureRead s).ws = some d → loadValid hash d (hash sp) = some v →
      motive (ensureRead s, none))
    (written : ∀ d, alookup (hash sp) (ensureRead s).ws = some d → loadValid hash d (hash sp) = none →
      (d.sp = .absent ∨ force = true) →
      motive (register { ensureRead s with
        ws := aset (hash sp) { d with sp := .valid sp } (ensureRead s).ws } (hash sp) sp, none))
    (refused : ∀ d, alookup (hash sp) (ensureRead s).ws = some d → loadValid hash d (hash sp) = none →
      d.sp ≠ .absent → force = false → motive (ensureRead s, some (.corrupted [hash sp])))
    (fresh : alookup (hash sp) (ensureRead s).ws = none →
      motive (register { ensureRead s with
        ws := (ensureRead s).ws ++ [(hash sp, ⟨.valid sp, 0⟩)] } (hash sp) sp, none)) :
    motive (initJob hash s sp force) := by
  unfold initJob
  dsimp only
  cases hl : alookup (hash sp) (ensureRead s).ws with
  | none => exact fresh hl
  | some d =>
    dsimp only
    cases hv : loadValid hash d (hash sp) with
    | some v => exact valid d v hl hv
    | none =>
      dsimp only
      have hw := written d hl hv
      have hr := refused d hl hv
      obtain ⟨f, pl⟩ := d
      cases f with
      | absent => dsimp only; rw [loadValid_valid]; exact hw (Or.inl rfl)
      | garbage =>
        cases force with
        | true => dsimp only; rw [if_pos rfl, loadValid_valid]; exact hw (Or.inr rfl)
        | false => dsimp only; rw [if_neg Bool.false_ne_true, hv, aset_lookup_self hl]; exact hr nofun rfl
      | valid w =>
        cases force with
        | true => dsimp only; rw [if_pos rfl, loadValid_valid]; exact hw (Or.inr rfl)
        | false => dsimp only; rw [if_neg Bool.false_ne_true, hv, aset_lookup_self hl]; exact hr nofun rfl

theorem cacheInv_initJob {s : St} (h : CacheInv hash s) (sp : JVal) (force : Bool) :
    CacheInv hash (initJob hash s sp force).1 :=
  have h1 := cacheInv_ensureRead h
  initJob_cases (motive := fun r => CacheInv hash r.1) s sp force (fun _ _ _ _ => h1)
    (fun _ _ _ _ => cacheInv_register (cacheInv_ws h1 _) rfl) (fun _ _ _ _ _ => h1)
    (fun _ => cacheInv_register (cacheInv_ws h1 _) rfl)

/-- re-key: either nothing but the handle changes (same id, not initialised, no state point file,
    or destination taken), or the directory moves to the new id and is registered there. -/
theorem rekeyJob_cases {motive : St × Option Err → Prop} (s : St) (sp : JVal) (k : String) (v : JVal)
    (unchanged : ∀ e, motive (ensureRead s, e))
    (moved : ∀ d, alookup (hash sp) (ensureRead s).ws = some d →
      motive (register { ensureRead s with ws := aerase (hash sp) (ensureRead s).ws ++
        [(hash (spSet sp k v), { d with sp := .valid (spSet sp k v) })] } (hash (spSet sp k v)) (spSet sp k v),
        none)) :
    motive (rekeyJob hash s sp k v) := by
  unfold rekeyJob
  dsimp only
  split
  · exact unchanged _
  · cases hl : alookup (hash sp) (ensureRead s).ws with
    | none => exact unchanged _
    | some d =>
      dsimp only
      split
      · exact unchanged _
      · split
        · exact unchanged _
        · exact moved d hl

theorem cacheInv_rekeyJob {s : St} (h : CacheInv hash s) (sp : JVal) (k : String) (v : JVal) :
    CacheInv hash (rekeyJob hash s sp k v).1 :=
  have h1 := cacheInv_ensureRead h
  rekeyJob_cases (motive := fun r => CacheInv hash r.1) s sp k v (fun _ => h1)
    (fun _ _ => cacheInv_register (cacheInv_ws h1 _) rfl)

/-- `update_cache`: with `sess`, `bad` what the in-memory update yields, either some directory
    does not validate, or the file is up to date, or it is rewritten with the session cache. -/
theorem updateCache_cases {motive : St × Option Nat × Option Err → Prop} (s : St)
    (corrupted : ∀ sess bad, addMissing hash s.ws (dropStale s.ws (readCache s).session) s.ws = (sess, bad) →
      bad ≠ [] → motive ({ readCache s with session := sess }, none, some (.corrupted bad)))
    (uptodate : ∀ sess c, addMissing hash s.ws (dropStale s.ws (readCache s).session) s.ws = (sess, []) →
      s.cacheFile = some c → sameKeys c sess = true → motive ({ readCache s with session := sess }, none, none))
    (rewritten : ∀ sess, addMissing hash s.ws (dropStale s.ws (readCache s).session) s.ws = (sess, []) →
      (∀ c, s.cacheFile = some c → sameKeys c sess = false) →
      motive ({ readCache s with session := sess, cacheFile := some sess }, some sess.length, none)) :
    motive (updateCache hash s) := by
  unfold updateCache
  dsimp only
  cases ha : addMissing hash (readCache s).ws (dropStale (readCache s).ws (readCache s).session)
      (readCache s).ws with
  | mk sess bad =>
    rw [readCache_ws] at ha
    dsimp only
    cases bad with
    | cons b bs => exact corrupted sess _ ha nofun
    | nil =>
      dsimp only
      cases hc : s.cacheFile with
      | none => exact rewritten sess ha fun c h => nomatch hc.symm.trans h
      | some c =>
        dsimp only
        cases hk : sameKeys c sess with
        | true => rw [if_pos rfl]; exact uptodate sess c ha hc hk
        | false =>
          rw [if_neg Bool.false_ne_true]
          exact rewritten sess ha fun c' h => Option.some.inj (hc.symm.trans h) ▸ hk

theorem cacheInv_updateCache {s : St} (h : CacheInv hash s) : CacheInv hash (updateCache hash s).1 := by
  have h1 := cacheInv_readCache h
  have hsess : ∀ sess bad, addMissing hash s.ws (dropStale s.ws (readCache s).session) s.ws = (sess, bad) →
      MapInv hash sess := fun sess bad ha => by
    have := mapInv_addMissing (hash := hash) s.ws s.ws (mapInv_dropStale s.ws h1.1)
    rw [ha] at this
    exact this
  exact updateCache_cases (motive := fun r => CacheInv hash r.1) s
    (fun sess bad ha _ => ⟨hsess sess bad ha, h1.2⟩) (fun sess _ ha _ _ => ⟨hsess sess _ ha, h1.2⟩)
    (fun sess ha _ => ⟨hsess sess _ ha, fun c hc => Option.some.inj hc ▸ hsess sess _ ha⟩)

/-- `_get_statepoint`: from the session cache; from the workspace (then registered); the directory
    does not validate; there is no such directory. -/
theorem getStatepoint_cases {motive : St × Except Err JVal → Prop} (s : St) (id : String)
    (cached : ∀ v, alookup id (ensureRead s).session = some v → motive (ensureRead s, .ok v))
    (loaded : ∀ d v, alookup id s.ws = some d → loadValid hash d id = some v →
      motive (register (ensureRead s) id v, .ok v))
    (corrupt : ∀ d, alookup id s.ws = some d → loadValid hash d id = none →
      motive (ensureRead s, .error (.corrupted [id])))
    (missing : alookup id (ensureRead s).session = none → alookup id s.ws = none →
      motive (ensureRead s, .error .keyError)) :
    motive (getStatepoint hash s id) := by
  unfold getStatepoint
  dsimp only
  rw [ensureRead_ws]
  cases hs : alookup id (ensureRead s).session with
  | some v => exact cached v hs
  | none =>
    dsimp only
    cases hl : alookup id s.ws with
    | none => exact missing hs hl
    | some d =>
      dsimp only
      cases hv : loadValid hash d id with
      | some v => exact loaded d v hl hv
      | none => exact corrupt d hl hv

/-- A state point handed out for an id — from the session cache, the cache file or the
    workspace — always hashes to that id. -/
theorem getStatepoint_sound {s : St} (h : CacheInv hash s) (id : String) {v : JVal}
    (hr : (getStatepoint hash s id).2 = .ok v) : hash v = id := by
  revert hr
  exact getStatepoint_cases (motive := fun r => r.2 = .ok v → hash v = id) s id
    (fun w hw hr => Except.ok.inj hr ▸ (cacheInv_ensureRead h).1 _ _ (alookup_some_mem hw))
    (fun d w _ hw hr => Except.ok.inj hr ▸ loadValid_hash hw) (fun _ _ _ hr => nomatch hr)
    (fun _ _ hr => nomatch hr)

theorem cacheInv_getStatepoint {s : St} (h : CacheInv hash s) (id : String) :
    CacheInv hash (getStatepoint hash s id).1 :=
  have h1 := cacheInv_ensureRead h
  getStatepoint_cases (motive := fun r => CacheInv hash r.1) s id (fun _ _ => h1)
    (fun _ _ _ hv => cacheInv_register h1 (loadValid_hash hv)) (fun _ _ _ => h1) (fun _ _ => h1)

theorem cacheInv_observeAll {s : St} (h : CacheInv hash s) (ids : List String) :
    CacheInv hash (observeAll hash s ids) := by
  induction ids generalizing s with
  | nil => exact cacheInv_ensureRead h
  | cons id r ih => exact ih (cacheInv_getStatepoint h id)

theorem openById_eq_getStatepoint (s : St) (id : String) :
    openById hash s id = getStatepoint hash s id := rfl

end
end Signac.Cache
