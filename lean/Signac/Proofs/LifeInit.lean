/-
  `_StatePointDict.save` and `Job.init`: their steps stay in the job's directory; a normal
  return consumed no fault (any `force`); and `init` without `force` satisfies `InitSpec` under
  every event schedule: the directory keeps payload and backup, and the state-point file ends up
  absent or complete — never partial.
-/
import Signac.Proofs.LifeRun
namespace Signac.Life
variable {Sp : Type}

/-- the error path of `save`: EEXIST / EACCES are swallowed and the caller goes on; any other
    errno: `os.remove(sp)` (its own errors ignored) and re-raise -/
def saveErr (k : Key) (next : Prog Sp) (e : Errno) : Prog Sp :=
  if e = .EEXIST ∨ e = .EACCES then next else .step (.rmSp k) (fun _ => .done (osExc e))

theorem saveProg_eq (k : Key) (v : Sp) (force : Bool) (next : Prog Sp) :
    saveProg k v force next = .look fun w =>
      if force || !hasSpFile w k then
        .step (.tmpOpen k spName) fun
          | some e => saveErr k next e
          | none => .step (.tmpWrite k spName (.ok v)) fun
            | some e => saveErr k next e
            | none => .step (.tmpCommit k spName) fun
              | some e => saveErr k next e
              | none => next
      else next := rfl

theorem saveProg_all (k : Key) (v : Sp) (f : Bool) {ks : List Key} (hk : k ∈ ks) {next : Prog Sp}
    (hn : Prog.All (Within ks) next) : Prog.All (Within ks) (saveProg k v f next) :=
  have herr : ∀ e, Prog.All (Within ks) (saveErr k next e) :=
    fun _ => .ite hn (.step _ _ (within_one hk) fun _ => .done _)
  saveProg_eq k v f next ▸ .look _ fun _ => .ite
    (.step' (within_one hk) (.step' (within_one hk) (.step' (within_one hk) hn herr) herr) herr) hn

theorem loadProg_all (C : Codec Sp) (k : Key) (φ : Step Sp → Prop) : Prog.All φ (loadProg C k) :=
  .look _ fun _ => .ite (.done _) (.done _)

theorem initProg_all (C : Codec Sp) (k : Key) (v : Sp) (f : Bool) {ks : List Key} (hk : k ∈ ks) :
    Prog.All (Within ks) (initProg C k v f) :=
  have hs := saveProg_all k v f hk (loadProg_all C k _)
  .look _ fun _ => .ite (.done _) (.ite hs (.step' (within_one hk) hs fun _ => .done _))

theorem exec_init_valid (C : Codec Sp) (ev : Nat → Option Ev) (k : Key) (v : Sp) (f : Bool) (a : Acc Sp)
    (w : World Sp) (hv : validAt C w k = true) : exec C ev (initProg C k v f) a w = ⟨w, .ok, a⟩ := by
  simp only [initProg, exec, hv, if_true]

theorem load_not_ok (C : Codec Sp) (ev : Nat → Option Ev) (k : Key) (a : Acc Sp) (w : World Sp)
    (hv : validAt C w k = false) : (exec C ev (loadProg C k) a w).res ≠ .ok := by
  simp [loadProg, exec, hv]

/-- the error path of `save` followed by the closing `load`, in a directory that does not
    validate: also a SWALLOWED errno (EEXIST / EACCES) ends in an exception, because the `load`
    finds no valid state-point file -/
theorem saveErr_not_ok (C : Codec Sp) (ev : Nat → Option Ev) (k : Key) (e : Errno) (a : Acc Sp) (w : World Sp)
    (hv : validAt C w k = false) :
    (exec C ev (saveErr k (loadProg C k) e) a w).res ≠ .ok := by
  unfold saveErr
  split
  · exact load_not_ok C ev k a w hv
  · exact exec_step C ev (fun o => o.res ≠ .ok) _ _ a w Res.noConfusion (fun _ => Res.noConfusion)
      (fun _ _ => Res.noConfusion) (fun _ _ => Res.noConfusion) (fun _ _ => Res.noConfusion)

theorem apply_tmp_valid (C : Codec Sp) {w w' : World Sp} {k : Key} {s : Step Sp}
    (hs : (∃ n, s = .tmpOpen k n) ∨ ∃ n c, s = .tmpWrite k n c) (h : apply C w s = .ok w') :
    validAt C w' k = validAt C w k := by
  rcases hs with ⟨n, rfl⟩ | ⟨n, c, rfl⟩ <;>
  · simp only [apply] at h
    split at h
    · cases h
    · rename_i d hd; cases h; exact validAt_of_sp_eq C hd (upd_same ..) rfl

/-- a failure of any of the three steps, injected or not, takes the error path, which in a directory
    that does not validate never returns normally -/
theorem save_load_okClean (C : Codec Sp) (ev : Nat → Option Ev) (k : Key) (v : Sp) (f : Bool) (a : Acc Sp)
    (w : World Sp) (hv : validAt C w k = false) : OkClean a (exec C ev (saveProg k v f (loadProg C k)) a w) := by
  rw [saveProg_eq, exec]
  refine exec_ite C ev (OkClean a) _ _ a w (fun _ => ?_) (fun _ => .of_not_ok (load_not_ok C ev k a w hv))
  refine .step C ev (fun e _ => saveErr_not_ok C ev k e _ _ hv) (fun w1 hw1 => ?_)
    (fun e _ => .of_not_ok (saveErr_not_ok C ev k e _ _ hv))
  have hv1 : validAt C w1 k = false := (apply_tmp_valid C (.inl ⟨_, rfl⟩) hw1).trans hv
  refine .step C ev (fun e _ => saveErr_not_ok C ev k e _ _ hv1) (fun w2 hw2 => ?_)
    (fun e _ => .of_not_ok (saveErr_not_ok C ev k e _ _ hv1))
  have hv2 : validAt C w2 k = false := (apply_tmp_valid C (.inr ⟨_, _, rfl⟩) hw2).trans hv1
  refine .step C ev (fun e _ => saveErr_not_ok C ev k e _ _ hv2) (fun w3 _ _ => ?_)
    (fun e _ => .of_not_ok (saveErr_not_ok C ev k e _ _ hv2))
  exact exec_ite C ev (fun o => o.acc.faulted = a.faulted) _ _ _ w3 (fun _ => rfl) (fun _ => rfl)

theorem init_okClean (C : Codec Sp) (ev : Nat → Option Ev) (k : Key) (v : Sp) (f : Bool) (a : Acc Sp)
    (w : World Sp) : OkClean a (exec C ev (initProg C k v f) a w) := by
  cases hv : validAt C w k with
  | true => rw [exec_init_valid C ev k v f a w hv]; exact fun _ => rfl
  | false =>
    simp only [initProg]
    rw [exec]
    simp only [hv, Bool.false_eq_true, if_false]
    split
    · exact save_load_okClean C ev k v f a w hv
    · refine .step C ev (fun e _ => Res.noConfusion) (fun w1 hw1 => ?_) (fun e _ => .of_not_ok Res.noConfusion)
      refine save_load_okClean C ev k v f _ _ ?_
      simp only [apply] at hw1
      split at hw1 <;> cases hw1
      exact not_valid_of_sp_none C _ k {} (upd_same ..) rfl

/-- directory `d'` has the payload and backup of `d` and the given state-point file -/
def SpOnly (d d' : JobDir Sp) (sp : Option (Content Sp)) : Prop :=
  d'.sp = sp ∧ d'.entries = d.entries ∧ d'.bak = d.bak

/-- `save` in directory `k` (content `d`, no state-point file), all other directories as in `w`:
    a death or an exception finds the directory without state-point file; `next` is entered with
    the complete file or (EEXIST / EACCES swallowed) without one -/
theorem save_absent (C : Codec Sp) (ev : Nat → Option Ev) (Q : Outcome Sp → Prop) (k : Key) (v : Sp)
    (next : Prog Sp) (w : World Sp) (d : JobDir Sp) (a : Acc Sp) (hsp : d.sp = none)
    (hcrash : ∀ a' d', SpOnly d d' none → Q ⟨upd w k (some d'), .crashed, a'⟩)
    (hexc : ∀ a' d' e, SpOnly d d' none → Q ⟨upd w k (some d'), osExc e, a'⟩)
    (hnext : ∀ a' d', SpOnly d d' none ∨ SpOnly d d' (some (.ok v)) →
      Q (exec C ev next a' (upd w k (some d')))) :
    Q (exec C ev (saveProg k v false next) a (upd w k (some d))) := by
  -- the error path: swallow (EEXIST/EACCES) or `os.remove(sp)` and re-raise
  have herr : ∀ e a' d', SpOnly d d' none → Q (exec C ev (saveErr k next e) a' (upd w k (some d'))) := by
    intro e a' d' hs
    unfold saveErr
    split
    · exact hnext a' d' (.inl hs)
    · refine exec_step C ev Q _ _ a' _ (hcrash a' d' hs) (fun _ => hcrash a' d' hs)
        (fun _ _ => hexc _ d' e hs) ?_ (fun _ _ => hexc _ d' e hs)
      exact fun w' hw' => nomatch (apply_rmSp_none C (upd_same ..) hs.1).symm.trans hw'
  have h1 : ∀ x, SpOnly d { d with strays := x } none := fun _ => ⟨hsp, rfl, rfl⟩
  rw [saveProg_eq, exec]
  simp only [hasSpFile, upd_same, hsp, Option.isSome_none, Bool.not_false, Bool.or_true, if_true]
  -- open the temp file, write the chunk, replace temp -> state-point file
  refine exec_step_ok C ev Q (apply_tmpOpen C (upd_same ..) _) (hcrash a d (h1 _)) (fun _ => hcrash a d (h1 _))
    (fun e _ => herr e _ d (h1 _)) ?_
  rw [upd_upd_same]
  refine exec_step_ok C ev Q (apply_tmpWrite C (upd_same ..) _ _) (hcrash _ _ (h1 _)) ?_
    (fun e _ => herr e _ _ (h1 _)) ?_
  · intro t
    simp only [tornApply, upd_same, upd_upd_same]
    exact hcrash _ _ (h1 _)
  rw [upd_upd_same, setStray_cons_self]
  refine exec_step_ok C ev Q (apply_tmpCommit_sp C (upd_same ..) (getStray_cons_self ..)) (hcrash _ _ (h1 _))
    (fun _ => hcrash _ _ (h1 _)) (fun e _ => herr e _ _ (h1 _)) ?_
  rw [upd_upd_same]
  exact hnext _ _ (.inr ⟨rfl, rfl, rfl⟩)

theorem init_write (C : Codec Sp) (ev : Nat → Option Ev) (k : Key) (v : Sp) (w : World Sp) (a : Acc Sp)
    (d : JobDir Sp) (hsp : d.sp = none) (Q : Outcome Sp → Prop)
    (hQ : ∀ r a' d', d'.entries = d.entries → d'.bak = d.bak → (d'.sp = none ∨ d'.sp = some (.ok v)) →
      (r = .ok → validAt C (upd w k (some d')) k = true) →
      (∀ n, r = .exc n → corruptAt C (upd w k (some d')) k = true) → Q ⟨upd w k (some d'), r, a'⟩) :
    Q (exec C ev (saveProg k v false (loadProg C k)) a (upd w k (some d))) := by
  have hcor : ∀ d', SpOnly d d' none → corruptAt C (upd w k (some d')) k = true :=
    fun d' h => corrupt_of_sp_none C _ k d' (upd_same ..) h.1
  refine save_absent C ev Q k v (loadProg C k) w d a hsp ?_ ?_ ?_
  · exact fun a' d' h => hQ _ a' d' h.2.1 h.2.2 (.inl h.1) Res.noConfusion (fun _ h => Res.noConfusion h)
  · exact fun a' d' e h => hQ _ a' d' h.2.1 h.2.2 (.inl h.1) Res.noConfusion (fun _ _ => hcor d' h)
  · intro a' d' h
    have hsp' : d'.sp = none ∨ d'.sp = some (.ok v) := h.imp (·.1) (·.1)
    have h2 : d'.entries = d.entries ∧ d'.bak = d.bak := h.elim (·.2) (·.2)
    simp only [loadProg, exec]
    split
    · exact hQ _ a' d' h2.1 h2.2 hsp' (fun _ => ‹_›) (fun _ h => Res.noConfusion h)
    · refine hQ _ a' d' h2.1 h2.2 hsp' Res.noConfusion fun _ _ => ?_
      exact corrupt_of_not_valid C _ k d' (upd_same ..) (Bool.eq_false_iff.mpr ‹_›)

/-- nothing changed: fine as long as a normal return means "valid and no fault consumed" -/
theorem initSpec_unchanged (C : Codec Sp) (k : Key) (v : Sp) (w : World Sp) (r : Res) (a : Acc Sp)
    (f0 : Bool) (h : r = .ok → validAt C w k = true ∧ a.faulted = f0) : InitSpec C k v w f0 ⟨w, r, a⟩ := by
  refine ⟨?_, fun _ => .inl rfl, h, fun _ _ => .inl rfl⟩
  cases hw : w k with
  | none => exact .inl hw
  | some d => exact ⟨d, hw, rfl, rfl⟩

theorem initSpec_write (C : Codec Sp) (ev : Nat → Option Ev) (k : Key) (v : Sp) (w : World Sp) (a : Acc Sp)
    (f0 : Bool) (d : JobDir Sp) (hsp : d.sp = none) (hns : hasSpFile w k = false)
    (hd : match w k with
      | some d0 => d.entries = d0.entries ∧ d.bak = d0.bak
      | none => d.entries = [] ∧ d.bak = none)
    (hf0 : a.faulted = f0) :
    InitSpec C k v w f0 (exec C ev (saveProg k v false (loadProg C k)) a (upd w k (some d))) := by
  -- `init_write` forgets the accumulator; the fault flag comes separately, from `save_load_okClean`
  have hf := save_load_okClean C ev k v false a _ (not_valid_of_sp_none C (upd w k (some d)) k d (upd_same ..) hsp)
  revert hf
  refine init_write C ev k v w a d hsp
    (fun o => (o.res = .ok → o.acc.faulted = a.faulted) → InitSpec C k v w f0 o) ?_
  intro r a' d' h2 h3 h4 h5 h6 hf
  refine ⟨?_, fun hv' => .inr ⟨hns, d', upd_same .., ?_⟩, fun hr => ⟨h5 hr, (hf hr).trans hf0⟩,
    fun n hn => .inr (h6 n hn)⟩
  · cases hw : w k with
    | none => rw [hw] at hd; exact .inr ⟨d', upd_same .., h2.trans hd.1, h3.trans hd.2⟩
    | some d0 => rw [hw] at hd; exact ⟨d', upd_same .., h2.trans hd.1, h3.trans hd.2⟩
  · rcases h4 with h4 | h4
    · rw [not_valid_of_sp_none C _ k d' (upd_same ..) h4] at hv'; cases hv'
    · exact h4

theorem init_spec (C : Codec Sp) (k : Key) (v : Sp) (w : World Sp) (ev : Nat → Option Ev) (a0 : Acc Sp) :
    InitSpec C k v w a0.faulted (exec C ev (initProg C k v false) a0 w) := by
  cases hv : validAt C w k with
  | true =>
    rw [exec_init_valid C ev k v false a0 w hv]
    exact initSpec_unchanged C k v w _ _ _ (fun _ => ⟨hv, rfl⟩)
  | false =>
    simp only [initProg]
    rw [exec]
    simp only [hv, Bool.false_eq_true, if_false]
    cases hw : w k with
    | some d =>
      simp only [Option.isSome_some, if_true]
      cases hsp : d.sp with
      | some c =>
        -- a (non-validating) state-point file is present: save skips, load raises
        have hhas : hasSpFile w k = true := by simp only [hasSpFile, hw, hsp, Option.isSome_some]
        rw [saveProg_eq]
        simp only [loadProg, exec, hhas, hv, Bool.not_true, Bool.or_self, Bool.false_eq_true, if_false]
        exact initSpec_unchanged C k v w _ _ _ Res.noConfusion
      | none =>
        have := initSpec_write C ev k v w a0 a0.faulted d hsp
          (by simp only [hasSpFile, hw, hsp, Option.isSome_none]) (by rw [hw]; exact ⟨rfl, rfl⟩) rfl
        rwa [upd_self w k _ hw] at this
    | none =>
      -- the directory does not exist: mkdir first
      simp only [Option.isSome_none, Bool.false_eq_true, if_false]
      have hQ0 : ∀ a r, r ≠ Res.ok → InitSpec C k v w a0.faulted ⟨w, r, a⟩ :=
        fun a r hr => initSpec_unchanged C k v w r a _ (fun h => absurd h hr)
      refine exec_step C ev _ _ _ _ _ (hQ0 _ _ Res.noConfusion) (fun _ => hQ0 _ _ Res.noConfusion)
        (fun _ _ => hQ0 _ _ Res.noConfusion) ?_ (fun _ _ => hQ0 _ _ Res.noConfusion)
      intro w1 hw1
      simp only [apply, hw] at hw1
      cases hw1
      exact initSpec_write C ev k v w _ a0.faulted {} rfl (by simp only [hasSpFile, hw])
        (by rw [hw]; exact ⟨rfl, rfl⟩) rfl

end Signac.Life
