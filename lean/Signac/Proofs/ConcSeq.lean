/-
  Proofs/ConcSeq — the invariants behind the statements about final states of the C12 model: every
  job directory ends up with its state point file (`check()` passes), documents equal the
  sequential outcome, the set of jobs is the requested one.  `ConcTerm` draws the conclusions.
-/
import Signac.Proofs.ConcFinal
import Signac.Proofs.ConcTrans
namespace Signac.Conc
variable {SP DV : Type} {hash : SP → JobId}

/-! ### every job directory gets its state point file -/

/-- the actor is about to create the job directory `i`, or past that, and has not yet seen or
    published the state point file: it will not leave `init` before the file exists -/
def committed (hash : SP → JobId) (i : JobId) : Phase SP DV → Prop
  | .ini .mkdir v => hash v = i
  | .ini .isdir2 v => hash v = i
  | .ini .isfile v => hash v = i
  | .save _ j .sp _ => j = i
  | _ => False

/-- no orphan job directory: the state point file is there, or somebody is committed to it -/
def DirOwner (hash : SP → JobId) (s : Sys SP DV) : Prop :=
  ∀ i, IsDir s.fs (.jobdir i) →
    IsFile s.fs (.file i .sp) ∨ ∃ (a : Nat) (st : AState SP DV), s.actors[a]? = some st ∧ committed hash i st.phase

/-- a committed actor stays committed until it sees the state point file or publishes it -/
theorem Edge.committed {s : List (Op SP DV)} {r : Res SP DV} {p q : Phase SP DV} {i : JobId}
    (e : Edge hash s r p q) (hc : committed hash i p) :
    committed hash i q ∨ (∃ v, q = .ini .load2 v ∧ hash v = i) ∨ ∃ c, p = .save .rename i .sp c := by
  induction e with
  | mkdirOk | mkdirOld | isdir2 | isfileF => exact .inl hc
  | isfileT v => exact .inr (.inl ⟨v, rfl, hc⟩)
  | openw _ k | write _ k | close _ k => cases k <;> exact .inl hc
  | renameSp _ v => cases hc; exact .inr (.inr ⟨_, rfl⟩)
  | initLoad _ _ hn | initAssign _ _ _ _ _ hn => rcases hn with rfl | rfl <;> exact hc.elim
  | _ => exact hc.elim

theorem Move.committed {r : Res SP DV} {st st' : AState SP DV} {i : JobId} (m : Move hash r st st')
    (hc : committed hash i st.phase) (hf : st'.failed = none) :
    committed hash i st'.phase ∨ (∃ v, st'.phase = .ini .load2 v ∧ hash v = i) ∨
    ∃ c, st.phase = .save .rename i .sp c := by
  cases m with
  | fail => cases hf
  | goto q e => exact e.committed hc
  | exit o x =>
    cases x with
    | init _ _ _ hph hn => rw [hph] at hc; rcases hn with rfl | rfl <;> exact hc.elim
    | proj _ hph | saved _ _ hph | doc _ _ _ _ hph | len _ hph => rw [hph] at hc; exact hc.elim

theorem dirOwner_step {s : Sys SP DV} (h : SysInv hash s) (ho : DirOwner hash s) (b : Nat) :
    DirOwner hash (sysStep hash s b) := by
  obtain ⟨h', hG⟩ := sysStep_inv_guar h b
  intro i hd'
  have : IsFile s.fs (.file i .sp) ∨
      ∃ (a : Nat) (st : AState SP DV), s.actors[a]? = some st ∧ committed hash i st.phase := by
    by_cases hd : IsDir s.fs (.jobdir i)
    · exact ho i hd
    · rcases sysStep_cases (hash := hash) s b with ⟨e, _⟩ | ⟨st, ins, hst, hn, e⟩ <;> rw [e] at hd'
      · exact absurd hd' hd
      · obtain ⟨v, hph, hv⟩ := new_jobdir hn hd hd'
        exact .inr ⟨b, st, hst, by rw [hph]; exact hv⟩
  rcases this with hf | ⟨a, st, hst, hc⟩
  · exact .inl (hG.files _ _ hf)
  · by_cases hab : a = b
    · subst hab
      rcases sysStep_cases (hash := hash) s a with ⟨e, _⟩ | ⟨st1, ins, hst1, hn, _⟩
      · exact .inr ⟨a, st, e.symm ▸ hst, hc⟩
      · cases hst.symm.trans hst1
        have hst' := actors_sysStep_self hst hn
        have hinv' := h'.actors a _ hst'
        rcases (resume_move (next_ne_fin hn) _).committed hc hinv'.noFail with hc' | ⟨v, hv, rfl⟩ | ⟨c, hph⟩
        · exact .inr ⟨a, _, hst', hc'⟩
        · have := hinv'.phase; rw [hv] at this; exact .inl this
        · exact .inl ⟨c, rename_publishes h hst hph⟩
    · exact .inr ⟨a, st, (actors_sysStep_ne hab).trans hst, hc⟩

/-- when everybody is done, every job directory holds a complete state point file that hashes
    to the directory name: this is what `Project.check()` verifies -/
theorem done_check_passes {s : Sys SP DV} (h : SysInv hash s) (ho : DirOwner hash s) (hd : AllDone s)
    (i : JobId) (hdir : IsDir s.fs (.jobdir i)) :
    ∃ v, s.fs.get (.file i .sp) = some (.file (.spc v)) ∧ hash v = i := by
  rcases ho i hdir with ⟨c, hc⟩ | ⟨a, st, hst, hcm⟩
  · obtain ⟨v, hv, hh⟩ := (files_valid h.fs i).1 _ hc
    cases hv
    exact ⟨v, hc, hh⟩
  · rw [hd st (List.mem_of_getElem? hst)] at hcm
    exact hcm.elim

/-! ### documents: the sequential outcome -/

/-- one logical write to a job document: `doc[k] = x`, or the whole-document assignment `doc = d` -/
inductive DocW (DV : Type) where
  | set (k : String) (x : DV)
  | assign (d : Doc DV)

/-- the document after one write: an assignment makes the document BE `d`, whatever it was -/
def applyW (d : Doc DV) : DocW DV → Doc DV
  | .set k x => setKV d k x
  | .assign d' => d'

/-- the write an operation performs on the document of job `i` (if any) -/
def writeOn (hash : SP → JobId) (i : JobId) : Op SP DV → Option (DocW DV)
  | .docSet v k x => if hash v = i then some (.set k x) else none
  | .docAssign v d => if hash v = i then some (.assign d) else none
  | _ => none

/-- the writes (`doc[k] = x` and `doc = d`) on job `i` still to be completed by a script, in
    program order -/
def pendingSets (hash : SP → JobId) (i : JobId) (s : List (Op SP DV)) : List (DocW DV) :=
  s.filterMap (writeOn hash i)

def applySets (d : Doc DV) : List (DocW DV) → Doc DV
  | [] => d
  | w :: r => applySets (applyW d w) r

theorem applySets_append (d : Doc DV) (l1 l2 : List (DocW DV)) :
    applySets d (l1 ++ l2) = applySets (applySets d l1) l2 := by
  induction l1 generalizing d with
  | nil => rfl
  | cons w r ih => simp only [List.cons_append, applySets]; exact ih _

theorem applySets_snoc (d : Doc DV) (l : List (DocW DV)) (w : DocW DV) :
    applySets d (l ++ [w]) = applyW (applySets d l) w := by
  rw [applySets_append]; rfl

theorem pendingSets_tail {i : JobId} {s : List (Op SP DV)}
    (h : ∀ op t, s = op :: t → writeOn hash i op = none) :
    pendingSets hash i s.tail = pendingSets hash i s := by
  cases s with
  | nil => rfl
  | cons op t => simp [pendingSets, h op t rfl]

theorem pendingSets_cons {i : JobId} {op : Op SP DV} {r : List (Op SP DV)} {wr : DocW DV}
    (h : writeOn hash i op = some wr) : pendingSets hash i (op :: r) = wr :: pendingSets hash i r := by
  simp [pendingSets, h]

/-- only the completing rename of a write on job `i` takes that operation off the script -/
theorem Move.pending {st st' : AState SP DV} {r : Res SP DV} {i : JobId} (m : Move hash r st st')
    (hh : HeadOk hash st.phase st.script) (hnr : ∀ c, st.phase ≠ .save .rename i .doc c) :
    pendingSets hash i st'.script = pendingSets hash i st.script := by
  rcases m.script with ⟨e, _⟩ | ⟨o, x, e, _⟩ <;> rw [e]
  refine pendingSets_tail fun op t hs => ?_
  cases x with
  | proj _ hph | len _ hph => rw [hph, hs] at hh; obtain ⟨_, e⟩ := hh; cases e; rfl
  | init _ _ _ _ _ _ hd => rw [hs] at hd; cases op <;> first | rfl | cases hd
  | doc _ _ _ _ _ hs' => cases hs.symm.trans hs'; rfl
  | saved j c hph =>
    rw [hph, hs] at hh
    rcases hh with ⟨_, _, _, _, e, hv⟩ | ⟨_, _, _, e, hv, _⟩ <;> cases e <;>
      exact if_neg fun hvi => hnr c (by rw [hph, ← hvi, hv])

def AllHeadOk (hash : SP → JobId) (s : Sys SP DV) : Prop :=
  ∀ (a : Nat) (st : AState SP DV), s.actors[a]? = some st → HeadOk hash st.phase st.script

theorem allHeadOk_step {s : Sys SP DV} (h : AllHeadOk hash s) (b : Nat) :
    AllHeadOk hash (sysStep hash s b) :=
  actors_step h fun st _ hst hn => (resume_move (next_ne_fin hn) _).headOk (h b st hst)

theorem allHeadOk_start (fs : FS SP DV) (scripts : List (List (Op SP DV))) :
    AllHeadOk hash (startSys fs scripts) := by
  intro a st hst
  obtain ⟨sc, _, rfl⟩ := getElem?_start hst
  exact headOk_start sc

/-- what actor `w` still has to write into the document of job `i` -/
def wPending (hash : SP → JobId) (i : JobId) (w : Nat) (s : Sys SP DV) : List (DocW DV) :=
  match s.actors[w]? with
  | some st => pendingSets hash i st.script
  | none => []

/-- Invariant for a document with (at most) one writing actor `w`: applying what the writer still
    has to do to the published document always gives the same result `T`; while the writer is
    saving a `doc[k] = x`, its payload is the published document with the pending key set (the
    payload of an assignment is the assigned mapping: part of `HeadOk`). -/
structure DocInv (hash : SP → JobId) (i : JobId) (w : Nat) (T : Doc DV) (s : Sys SP DV) : Prop where
  heads : AllHeadOk hash s
  others : ∀ (a : Nat), a ≠ w → wPending hash i a s = []
  target : applySets (docNow s.fs i) (wPending hash i w s) = T
  saving : ∀ (st : AState SP DV) n c, s.actors[w]? = some st → st.phase = .save n i .doc c →
    ∀ v k x r, st.script = .docSet v k x :: r → c = .docc (setKV (docNow s.fs i) k x)

/-- the payload of a save of the document of job `i` in progress: the published document with the
    write at the head of the writer's script applied -/
theorem saving_payload {s : Sys SP DV} {i : JobId} {w : Nat} {T : Doc DV} (hd : DocInv hash i w T s)
    {b : Nat} {st : AState SP DV} {n : SavePc} {c : Content SP DV}
    (hst : s.actors[b]? = some st) (hph : st.phase = .save n i .doc c) :
    b = w ∧ ∃ op r wr, st.script = op :: r ∧ writeOn hash i op = some wr ∧
      c = .docc (applyW (docNow s.fs i) wr) := by
  have hhead := hd.heads b st hst
  rw [hph] at hhead
  -- the head operation writes on `i`, so `b` has a pending write, so `b` is the writer
  have key : ∀ op r wr, st.script = op :: r → writeOn hash i op = some wr → b = w :=
    fun op r wr hs hwr => Classical.byContradiction fun hne => by
      have : pendingSets hash i st.script = [] := by simpa only [wPending, hst] using hd.others b hne
      rw [hs, pendingSets_cons hwr] at this
      cases this
  rcases hhead with ⟨v, k, x, r, hs, hv⟩ | ⟨v, d, r, hs, hv, hc⟩
  · have hwr : writeOn hash i (.docSet v k x) = some (.set k x) := if_pos hv
    cases key _ _ _ hs hwr
    exact ⟨rfl, _, r, _, hs, hwr, hd.saving st n c hst hph v k x r hs⟩
  · have hwr : writeOn hash i (.docAssign v d) = some (.assign d) := if_pos hv
    exact ⟨key _ _ _ hs hwr, _, r, _, hs, hwr, hc⟩

theorem wPending_other {s : Sys SP DV} {i : JobId} {a b : Nat} (hab : a ≠ b) :
    wPending hash i a (sysStep hash s b) = wPending hash i a s := by
  simp only [wPending, actors_sysStep_ne hab]

/-- A step leaves the published document of job `i` and everybody's pending writes on it alone, or
    it is the writer's completing rename: the published document becomes the old one with the
    head write applied, and that write leaves the script. -/
theorem doc_step {s : Sys SP DV} {i : JobId} {w : Nat} {T : Doc DV}
    (h : SysInv hash s) (hd : DocInv hash i w T s) (b : Nat) :
    (docNow (sysStep hash s b).fs i = docNow s.fs i ∧
      ∀ a, wPending hash i a (sysStep hash s b) = wPending hash i a s) ∨
    (b = w ∧ ∃ st wr, (sysStep hash s b).actors[b]? = some (finishOp st) ∧
      wPending hash i b s = wr :: wPending hash i b (sysStep hash s b) ∧
      docNow (sysStep hash s b).fs i = applyW (docNow s.fs i) wr) := by
  by_cases hren : ∃ st c, s.actors[b]? = some st ∧ st.phase = .save .rename i .doc c
  · obtain ⟨st, c, hst, hph⟩ := hren
    obtain ⟨hbw, op, r, wr, hs, hwr, hc⟩ := saving_payload hd hst hph
    have hact : (sysStep hash s b).actors[b]? = some (finishOp st) := by
      rw [sysStep_rename h hst hph, show resume hash st .ok = finishOp st by simp only [resume, hph, resumeSave]]
      exact getElem?_set_self' hst
    refine .inr ⟨hbw, st, wr, hact, ?_, ?_⟩
    · simp only [wPending, hst, hact, finishOp_script, hs, List.tail_cons]
      exact pendingSets_cons hwr
    · simp only [docNow, rename_publishes h hst hph, hc]
  · have hnr : ∀ st, s.actors[b]? = some st → ∀ c, st.phase ≠ .save .rename i .doc c :=
      fun st hst c e => hren ⟨st, c, hst, e⟩
    refine .inl ⟨by simp only [docNow, sysStep_frame hnr], fun a => ?_⟩
    by_cases hab : a = b
    · subst hab
      rcases sysStep_cases (hash := hash) s a with ⟨e, _⟩ | ⟨st, ins, hst, hn, _⟩
      · rw [e]
      simp only [wPending, actors_sysStep_self hst hn, hst]
      exact (resume_move (next_ne_fin hn) _).pending (hd.heads a st hst) (hnr st hst)
    · exact wPending_other hab

theorem docInv_step {s : Sys SP DV} {i : JobId} {w : Nat} {T : Doc DV}
    (h : SysInv hash s) (hd : DocInv hash i w T s) (b : Nat) : DocInv hash i w T (sysStep hash s b) := by
  have hheads := allHeadOk_step hd.heads b
  rcases doc_step h hd b with ⟨hdn, hpend⟩ | ⟨rfl, st, wr, hact, hpend, hdn⟩
  · refine ⟨hheads, fun a hne => (hpend a).trans (hd.others a hne), by rw [hdn, hpend]; exact hd.target, ?_⟩
    intro st' n c' hst' hph' v k x t hs'
    rw [hdn]
    by_cases hwb : w = b
    · subst hwb
      rcases sysStep_cases (hash := hash) s w with ⟨e, _⟩ | ⟨st, ins, hst, hn, _⟩
      · exact hd.saving st' n c' (e ▸ hst') hph' v k x t hs'
      · -- a save of this document with a `doc[k] = x` at the head goes on, or has just loaded
        cases (actors_sysStep_self hst hn).symm.trans hst'
        obtain ⟨hsc, hfrom⟩ := (resume_move (next_ne_fin hn) _).into_docSave hph'
        rw [hsc] at hs'
        rcases hfrom with ⟨m, hph⟩ | ⟨_, _, _, hs⟩ | ⟨v0, _, _, _, _, d, hph, hv, hs, hr, rfl⟩
        · exact hd.saving st m c' hst hph v k x t hs'
        · cases hs.symm.trans hs'
        · cases hs.symm.trans hs'
          obtain rfl := next_at w hph hn
          rw [docOf_read h.fs] at hr; cases hr
          rw [hv]
    · rw [actors_sysStep_ne hwb] at hst'
      exact hd.saving st' n c' hst' hph' v k x t hs'
  · refine ⟨hheads, fun a hne => (wPending_other hne).trans (hd.others a hne), ?_, ?_⟩
    · rw [hdn, ← hd.target, hpend]; rfl
    · intro st' n c' hst' hph'
      cases hact.symm.trans hst'
      exact absurd hph' (finishOp_ne_save st)

theorem docInv_run {s : Sys SP DV} {i : JobId} {w : Nat} {T : Doc DV}
    (h : SysInv hash s) (hd : DocInv hash i w T s) (sched : List Nat) :
    DocInv hash i w T (run hash s sched) :=
  (run_invariant (I := fun s => SysInv hash s ∧ DocInv hash i w T s)
    (fun _ a ⟨h, hd⟩ => ⟨(sysStep_inv_guar h a).1, docInv_step h hd a⟩) ⟨h, hd⟩ sched).2

/-- at most actor `w` writes (`doc[k] = x` or `doc = d`) the document of job `i` -/
def SingleWriter (hash : SP → JobId) (i : JobId) (w : Nat) (scripts : List (List (Op SP DV))) : Prop :=
  ∀ (a : Nat) (sc : List (Op SP DV)), scripts[a]? = some sc → a ≠ w → pendingSets hash i sc = []

/-- the writes of actor `w` on the document of job `i`, in program order -/
def writesOf (hash : SP → JobId) (i : JobId) (w : Nat) (scripts : List (List (Op SP DV))) :
    List (DocW DV) :=
  match scripts[w]? with
  | some sc => pendingSets hash i sc
  | none => []

theorem wPending_start (fs : FS SP DV) (i : JobId) (a : Nat) (scripts : List (List (Op SP DV))) :
    wPending hash i a (startSys fs scripts) = writesOf hash i a scripts := by
  simp only [wPending, writesOf, startSys, List.getElem?_map]
  cases scripts[a]? <;> rfl

theorem docInv_initially {fs : FS SP DV} {i : JobId} {w : Nat} {scripts : List (List (Op SP DV))}
    (hsw : SingleWriter hash i w scripts) :
    DocInv hash i w (applySets (docNow fs i) (writesOf hash i w scripts))
      (startSys fs scripts) := by
  refine ⟨allHeadOk_start fs scripts, fun a hne => ?_, by rw [wPending_start]; rfl, ?_⟩
  · rw [wPending_start]
    simp only [writesOf]
    cases hs : scripts[a]? with
    | none => rfl
    | some sc => exact hsw a sc hs hne
  · intro st n c hst hph
    obtain ⟨_, _, rfl⟩ := getElem?_start hst
    cases hph

/-! ### the set of jobs: exactly the requested ones -/

/-- the operation is one on the job with id `i` -/
def mentions (hash : SP → JobId) (i : JobId) : Op SP DV → Prop
  | .init v => hash v = i
  | .docSet v _ _ => hash v = i
  | .docGet v => hash v = i
  | .docAssign v _ => hash v = i
  | _ => False

theorem jobOp_mentions {v : SP} {s r : List (Op SP DV)} {op : Op SP DV} {i : JobId}
    (h : jobOp v s) (hs : s = op :: r) (hm : mentions hash i op) : hash v = i := by
  rcases h with (⟨k, x, r', h⟩ | ⟨r', h⟩) | ⟨r', h⟩ | ⟨d, r', h⟩ <;> rw [hs] at h <;> cases h <;> exact hm

theorem jobOp_head_mentions {v : SP} {s : List (Op SP DV)} (h : jobOp v s) :
    ∃ op r, s = op :: r ∧ mentions hash (hash v) op := by
  rcases h with (⟨_, _, _, h⟩ | ⟨_, h⟩) | ⟨_, h⟩ | ⟨_, _, h⟩ <;> exact ⟨_, _, h, rfl⟩

/-- an operation leaves the script only when the directory of its job exists -/
theorem Exit.has_dir {fs : FS SP DV} {a : Nat} {st : AState SP DV} {ins : Instr SP DV}
    {o : List (Obs SP DV)} (hfs : FsInv hash fs) (hinv : AInv hash fs a st)
    (hh : HeadOk hash st.phase st.script) (hn : next hash a st = some ins)
    (x : Exit hash (exec fs ins).2 st o) {op : Op SP DV} {t : List (Op SP DV)}
    (hs : st.script = op :: t) {i : JobId} (hm : mentions hash i op) : IsDir fs (.jobdir i) := by
  have hp := hinv.phase
  cases x with
  | proj _ hph | len _ hph => rw [hph, hs] at hh; obtain ⟨_, e⟩ := hh; cases e; exact hm.elim
  | init n v w hph hn' hr =>
    rw [hph] at hh
    have : ins = .read (.file (hash v) .sp) := by
      rcases hn' with rfl | rfl <;> exact (next_at a hph hn).symm
    subst this
    rw [← jobOp_mentions hh hs hm]
    exact parent_dir hfs (exec_read_data hr) rfl
  | saved j c hph =>
    rw [hph] at hh hp
    have : j = i := by
      rcases hh with ⟨_, _, _, _, e, hv⟩ | ⟨_, _, _, e, hv, _⟩ <;> cases hs.symm.trans e <;> exact hv.symm.trans hm
    exact this ▸ parent_dir hfs hp.1 rfl
  | doc v _ _ _ hph =>
    rw [hph] at hh hp
    exact jobOp_mentions (.inl hh) hs hm ▸ hp

/-- job `i` is requested: it is there initially or some script names it -/
def Requested (hash : SP → JobId) (s0 : Sys SP DV) (i : JobId) : Prop :=
  IsDir s0.fs (.jobdir i) ∨
  ∃ (a : Nat) (st0 : AState SP DV) (op : Op SP DV), s0.actors[a]? = some st0 ∧ op ∈ st0.script ∧ mentions hash i op

/-- the job directories are requested ones (`sound`); every actor has completed a prefix of its
    script, and the jobs the completed operations name have their directories (`prog`) -/
structure JobsInv (hash : SP → JobId) (s0 s : Sys SP DV) : Prop where
  sound : ∀ i, IsDir s.fs (.jobdir i) → Requested hash s0 i
  prog : ∀ (a : Nat) (st : AState SP DV), s.actors[a]? = some st →
    ∃ (st0 : AState SP DV) (pre : List (Op SP DV)), s0.actors[a]? = some st0 ∧
      st0.script = pre ++ st.script ∧ ∀ op ∈ pre, ∀ i, mentions hash i op → IsDir s.fs (.jobdir i)

theorem jobsInv_refl (s0 : Sys SP DV) : JobsInv hash s0 s0 :=
  ⟨fun _ h => Or.inl h, fun _ st h => ⟨st, [], h, rfl, fun _ hm => by cases hm⟩⟩

theorem jobsInv_step {s0 s : Sys SP DV} (h : SysInv hash s) (hh : AllHeadOk hash s)
    (hj : JobsInv hash s0 s) (b : Nat) : JobsInv hash s0 (sysStep hash s b) := by
  rcases sysStep_cases (hash := hash) s b with ⟨e, _⟩ | ⟨st, ins, hst, hn, e⟩ <;> rw [e]
  · exact hj
  have hinv := h.actors b st hst
  have hhead := hh b st hst
  obtain ⟨_, hG, _⟩ := step_own h.fs hinv hn
  obtain ⟨st0, pre, hst0, hpre, hdirs⟩ := hj.prog b st hst
  refine ⟨fun i hd' => ?_, fun a st' ha => ?_⟩
  · by_cases hd : IsDir s.fs (.jobdir i)
    · exact hj.sound i hd
    · obtain ⟨v, hph, rfl⟩ := new_jobdir hn hd hd'
      rw [hph] at hhead
      obtain ⟨op, r, hs, hm⟩ := jobOp_head_mentions (hash := hash) hhead
      exact .inr ⟨b, st0, op, hst0, by rw [hpre, hs]; simp, hm⟩
  · by_cases hab : a = b
    · subst hab
      rw [getElem?_set_self' hst] at ha; cases ha
      have keep : ∀ op ∈ pre, ∀ i, mentions hash i op → IsDir (exec s.fs ins).1 (.jobdir i) :=
        fun op ho i hm => hG.dirs _ (hdirs op ho i hm)
      rcases (resume_move (hash := hash) (next_ne_fin hn) (exec s.fs ins).2).script with
        ⟨e, _⟩ | ⟨o, x, e, _⟩ <;> rw [e]
      · exact ⟨st0, pre, hst0, hpre, keep⟩
      · cases hs : st.script with
        | nil => exact ⟨st0, pre, hst0, by rw [hpre, hs]; rfl, keep⟩
        | cons op t =>
          refine ⟨st0, pre ++ [op], hst0, by rw [hpre, hs]; simp, fun op' ho i hm => ?_⟩
          rcases List.mem_append.1 ho with ho | ho
          · exact keep op' ho i hm
          · cases List.mem_singleton.1 ho
            exact hG.dirs _ (x.has_dir h.fs hinv hhead hn hs hm)
    · rw [List.getElem?_set_ne (Ne.symm hab)] at ha
      obtain ⟨st0', pre', h1, h2, h3⟩ := hj.prog a st' ha
      exact ⟨st0', pre', h1, h2, fun op ho i hm => hG.dirs _ (h3 op ho i hm)⟩

end Signac.Conc
