/-
  update_cache makes the cache file exact and is idempotent; cache transparency.  Core only.
-/
import Signac.Proofs.CacheInv
namespace Signac.Cache
open Signac Signac.Ws

section
variable {hash : JVal → String}

theorem sameKeys_iff (a b : List (String × JVal)) :
    sameKeys a b = true ↔ ∀ x, x ∈ K a ↔ x ∈ K b := by
  have half : ∀ a b : List (String × JVal),
      (a.all fun e => (alookup e.1 b).isSome) = true ↔ ∀ x, x ∈ K a → x ∈ K b := fun a b => by
    rw [List.all_eq_true]
    exact ⟨fun h x hx => let ⟨e, he, hk⟩ := List.mem_map.mp hx; hk ▸ alookup_isSome_iff.mp (h e he),
      fun h e he => alookup_isSome_iff.mpr (h e.1 (List.mem_map.mpr ⟨e, he, rfl⟩))⟩
  unfold sameKeys
  rw [Bool.and_eq_true, half, half]
  exact ⟨fun h x => ⟨h.1 x, h.2 x⟩, fun h => ⟨fun x => (h x).mp, fun x => (h x).mpr⟩⟩

theorem updateCache_ws (s : St) : (updateCache hash s).1.ws = s.ws :=
  updateCache_cases (motive := fun r => r.1.ws = s.ws) s (fun _ _ _ _ => readCache_ws s)
    (fun _ _ _ _ _ => readCache_ws s) (fun _ _ _ => readCache_ws s)

theorem session_after_update_keys (s : St) (hv : AllValid hash s.ws) {sess : List (String × JVal)}
    {bad : List String}
    (ha : addMissing hash s.ws (dropStale s.ws (readCache s).session) s.ws = (sess, bad)) :
    bad = [] ∧ ∀ x, x ∈ K sess ↔ x ∈ K s.ws := by
  have := addMissing_valid (hash := hash) s.ws s.ws (dropStale s.ws (readCache s).session) hv
  rw [ha] at this
  refine ⟨this.1, fun x => ?_⟩
  rw [this.2 x, mem_keys_dropStale]
  exact ⟨fun h => h.elim And.right id, Or.inr⟩

/-- After `update_cache()` on an uncorrupted workspace: no error, the workspace is untouched, and
    the cache file lists exactly the ids of the workspace. -/
theorem updateCache_exact (s : St) (hv : AllValid hash s.ws) :
    (updateCache hash s).2.2.isNone = true ∧ (updateCache hash s).1.ws = s.ws ∧
    ∃ c, (updateCache hash s).1.cacheFile = some c ∧ ∀ x, x ∈ K c ↔ x ∈ K s.ws := by
  have key : (updateCache hash s).2.2.isNone = true ∧
      ∃ c, (updateCache hash s).1.cacheFile = some c ∧ ∀ x, x ∈ K c ↔ x ∈ K s.ws := by
    refine updateCache_cases (motive := fun r => r.2.2.isNone = true ∧
        ∃ c, r.1.cacheFile = some c ∧ ∀ x, x ∈ K c ↔ x ∈ K s.ws) s
      (fun sess bad ha hb => absurd (session_after_update_keys s hv ha).1 hb)
      (fun sess c ha hc hk => ⟨rfl, c, (readCache_cacheFile s).trans hc, fun x => ?_⟩)
      (fun sess ha _ => ⟨rfl, sess, rfl, (session_after_update_keys s hv ha).2⟩)
    rw [(sameKeys_iff _ _).mp hk x, (session_after_update_keys s hv ha).2 x]
  exact ⟨key.1, updateCache_ws s, key.2⟩

/-- A cache file whose ids are exactly the workspace ids: `update_cache()` reports nothing to do
    and leaves file and workspace alone (in particular an immediate second call). -/
theorem updateCache_uptodate (s : St) (hv : AllValid hash s.ws) {c : List (String × JVal)}
    (hc : s.cacheFile = some c) (hk : ∀ x, x ∈ K c ↔ x ∈ K s.ws) :
    (updateCache hash s).2.1 = none ∧ (updateCache hash s).1.cacheFile = some c ∧
    (updateCache hash s).1.ws = s.ws := by
  refine updateCache_cases (motive := fun r => r.2.1 = none ∧ r.1.cacheFile = some c ∧ r.1.ws = s.ws) s
    (fun sess bad ha hb => absurd (session_after_update_keys s hv ha).1 hb)
    (fun sess c' ha hc' _ => ⟨rfl, (readCache_cacheFile s).trans hc, readCache_ws s⟩)
    (fun sess ha hne => ?_)
  have := hne c hc
  rw [(sameKeys_iff c sess).mpr fun x => by rw [hk x, (session_after_update_keys s hv ha).2 x]] at this
  cases this

theorem updateCache_idempotent (s : St) (hv : AllValid hash s.ws) :
    (updateCache hash (updateCache hash s).1).2.1 = none ∧
    (updateCache hash (updateCache hash s).1).1.cacheFile = (updateCache hash s).1.cacheFile ∧
    (updateCache hash (updateCache hash s).1).1.ws = s.ws := by
  obtain ⟨_, hws, c, hc, hk⟩ := updateCache_exact (hash := hash) s hv
  have := updateCache_uptodate (hash := hash) (updateCache hash s).1 (hws ▸ hv) hc (hws ▸ hk)
  exact ⟨this.1, this.2.1.trans hc.symm, this.2.2.trans hws⟩

/-- An undamaged job can always be opened by id. -/
theorem openById_intact (s : St) (id : String) (d : Dir) (hl : alookup id s.ws = some d)
    (hv : (loadValid hash d id).isSome = true) : ∃ v, (openById hash s id).2 = .ok v :=
  getStatepoint_cases (motive := fun r => ∃ v, r.2 = .ok v) s id (fun v _ => ⟨v, rfl⟩)
    (fun _ v _ _ => ⟨v, rfl⟩)
    (fun d' hl' hn => by cases hl.symm.trans hl'; rw [hn] at hv; cases hv)
    (fun _ hl' => nomatch hl.symm.trans hl')

theorem getStatepoint_total (s : St) (hv : AllValid hash s.ws) (id : String) (hid : id ∈ K s.ws) :
    ∃ v, (getStatepoint hash s id).2 = .ok v :=
  let ⟨d, hd⟩ := Option.isSome_iff_exists.mp (alookup_isSome_iff.mpr hid)
  openById_intact s id d hd (hv id d (alookup_some_mem hd))

/-- Cache transparency: two states with the same workspace but arbitrary (valid) caches — fresh,
    stale or none — hand out, for every existing id, state points with the same hash (= the id);
    equal values wherever the hash is injective. -/
theorem cache_transparent (s1 s2 : St) (hws : s1.ws = s2.ws) (hv : AllValid hash s1.ws)
    (h1 : CacheInv hash s1) (h2 : CacheInv hash s2) (id : String) (hid : id ∈ K s1.ws) :
    ∃ v1 v2, (getStatepoint hash s1 id).2 = .ok v1 ∧ (getStatepoint hash s2 id).2 = .ok v2 ∧
      hash v1 = id ∧ hash v2 = id ∧ ((∀ a b, hash a = hash b → a = b) → v1 = v2) := by
  obtain ⟨v1, e1⟩ := getStatepoint_total s1 hv id hid
  obtain ⟨v2, e2⟩ := getStatepoint_total s2 (hws ▸ hv) id (hws ▸ hid)
  have a1 := getStatepoint_sound h1 id e1
  have a2 := getStatepoint_sound h2 id e2
  exact ⟨v1, v2, e1, e2, a1, a2, fun inj => inj _ _ (a1.trans a2.symm)⟩

end
end Signac.Cache
