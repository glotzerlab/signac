/-
  What holds of the run of every program.
  A run that consumed no fault (`faulted = false`) and did not die (`res ≠ crashed`) met only `none`
  events and IS the event-free run, whole `Outcome` included: `crash` and `torn t` end a run at once
  with `res = crashed`, `fault e` sets the sticky flag; events placed at or after the number of
  steps announced are never looked at.
  `Prog.seq p q` is ONE program, so `exec` numbers its steps through: `exec_seq` hands the
  accumulator of `p` to `q`; `exec_shift` / `run_seq_eq` restate the second half as a fresh `run`
  under the shifted schedule, the bookkeeping of both halves glued by `Acc.after`.
-/
import Signac.Proofs.LifeBasic
namespace Signac.Life
variable {Sp : Type}

theorem exec_faulted_mono (C : Codec Sp) (ev : Nat → Option Ev) (p : Prog Sp) :
    ∀ (a : Acc Sp) (w : World Sp), a.faulted = true → (exec C ev p a w).acc.faulted = true := by
  induction p with
  | done r => exact fun a w h => h
  | look f ih => exact fun a w h => ih w a w h
  | step s k ih =>
    exact fun a w h => exec_step C ev (fun o => o.acc.faulted = true) s k a w h (fun _ => h)
      (fun _ _ => ih _ _ _ rfl) (fun _ _ => ih _ _ _ h) (fun _ _ => ih _ _ _ h)

theorem exec_n_mono (C : Codec Sp) (ev : Nat → Option Ev) (p : Prog Sp) :
    ∀ (a : Acc Sp) (w : World Sp), a.n ≤ (exec C ev p a w).acc.n := by
  induction p with
  | done r => exact fun a w => Nat.le_refl _
  | look f ih => exact fun a w => ih w a w
  | step s k ih =>
    exact fun a w => exec_step C ev (fun o => a.n ≤ o.acc.n) s k a w (Nat.le_refl _) (fun _ => Nat.le_refl _)
      (fun _ _ => Nat.le_of_succ_le (ih _ (a.flt s) _)) (fun _ _ => Nat.le_of_succ_le (ih _ (a.ok s) _))
      (fun _ _ => Nat.le_of_succ_le (ih _ (a.ok s) _))

theorem exec_quiet (C : Codec Sp) (ev : Nat → Option Ev) (p : Prog Sp) :
    ∀ (a : Acc Sp) (w : World Sp), (exec C ev p a w).acc.faulted = false →
      (exec C ev p a w).res ≠ .crashed →
      exec C ev p a w = exec C noEv p a w ∧ ∀ i, a.n ≤ i → i < (exec C ev p a w).acc.n → ev i = none := by
  induction p with
  | done r => exact fun a w _ _ => ⟨rfl, fun i h1 h2 => absurd h2 (Nat.not_lt.mpr h1)⟩
  | look f ih => exact fun a w h1 h2 => ih w a w h1 h2
  | step s k ih =>
    intro a w h1 h2
    cases hev : ev a.n with
    | some e =>
      exfalso
      rw [exec_step_some C ev s k a w e hev] at h1 h2
      cases e with
      | crash => exact h2 rfl
      | torn t => exact h2 rfl
      | fault e => exact Bool.noConfusion ((exec_faulted_mono C ev _ _ _ rfl).symm.trans h1)
    | none =>
      rw [exec_step_none C ev s k a w hev] at h1 h2 ⊢
      rw [exec_step_none C noEv s k a w rfl]
      have hi : ∀ {i}, a.n ≤ i → ¬ i = a.n → (a.ok s).n ≤ i := fun h hne => Nat.lt_of_le_of_ne h (Ne.symm hne)
      cases happ : apply C w s <;>
      · simp only [happ] at h1 h2 ⊢
        refine ⟨(ih _ _ _ h1 h2).1, fun i hi1 hi2 => ?_⟩
        by_cases h : i = a.n
        · exact h ▸ hev
        · exact (ih _ _ _ h1 h2).2 i (hi hi1 h) hi2

theorem exec_eq_noEv_of_prefix (C : Codec Sp) (ev : Nat → Option Ev) (p : Prog Sp) :
    ∀ (a : Acc Sp) (w : World Sp),
      (∀ i, a.n ≤ i → i < (exec C noEv p a w).acc.n → ev i = none) →
      exec C ev p a w = exec C noEv p a w := by
  induction p with
  | done r => exact fun a w _ => rfl
  | look f ih => exact fun a w h => ih w a w h
  | step s k ih =>
    intro a w h
    rw [exec_step_none C noEv s k a w rfl] at h ⊢
    have hlt : ∀ q a' w', a' = a.ok s → a.n < (exec C noEv q a' w').acc.n :=
      fun q a' w' ha => Nat.lt_of_lt_of_le (ha ▸ Nat.lt_succ_self _) (exec_n_mono C noEv q a' w')
    have hev : ev a.n = none := by
      refine h a.n (Nat.le_refl _) ?_
      cases apply C w s <;> exact hlt _ _ _ rfl
    rw [exec_step_none C ev s k a w hev]
    cases happ : apply C w s <;>
    · simp only [happ] at h ⊢
      exact ih _ _ _ (fun i hi1 hi2 => h i (Nat.le_of_succ_le hi1) hi2)

theorem run_eq_noEv_of_quiet (C : Codec Sp) (ev : Nat → Option Ev) (p : Prog Sp) (w : World Sp)
    (hf : (run C ev p w).faulted = false) (hc : (run C ev p w).res ≠ .crashed) :
    run C ev p w = run C noEv p w :=
  (exec_quiet C ev p {} w hf hc).1

theorem run_quiet_events_none (C : Codec Sp) (ev : Nat → Option Ev) (p : Prog Sp) (w : World Sp)
    (hf : (run C ev p w).faulted = false) (hc : (run C ev p w).res ≠ .crashed) :
    ∀ i, i < (run C ev p w).acc.n → ev i = none :=
  fun i hi => (exec_quiet C ev p {} w hf hc).2 i (Nat.zero_le _) hi

theorem run_eq_noEv_of_prefix (C : Codec Sp) (ev : Nat → Option Ev) (p : Prog Sp) (w : World Sp)
    (h : ∀ i, i < (run C noEv p w).acc.n → ev i = none) : run C ev p w = run C noEv p w :=
  exec_eq_noEv_of_prefix C ev p {} w (fun i _ hi => h i hi)

theorem exec_noEv_faulted (C : Codec Sp) (p : Prog Sp) :
    ∀ (a : Acc Sp) (w : World Sp), (exec C noEv p a w).acc.faulted = a.faulted := by
  induction p with
  | done r => exact fun a w => rfl
  | look f ih => exact fun a w => ih w a w
  | step s k ih =>
    exact fun a w => exec_step C noEv (fun o => o.acc.faulted = a.faulted) s k a w rfl (fun _ => rfl)
      (fun _ h => nomatch h) (fun _ _ => ih _ _ _) (fun _ _ => ih _ _ _)

theorem run_noEv_faulted (C : Codec Sp) (p : Prog Sp) (w : World Sp) : (run C noEv p w).faulted = false :=
  exec_noEv_faulted C p {} w

theorem run_eq_noEv_of_ok (C : Codec Sp) (ev : Nat → Option Ev) (p : Prog Sp) (w : World Sp)
    (hok : (run C ev p w).res = .ok) (hf : (run C ev p w).faulted = false) :
    run C ev p w = run C noEv p w :=
  run_eq_noEv_of_quiet C ev p w hf (fun h => Res.noConfusion (hok.symm.trans h))

/-- what a program does when nothing goes wrong from outside: every step is performed, a step
    that fails by itself hands its errno to the program's error handling -/
def ev0 (C : Codec Sp) : Prog Sp → World Sp → World Sp × Res
  | .done r, w => (w, r)
  | .look f, w => ev0 C (f w) w
  | .step s k, w =>
    match apply C w s with
    | .ok w' => ev0 C (k none) w'
    | .error e => ev0 C (k (some e)) w

theorem ev0_step_ok (C : Codec Sp) {s : Step Sp} {w w' : World Sp} (k : Option Errno → Prog Sp)
    (h : apply C w s = .ok w') : ev0 C (.step s k) w = ev0 C (k none) w' := by
  simp only [ev0, h]

theorem ev0_step_err (C : Codec Sp) {s : Step Sp} {w : World Sp} {e : Errno} (k : Option Errno → Prog Sp)
    (h : apply C w s = .error e) : ev0 C (.step s k) w = ev0 C (k (some e)) w := by
  simp only [ev0, h]

theorem exec_noEv (C : Codec Sp) (p : Prog Sp) :
    ∀ (a : Acc Sp) (w : World Sp), ((exec C noEv p a w).w, (exec C noEv p a w).res) = ev0 C p w := by
  induction p with
  | done r => exact fun a w => rfl
  | look f ih => exact fun a w => ih w a w
  | step s k ih =>
    intro a w
    rw [exec_step_none C noEv s k a w rfl]
    cases happ : apply C w s with
    | ok w' => rw [ev0_step_ok C k happ]; exact ih _ _ _
    | error e => rw [ev0_step_err C k happ]; exact ih _ _ _

theorem run_noEv_w (C : Codec Sp) (p : Prog Sp) (w : World Sp) : (run C noEv p w).w = (ev0 C p w).1 :=
  congrArg Prod.fst (exec_noEv C p {} w)

theorem run_noEv_res (C : Codec Sp) (p : Prog Sp) (w : World Sp) : (run C noEv p w).res = (ev0 C p w).2 :=
  congrArg Prod.snd (exec_noEv C p {} w)

theorem exec_seq (C : Codec Sp) (ev : Nat → Option Ev) (p q : Prog Sp) :
    ∀ (a : Acc Sp) (w : World Sp),
      exec C ev (p.seq q) a w =
        if (exec C ev p a w).res = .ok then exec C ev q (exec C ev p a w).acc (exec C ev p a w).w
        else exec C ev p a w := by
  induction p with
  | done r => intro a w; cases r <;> rfl
  | look f ih => exact fun a w => ih w a w
  | step s k ih =>
    intro a w
    rw [Prog.seq]
    cases hev : ev a.n with
    | none =>
      rw [exec_step_none C ev s _ a w hev, exec_step_none C ev s k a w hev]
      cases apply C w s <;> exact ih _ _ _
    | some e =>
      rw [exec_step_some C ev s _ a w e hev, exec_step_some C ev s k a w e hev]
      cases e with
      | crash => rfl
      | torn t => rfl
      | fault e => exact ih _ _ _

theorem OkClean.seq (C : Codec Sp) (ev : Nat → Option Ev) {p q : Prog Sp} {a : Acc Sp} {w : World Sp}
    (hp : OkClean a (exec C ev p a w)) (hq : ∀ a' w', OkClean a' (exec C ev q a' w')) :
    OkClean a (exec C ev (p.seq q) a w) := by
  rw [exec_seq]
  split
  · exact fun hok => (hq _ _ hok).trans (hp ‹_›)
  · exact hp

/-- the schedule seen by a program that starts after `m` steps were announced -/
def shiftEv (m : Nat) (ev : Nat → Option Ev) : Nat → Option Ev := fun n => ev (m + n)

/-- bookkeeping `b` of a run started after the bookkeeping `a0`: step numbers add up, the trace
    (newest first) is continued, the fault flag is sticky -/
def Acc.after (a0 b : Acc Sp) : Acc Sp := ⟨a0.n + b.n, b.trace ++ a0.trace, a0.faulted || b.faulted⟩

def Outcome.after (a0 : Acc Sp) (o : Outcome Sp) : Outcome Sp := ⟨o.w, o.res, a0.after o.acc⟩

@[simp] theorem Outcome.after_w (a0 : Acc Sp) (o : Outcome Sp) : (o.after a0).w = o.w := rfl
@[simp] theorem Outcome.after_res (a0 : Acc Sp) (o : Outcome Sp) : (o.after a0).res = o.res := rfl
theorem Outcome.after_n (a0 : Acc Sp) (o : Outcome Sp) : (o.after a0).acc.n = a0.n + o.acc.n := rfl
theorem Outcome.after_trace (a0 : Acc Sp) (o : Outcome Sp) :
    (o.after a0).acc.trace = o.acc.trace ++ a0.trace := rfl
theorem Outcome.after_faulted (a0 : Acc Sp) (o : Outcome Sp) :
    (o.after a0).faulted = (a0.faulted || o.faulted) := rfl

theorem Acc.after_empty (a0 : Acc Sp) : a0.after {} = a0 := by
  cases a0; simp [Acc.after]

theorem exec_shift (C : Codec Sp) (ev : Nat → Option Ev) (a0 : Acc Sp) (q : Prog Sp) :
    ∀ (b : Acc Sp) (w : World Sp),
      exec C ev q (a0.after b) w = (exec C (shiftEv a0.n ev) q b w).after a0 := by
  have hok : ∀ b s, (a0.after b).ok s = a0.after (b.ok s) := fun b s => by
    simp only [Acc.after, Acc.ok, Nat.add_assoc, List.cons_append]
  have hflt : ∀ b s, (a0.after b).flt s = a0.after (b.flt s) := fun b s => by
    simp only [Acc.after, Acc.flt, Nat.add_assoc, List.cons_append, Bool.or_true]
  induction q with
  | done r => exact fun b w => rfl
  | look f ih => exact fun b w => ih w b w
  | step s k ih =>
    intro b w
    cases hev : ev (a0.n + b.n) with
    | none =>
      rw [exec_step_none C ev s k _ w hev, exec_step_none C (shiftEv a0.n ev) s k b w hev, hok]
      cases apply C w s <;> exact ih _ _ _
    | some e =>
      rw [exec_step_some C ev s k _ w e hev, exec_step_some C (shiftEv a0.n ev) s k b w e hev]
      cases e with
      | crash => rfl
      | torn t => rfl
      | fault e => simp only []; rw [hflt]; exact ih _ _ _

theorem run_seq_eq (C : Codec Sp) (ev : Nat → Option Ev) (p q : Prog Sp) (w : World Sp) :
    run C ev (p.seq q) w =
      if (run C ev p w).res = .ok then
        (run C (shiftEv (run C ev p w).acc.n ev) q (run C ev p w).w).after (run C ev p w).acc
      else run C ev p w := by
  refine (exec_seq C ev p q {} w).trans ?_
  congr 1
  exact (congrArg (exec C ev q · _) (Acc.after_empty _).symm).trans (exec_shift C ev _ q {} _)

theorem seq_all {φ : Step Sp → Prop} {p q : Prog Sp} (hp : Prog.All φ p) (hq : Prog.All φ q) :
    Prog.All φ (p.seq q) := by
  induction hp with
  | done r => cases r <;> first | exact hq | exact .done _
  | look f _ ih => exact .look _ ih
  | step s k hs _ ih => exact .step _ _ hs ih

end Signac.Life
