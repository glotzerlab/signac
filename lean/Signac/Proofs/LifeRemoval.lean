/- `Job.remove` and `Job.clear` under every event schedule: what `rmtree` unlinks, the steps of
   the two programs, and the invariants they keep — `remove` only shrinks the payload and never
   writes a state-point file; `clear` never removes the job directory and never touches the
   state-point file; a normal return of either consumed no fault. -/
import Signac.Proofs.LifeRekey
namespace Signac.Life
variable {Sp : Type}

theorem docName_ne_spName : docName ≠ spName := by decide +kernel

/-- the items in the order `rmOrder` unlinks them -/
def rmRefs : List Ref → List String → List Ref
  | [], stack => stack.map Ref.dir
  | r :: rs, stack =>
    let pc := popClosed r.path stack
    pc.1.map Ref.dir ++
      (match r with
       | .dir p => rmRefs rs (p :: pc.2)
       | r => r :: rmRefs rs pc.2)

theorem rmOrder_eq_map (k : Key) : ∀ (rs : List Ref) (stack : List String),
    rmOrder (Sp := Sp) k rs stack = (rmRefs rs stack).map (fun r => Step.rmItem k r)
  | [], stack => by simp only [rmOrder, rmRefs, List.map_map]; rfl
  | r :: rs, stack => by
    cases r <;> simp only [rmOrder, rmRefs, rmOrder_eq_map k rs, List.map_append, List.map_map, List.map_cons] <;> rfl

theorem popClosed_append (next : String) : ∀ stack, (popClosed next stack).1 ++ (popClosed next stack).2 = stack
  | [] => rfl
  | top :: rest => by
    simp only [popClosed]
    split
    · rfl
    · exact congrArg (top :: ·) (popClosed_append next rest)

theorem rmRefs_cons_dir (p : String) (rs : List Ref) (stack : List String) :
    rmRefs (.dir p :: rs) stack = (popClosed p stack).1.map Ref.dir ++ rmRefs rs (p :: (popClosed p stack).2) :=
  rfl

theorem rmRefs_cons_other (r : Ref) (hr : ∀ p, r ≠ .dir p) (rs : List Ref) (stack : List String) :
    rmRefs (r :: rs) stack =
      (popClosed r.path stack).1.map Ref.dir ++ r :: rmRefs rs (popClosed r.path stack).2 := by
  cases r <;> first | exact absurd rfl (hr _) | rfl

theorem perm_shuffle {α : Type} (a : α) (l1 l2 l3 : List α) :
    (l1 ++ a :: (l2 ++ l3)).Perm (a :: l2 ++ (l1 ++ l3)) := by
  refine List.perm_middle.trans (List.Perm.cons _ ?_)
  show (l1 ++ (l2 ++ l3)).Perm (l2 ++ (l1 ++ l3))
  rw [← List.append_assoc, ← List.append_assoc]
  exact List.Perm.append_right _ List.perm_append_comm

/-- `rmtree` unlinks every item of the scan once, and the directories open at its start -/
theorem rmRefs_perm : ∀ (rs : List Ref) (stack : List String),
    (rmRefs rs stack).Perm (rs ++ stack.map Ref.dir)
  | [], stack => .refl _
  | r :: rs, stack => by
    by_cases hr : ∃ p, r = .dir p
    · obtain ⟨p, rfl⟩ := hr
      rw [rmRefs_cons_dir]
      refine (List.Perm.append_left _ (rmRefs_perm rs _)).trans ?_
      conv => rhs; rw [← popClosed_append p stack]
      simp only [List.map_cons, List.map_append]
      exact (List.Perm.append_left _ List.perm_middle).trans (perm_shuffle _ _ _ _)
    · have hr' : ∀ p, r ≠ .dir p := fun p h => hr ⟨p, h⟩
      rw [rmRefs_cons_other r hr']
      refine (List.Perm.append_left _ ((rmRefs_perm rs _).cons _)).trans ?_
      conv => rhs; rw [← popClosed_append r.path stack]
      simp only [List.map_append]
      exact perm_shuffle _ _ _ _

theorem rmOrder_mem (k : Key) (rs : List Ref) (s : Step Sp) (h : s ∈ rmOrder k rs []) :
    ∃ r ∈ rs, s = .rmItem k r := by
  rw [rmOrder_eq_map] at h
  obtain ⟨r, hr, rfl⟩ := List.mem_map.mp h
  exact ⟨r, by simpa using (rmRefs_perm rs []).mem_iff.mp hr, rfl⟩

/-- the steps of `remove` -/
inductive RmOnly (k : Key) : Step Sp → Prop
  | rmItem (r : Ref) : RmOnly k (.rmItem k r)
  | rmJobDir : RmOnly k (.rmJobDir k)

/-- the steps of `clear`: they stay in directory `k`, never unlink the state-point file, never
    remove the directory, and the only file they commit is the document -/
inductive ClearLike (k : Key) : Step Sp → Prop
  | rmItem (r : Ref) (h : r ≠ .sp) : ClearLike k (.rmItem k r)
  | tmpOpen (n : String) : ClearLike k (.tmpOpen k n)
  | tmpWrite (n : String) (c : Content Sp) : ClearLike k (.tmpWrite k n c)
  | tmpCommitDoc : ClearLike k (.tmpCommit k docName)

theorem rmErr_all (φ : Step Sp → Prop) (e : Errno) : Prog.All φ (rmErr e) := .ite (.done _) (.done _)

theorem removeSteps_rmOnly (k : Key) (order : List Ref) : ∀ s ∈ removeSteps (Sp := Sp) k order, RmOnly k s := by
  intro s hs
  rcases List.mem_append.mp hs with hs | hs
  · obtain ⟨r, _, rfl⟩ := rmOrder_mem k _ s hs; exact .rmItem r
  · cases List.mem_singleton.mp hs; exact .rmJobDir

theorem clearSteps_clearLike (k : Key) (order : List Ref) :
    ∀ s ∈ clearSteps (Sp := Sp) k order, ClearLike k s := by
  intro s hs
  rcases List.mem_append.mp hs with hs | hs
  · obtain ⟨r, hr, rfl⟩ := rmOrder_mem k _ s hs
    exact .rmItem r fun h => by subst h; exact absurd (List.mem_filter.mp hr).2 (by decide)
  · simp only [List.mem_cons, List.not_mem_nil, or_false] at hs
    rcases hs with rfl | rfl | rfl
    · exact .tmpOpen _
    · exact .tmpWrite _ _
    · exact .tmpCommitDoc

/-- both programs: nothing to do without a directory, else the steps in sequence -/
theorem removal_all {φ : Step Sp → Prop} {k : Key} {ss : List (Step Sp)} (h : ∀ s ∈ ss, φ s) :
    Prog.All φ (.look fun w => match w k with
      | none => .done .ok
      | some _ => seqProg rmErr (.done .ok) ss) :=
  .look _ fun w => by
    split
    · exact .done _
    · exact seqProg_all (rmErr_all φ) (.done _) ss h

theorem removeProg_rmOnly (k : Key) (order : List Ref) : Prog.All (RmOnly (Sp := Sp) k) (removeProg k order) :=
  removal_all (removeSteps_rmOnly k order)

theorem clearProg_clearLike (k : Key) (order : List Ref) :
    Prog.All (ClearLike (Sp := Sp) k) (clearProg k order) :=
  removal_all (clearSteps_clearLike k order)

theorem removeProg_all (k : Key) (order : List Ref) {ks : List Key} (hk : k ∈ ks) :
    Prog.All (Within (Sp := Sp) ks) (removeProg k order) :=
  (removeProg_rmOnly k order).mono fun _ hs => by cases hs <;> exact within_one hk

theorem clearProg_all (k : Key) (order : List Ref) {ks : List Key} (hk : k ∈ ks) :
    Prog.All (Within (Sp := Sp) ks) (clearProg k order) :=
  (clearProg_clearLike k order).mono fun _ hs => by cases hs <;> exact within_one hk

theorem eraseEntry_sublist (p : String) : ∀ l : List (String × Option String), (eraseEntry p l).Sublist l
  | [] => List.Sublist.slnil
  | (q, c) :: rest => by
    simp only [eraseEntry]
    split
    · exact List.Sublist.cons _ (List.Sublist.refl _)
    · exact List.Sublist.cons_cons _ (eraseEntry_sublist p rest)

/-- directory `k` is gone, or still has the state-point file of `D` or none, and a sub-list of
    the payload of `D` -/
def Shrunk (k : Key) (D : JobDir Sp) (w : World Sp) : Prop :=
  w k = none ∨ ∃ d, w k = some d ∧ (d.sp = D.sp ∨ d.sp = none) ∧ d.entries.Sublist D.entries

theorem shrunk_dropItem {D d : JobDir Sp} (r : Ref) (hsp : d.sp = D.sp ∨ d.sp = none)
    (hsub : d.entries.Sublist D.entries) :
    ((dropItem d r).sp = D.sp ∨ (dropItem d r).sp = none) ∧ (dropItem d r).entries.Sublist D.entries := by
  cases r <;> first
    | exact ⟨hsp, hsub⟩
    | exact ⟨.inr rfl, hsub⟩
    | exact ⟨hsp, (eraseEntry_sublist _ _).trans hsub⟩

theorem remove_shrunk (C : Codec Sp) (ev : Nat → Option Ev) (k : Key) (order : List Ref) (D : JobDir Sp)
    (w : World Sp) (hD : w k = some D) : Shrunk k D (run C ev (removeProg k order) w).w := by
  refine exec_inv C ev (RmOnly k) (Shrunk k D) ?_ (fun s w t hs hR => by cases hs <;> exact hR)
    (removeProg_rmOnly k order) _ _ (.inr ⟨D, hD, .inl rfl, .refl _⟩)
  intro s w w' hs hR h
  rcases hR with hR | ⟨d, hd, hsp, hsub⟩
  · cases hs <;> simp [apply, hR] at h
  · cases hs with
    | rmItem r =>
      simp only [apply, hd] at h
      split at h <;> cases h
      exact .inr ⟨_, upd_same .., shrunk_dropItem r hsp hsub⟩
    | rmJobDir =>
      simp only [apply, hd] at h
      split at h <;> cases h
      exact .inl (upd_same ..)

def SpSame (k : Key) (D : JobDir Sp) (w : World Sp) : Prop := ∃ d, w k = some d ∧ d.sp = D.sp

theorem spSame_apply (C : Codec Sp) (k : Key) (D : JobDir Sp) (s : Step Sp) (w w' : World Sp)
    (hs : ClearLike k s) (hR : SpSame k D w) (h : apply C w s = .ok w') : SpSame k D w' := by
  obtain ⟨d, hd, hsp⟩ := hR
  cases hs with
  | rmItem r hr =>
    simp only [apply, hd] at h
    split at h <;> cases h
    refine ⟨_, upd_same .., ?_⟩
    cases r <;> first | exact hsp | exact absurd rfl hr
  | tmpOpen n => rw [apply_tmpOpen C hd] at h; cases h; exact ⟨_, upd_same .., hsp⟩
  | tmpWrite n c => rw [apply_tmpWrite C hd] at h; cases h; exact ⟨_, upd_same .., hsp⟩
  | tmpCommitDoc =>
    simp only [apply, hd, docName_ne_spName, if_false] at h
    split at h <;> cases h
    exact ⟨_, upd_same .., hsp⟩

theorem spSame_torn (C : Codec Sp) (k : Key) (D : JobDir Sp) (s : Step Sp) (w : World Sp) (t : Nat)
    (hs : ClearLike k s) (hR : SpSame k D w) : SpSame k D (tornApply C w s t) := by
  cases hs with
  | tmpWrite n c =>
    obtain ⟨d, hd, hsp⟩ := hR
    simp only [tornApply, hd]; exact ⟨_, upd_same .., hsp⟩
  | _ => exact hR

/-- **clear never removes the job**: under EVERY schedule (death anywhere, torn writes, any
    injected errno — ENOENT included) the job directory is still there and its state-point file is
    untouched -/
theorem clear_keeps_sp (C : Codec Sp) (ev : Nat → Option Ev) (k : Key) (order : List Ref)
    (a : Acc Sp) (w : World Sp) (d : JobDir Sp) (hd : w k = some d) :
    ∃ d', (exec C ev (clearProg k order) a w).w k = some d' ∧ d'.sp = d.sp :=
  exec_inv C ev (ClearLike k) (SpSame k d) (fun s w w' => spSame_apply C k d s w w')
    (fun s w t => spSame_torn C k d s w t) (clearProg_clearLike k order) a w ⟨d, hd, rfl⟩

theorem seq_okClean (C : Codec Sp) (ev : Nat → Option Ev) (hne : NoENOENT ev) :
    ∀ (ss : List (Step Sp)) (a : Acc Sp) (w : World Sp), OkClean a (exec C ev (seqProg rmErr (.done .ok) ss) a w)
  | [], _, _ => fun _ => rfl
  | s :: ss, a, _ =>
    .step C ev (fun _ he => raises_of_ne_ENOENT C ev _ _ _ (hne.ne_of_fault he))
      (fun w' _ => seq_okClean C ev hne ss (a.ok s) w')
      (fun _ _ => exec_ite C ev (OkClean a) _ _ _ _ (fun _ _ => rfl) fun _ => .of_not_ok Res.noConfusion)

/-- `remove` and `clear` -/
theorem removal_okClean (C : Codec Sp) (ev : Nat → Option Ev) (hne : NoENOENT ev) (k : Key)
    (ss : List (Step Sp)) (a : Acc Sp) (w : World Sp) :
    OkClean a (exec C ev (.look fun w => match w k with
      | none => .done .ok
      | some _ => seqProg rmErr (.done .ok) ss) a w) := by
  rw [exec]
  split
  · exact fun _ => rfl
  · exact seq_okClean C ev hne ss a w

end Signac.Life
