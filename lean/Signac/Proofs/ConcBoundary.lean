/-
  Proofs/ConcBoundary — "readers only see operation boundaries" (C12).

  For a document with a single writing actor the published document is, in every reachable state,
  the initial document with a PREFIX of the writer's writes applied (`BndInv`): one of the
  writer's operation-boundary values (`boundaries`).  A whole-document assignment is one write:
  between "before the assignment" and "the assigned mapping" nothing else is ever published.
  Every document read returns the published document (`tr_dload`), and the values handed back to
  the callers (`AState.out`) are tied to the `doc()` operations of the script that produced them
  (`Explains`), so every value any actor has read is a boundary value of its job's document.
-/
import Signac.Proofs.ConcTerm
namespace Signac.Conc
variable {SP DV : Type} {hash : SP → JobId}

/-! ### operation boundaries -/

/-- the values a document goes through when the writes `ws` are applied one after the other to
    `init`: `init` itself, then the document after the 1st, 2nd, … completed write -/
def boundaries (init : Doc DV) : List (DocW DV) → List (Doc DV)
  | [] => [init]
  | w :: ws => init :: boundaries (applyW init w) ws

theorem init_mem_boundaries (init : Doc DV) (ws : List (DocW DV)) : init ∈ boundaries init ws := by
  cases ws <;> simp [boundaries]

theorem prefix_mem_boundaries (init : Doc DV) (done rest : List (DocW DV)) :
    applySets init done ∈ boundaries init (done ++ rest) := by
  induction done generalizing init with
  | nil => exact init_mem_boundaries _ _
  | cons w r ih =>
    simp only [List.cons_append, boundaries, applySets, List.mem_cons]
    exact Or.inr (ih _)

/-- the boundary values are exactly the documents after the first `n` writes, `n ≤ ws.length` -/
theorem mem_boundaries_iff (init : Doc DV) (ws : List (DocW DV)) (d : Doc DV) :
    d ∈ boundaries init ws ↔ ∃ n, n ≤ ws.length ∧ d = applySets init (ws.take n) := by
  induction ws generalizing init with
  | nil =>
    simp only [boundaries, List.mem_singleton, List.length_nil, Nat.le_zero_eq, List.take_nil, applySets]
    exact ⟨fun h => ⟨0, rfl, h⟩, fun ⟨_, _, h⟩ => h⟩
  | cons w r ih =>
    simp only [boundaries, List.mem_cons, List.length_cons]
    constructor
    · rintro (h | h)
      · exact ⟨0, Nat.zero_le _, h⟩
      · obtain ⟨n, hn, hd⟩ := (ih _).1 h
        exact ⟨n + 1, Nat.succ_le_succ hn, by simpa [applySets] using hd⟩
    · rintro ⟨n, hn, hd⟩
      cases n with
      | zero => exact Or.inl hd
      | succ n =>
        refine Or.inr ((ih _).2 ⟨n, Nat.le_of_succ_le_succ hn, ?_⟩)
        simpa [applySets] using hd

/-! ### the published document is a boundary value -/

/-- the published document of job `i` is the initial one (`D0`) with a prefix of the writer's
    writes `W` applied; the rest of `W` is exactly what the writer still has to do -/
def BndInv (hash : SP → JobId) (i : JobId) (w : Nat) (D0 : Doc DV) (W : List (DocW DV))
    (s : Sys SP DV) : Prop :=
  ∃ done, W = done ++ wPending hash i w s ∧ docNow s.fs i = applySets D0 done

theorem bndInv_step {s : Sys SP DV} {i : JobId} {w : Nat} {T D0 : Doc DV} {W : List (DocW DV)}
    (h : SysInv hash s) (hd : DocInv hash i w T s) (hb : BndInv hash i w D0 W s) (b : Nat) :
    BndInv hash i w D0 W (sysStep hash s b) := by
  obtain ⟨done, hW, hnow⟩ := hb
  rcases doc_step h hd b with ⟨hdn, hpend⟩ | ⟨rfl, _, wr, _, hpend, hdn⟩
  · exact ⟨done, by rw [hpend]; exact hW, by rw [hdn]; exact hnow⟩
  · exact ⟨done ++ [wr], by rw [hW, hpend]; simp, by rw [hdn, hnow, applySets_snoc]⟩

theorem bndInv_run {s : Sys SP DV} {i : JobId} {w : Nat} {T D0 : Doc DV} {W : List (DocW DV)}
    (h : SysInv hash s) (hd : DocInv hash i w T s) (hb : BndInv hash i w D0 W s) (sched : List Nat) :
    BndInv hash i w D0 W (run hash s sched) :=
  (run_invariant (I := fun s => SysInv hash s ∧ DocInv hash i w T s ∧ BndInv hash i w D0 W s)
    (fun _ a ⟨h, hd, hb⟩ => ⟨(sysStep_inv_guar h a).1, docInv_step h hd a, bndInv_step h hd hb a⟩)
    ⟨h, hd, hb⟩ sched).2.2

theorem bndInv_initially (fs : FS SP DV) (i : JobId) (w : Nat) (scripts : List (List (Op SP DV))) :
    BndInv hash i w (docNow fs i) (writesOf hash i w scripts) (startSys fs scripts) :=
  ⟨[], (wPending_start ..).symm, rfl⟩

theorem BndInv.mem {s : Sys SP DV} {i : JobId} {w : Nat} {D0 : Doc DV} {W : List (DocW DV)}
    (hb : BndInv hash i w D0 W s) : docNow s.fs i ∈ boundaries D0 W := by
  obtain ⟨done, hW, hnow⟩ := hb
  rw [hW, hnow]; exact prefix_mem_boundaries _ _ _

theorem published_boundary {fs : FS SP DV} (hfs : FsInv hash fs)
    (hnt : ∀ i k a, fs.get (.tmp i k a) = none) (scripts : List (List (Op SP DV)))
    {i : JobId} {w : Nat} (hsw : SingleWriter hash i w scripts) (sched : List Nat) :
    docNow (run hash (startSys fs scripts) sched).fs i ∈
      boundaries (docNow fs i) (writesOf hash i w scripts) :=
  (bndInv_run (initial_inv hfs hnt scripts) (docInv_initially (fs := fs) hsw)
    (bndInv_initially fs i w scripts) sched).mem

/-! ### what the callers were handed back -/

/-- `obs` (oldest first) is what the completed operations `ops` have handed back to their caller:
    one document per `doc()`, one count per `len(project)`, nothing for the others — and every
    document handed back by a `doc()` on the job with id `j` satisfies `P j` -/
def Explains (hash : SP → JobId) (P : JobId → Doc DV → Prop) :
    List (Op SP DV) → List (Obs SP DV) → Prop
  | [], obs => obs = []
  | op :: ops, obs =>
    match op with
    | .docGet v => ∃ d rest, obs = .doc d :: rest ∧ P (hash v) d ∧ Explains hash P ops rest
    | .len => ∃ n rest, obs = .count n :: rest ∧ Explains hash P ops rest
    | _ => Explains hash P ops obs

theorem explains_append {P : JobId → Doc DV → Prop} {pre ops : List (Op SP DV)}
    {obs obs' : List (Obs SP DV)} (h : Explains hash P pre obs) (h' : Explains hash P ops obs') :
    Explains hash P (pre ++ ops) (obs ++ obs') := by
  induction pre generalizing obs with
  | nil => cases h; exact h'
  | cons op r ih =>
    cases op with
    | docGet u => obtain ⟨d, rest, rfl, hp, hr⟩ := h; exact ⟨d, rest ++ obs', rfl, hp, ih hr⟩
    | len => obtain ⟨n, rest, rfl, hr⟩ := h; exact ⟨n, rest ++ obs', rfl, ih hr⟩
    | _ => exact ih h

theorem explains_mem {P : JobId → Doc DV → Prop} {i : JobId} {pre : List (Op SP DV)}
    {obs : List (Obs SP DV)} (h : Explains hash P pre obs)
    (hi : ∀ v, .docGet v ∈ pre → hash v = i) (d : Doc DV) (hd : .doc d ∈ obs) : P i d := by
  induction pre generalizing obs with
  | nil => simp only [Explains] at h; subst h; cases hd
  | cons op r ih =>
    have hi' : ∀ v, .docGet v ∈ r → hash v = i := fun v hv => hi v (List.mem_cons_of_mem _ hv)
    cases op with
    | docGet u =>
      obtain ⟨d', rest, rfl, hp', hr⟩ := h
      rcases List.mem_cons.1 hd with he | hm
      · cases he; rw [← hi u (by simp)]; exact hp'
      · exact ih hr hi' hm
    | len =>
      obtain ⟨m, rest, rfl, hr⟩ := h
      rcases List.mem_cons.1 hd with he | hm
      · cases he
      · exact ih hr hi' hm
    | project | init _ | docSet _ _ _ | docAssign _ _ => exact ih h hi' hd

/-- every actor's observations so far are explained by the operations it has completed -/
def ObsInv (hash : SP → JobId) (P : JobId → Doc DV → Prop) (scripts : List (List (Op SP DV)))
    (s : Sys SP DV) : Prop :=
  ∀ (a : Nat) (st : AState SP DV), s.actors[a]? = some st →
    ∃ sc pre, scripts[a]? = some sc ∧ .project :: sc = pre ++ st.script ∧
      Explains hash P pre st.out.reverse

/-- the completed operation explains what it handed back; a `doc()` hands back the document
    published at that moment -/
theorem Exit.explains {P : JobId → Doc DV → Prop} {fs : FS SP DV} {a : Nat} {st : AState SP DV}
    {ins : Instr SP DV} {o : List (Obs SP DV)} (hfs : FsInv hash fs)
    (hh : HeadOk hash st.phase st.script) (hn : next hash a st = some ins)
    (x : Exit hash (exec fs ins).2 st o) (hP : ∀ j, P j (docNow fs j)) :
    ∃ op t o', st.script = op :: t ∧ o.reverse = st.out.reverse ++ o' ∧ Explains hash P [op] o' := by
  cases x with
  | proj _ hph => rw [hph] at hh; obtain ⟨t, e⟩ := hh; exact ⟨_, t, [], e, (List.append_nil _).symm, rfl⟩
  | init _ v _ hph _ _ hd =>
    rw [hph] at hh
    rcases hh with (⟨_, _, _, e⟩ | ⟨_, e⟩) | ⟨t, e⟩ | ⟨_, _, e⟩ <;> rw [e] at hd <;>
      first | exact ⟨_, t, [], e, (List.append_nil _).symm, rfl⟩ | cases hd
  | saved _ _ hph =>
    rw [hph] at hh
    rcases hh with ⟨_, _, _, t, e, _⟩ | ⟨_, _, t, e, _, _⟩ <;> exact ⟨_, t, [], e, (List.append_nil _).symm, rfl⟩
  | doc v w t d hph hs hr =>
    obtain rfl := next_at a hph hn
    rw [docOf_read hfs] at hr; cases hr
    rw [hph, hs] at hh
    have : w = v := by rcases hh with ⟨_, _, _, e⟩ | ⟨_, e⟩ <;> cases e; rfl
    exact ⟨_, t, [.doc (docNow fs (hash v))], hs, List.reverse_cons .., _, [], rfl, this ▸ hP _, rfl⟩
  | len l hph =>
    rw [hph] at hh; obtain ⟨t, e⟩ := hh
    exact ⟨_, t, [.count l.length], e, List.reverse_cons .., _, [], rfl, rfl⟩

theorem obsInv_step {P : JobId → Doc DV → Prop} {scripts : List (List (Op SP DV))} {s : Sys SP DV}
    (h : SysInv hash s) (hh : AllHeadOk hash s) (hP : ∀ j, P j (docNow s.fs j))
    (ho : ObsInv hash P scripts s) (b : Nat) : ObsInv hash P scripts (sysStep hash s b) :=
  actors_step ho fun st ins hst hn => by
    obtain ⟨sc, pre, hsc, hpre, hex⟩ := ho b st hst
    rcases (resume_move (hash := hash) (next_ne_fin hn) (exec s.fs ins).2).script with
      ⟨e1, e2⟩ | ⟨o, x, e1, e2⟩ <;> rw [e1, e2]
    · exact ⟨sc, pre, hsc, hpre, hex⟩
    · obtain ⟨op, t, o', hs, ho', hex'⟩ := x.explains h.fs (hh b st hst) hn hP
      exact ⟨sc, pre ++ [op], hsc, by rw [hpre, hs]; simp, ho' ▸ explains_append hex hex'⟩

theorem obsInv_run {P : JobId → Doc DV → Prop} {scripts : List (List (Op SP DV))} {s : Sys SP DV}
    (h : SysInv hash s) (hh : AllHeadOk hash s) (ho : ObsInv hash P scripts s) (sched : List Nat)
    (hP : ∀ pre, pre <+: sched → ∀ j, P j (docNow (run hash s pre).fs j)) :
    ObsInv hash P scripts (run hash s sched) := by
  induction sched generalizing s with
  | nil => exact ho
  | cons a rest ih =>
    refine ih (sysStep_inv_guar h a).1 (allHeadOk_step hh a)
      (obsInv_step h hh (hP [] (List.nil_prefix)) ho a) ?_
    intro pre hpre j
    exact hP (a :: pre) (List.cons_prefix_cons.2 ⟨rfl, hpre⟩) j

theorem obsInv_start (P : JobId → Doc DV → Prop) (fs : FS SP DV) (scripts : List (List (Op SP DV))) :
    ObsInv hash P scripts (startSys fs scripts) := by
  intro a st hst
  obtain ⟨sc, hsc, rfl⟩ := getElem?_start hst
  exact ⟨sc, [], hsc, rfl, rfl⟩

/-- the boundary property of a document value of job `j`: for every actor `w` that is the single
    writer of that document, a boundary value of `w`'s writes -/
def IsBoundary (hash : SP → JobId) (fs : FS SP DV) (scripts : List (List (Op SP DV)))
    (j : JobId) (d : Doc DV) : Prop :=
  ∀ w, SingleWriter hash j w scripts → d ∈ boundaries (docNow fs j) (writesOf hash j w scripts)

theorem obsInv_reachable {fs : FS SP DV} (hfs : FsInv hash fs)
    (hnt : ∀ i k a, fs.get (.tmp i k a) = none) (scripts : List (List (Op SP DV))) (sched : List Nat) :
    ObsInv hash (IsBoundary hash fs scripts) scripts (run hash (startSys fs scripts) sched) :=
  obsInv_run (initial_inv hfs hnt scripts) (allHeadOk_start fs scripts)
    (obsInv_start _ fs scripts) sched
    (fun pre _ _ _ hsw => published_boundary hfs hnt scripts hsw pre)

end Signac.Conc
