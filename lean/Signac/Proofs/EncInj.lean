/-
  The hypothesis of the injectivity and round-trip theorems of C01: every float leaf carries a
  well-formed float token that determines its value.  `canon` preserves it.
-/
import Signac.Proofs.Canon
import Signac.Proofs.JValInd
namespace Signac

def floatTokChars : List Char := "0123456789+-.eNaIfinty".toList

/-- a float token: non-empty, only float-token characters, and at least one character that
    cannot occur in an integer token -/
def FloatTok (r : String) : Prop :=
  r.toList ≠ [] ∧ (∀ c ∈ r.toList, c ∈ floatTokChars) ∧ (∃ c ∈ r.toList, c ∉ "0123456789-".toList)

mutual
  /-- every float leaf of v (at any depth) is a float token whose repr determines its value
      through fv -/
  def FloatsOk (fv : String → Int × Nat) : JVal → Prop
    | .flt n e r => FloatTok r ∧ fv r = (n, e)
    | .arr xs => FloatsOkList fv xs
    | .obj kvs => FloatsOkObj fv kvs
    | .null => True
    | .bool _ => True
    | .int _ => True
    | .str _ => True
  def FloatsOkList (fv : String → Int × Nat) : List JVal → Prop
    | [] => True
    | x :: xs => FloatsOk fv x ∧ FloatsOkList fv xs
  def FloatsOkObj (fv : String → Int × Nat) : List (String × JVal) → Prop
    | [] => True
    | (_, v) :: r => FloatsOk fv v ∧ FloatsOkObj fv r
end

theorem floatsOkList_forall {fv : String → Int × Nat} {xs : List JVal} :
    FloatsOkList fv xs ↔ ∀ x ∈ xs, FloatsOk fv x := by
  induction xs with
  | nil => exact ⟨fun _ => nofun, fun _ => trivial⟩
  | cons x xs ih => rw [FloatsOkList, ih, List.forall_mem_cons]

theorem floatsOkObj_forall {fv : String → Int × Nat} {kvs : List (String × JVal)} :
    FloatsOkObj fv kvs ↔ ∀ kv ∈ kvs, FloatsOk fv kv.2 := by
  induction kvs with
  | nil => exact ⟨fun _ => nofun, fun _ => trivial⟩
  | cons kv kvs ih => rw [FloatsOkObj, ih, List.forall_mem_cons]

theorem canon_floatsOk (fv : String → Int × Nat) (v : JVal) :
    FloatsOk fv v → FloatsOk fv (canon v) := by
  induction v using JVal.rec_mem with
  | arr xs ih =>
    exact fun h => floatsOkList_forall.mpr
      (forall_canonList (fun x hx => ih x hx (floatsOkList_forall.mp h x hx)))
  | obj kvs ih =>
    exact fun h => floatsOkObj_forall.mpr
      (forall_canonObj (fun kv hkv => ih kv hkv (floatsOkObj_forall.mp h kv hkv)))
  | _ => exact id

theorem canonList_floatsOk (fv : String → Int × Nat) : (xs : List JVal) → FloatsOkList fv xs →
    FloatsOkList fv (canonList xs) :=
  fun _ h => floatsOkList_forall.mpr
    (forall_canonList (fun x hx => canon_floatsOk fv x (floatsOkList_forall.mp h x hx)))

theorem canonObj_floatsOk (fv : String → Int × Nat) : (kvs : List (String × JVal)) →
    FloatsOkObj fv kvs → FloatsOkObj fv (canonObj kvs) :=
  fun _ h => floatsOkObj_forall.mpr
    (forall_canonObj (fun kv hkv => canon_floatsOk fv kv.2 (floatsOkObj_forall.mp h kv hkv)))

end Signac
