/-
  The executable float-token check of Signac/FloatTok.lean decides the hypothesis of the C01
  injectivity theorems.
-/
import Signac.FloatTok
import Signac.Proofs.EncInj
namespace Signac

/-- the characters of a float token, for the proofs and for the driver: the same string -/
theorem floatTokChars_eq : floatTokChars = floatTokCharsB := rfl

theorem floatTokB_iff (r : String) : floatTokB r = true ↔ FloatTok r := by
  unfold floatTokB FloatTok floatTokCharsB intTokCharsB floatTokChars
  simp only [Bool.and_eq_true, Bool.not_eq_true', List.isEmpty_eq_false_iff, List.all_eq_true,
    List.contains_eq_mem, decide_eq_true_eq, List.any_eq_true, Bool.not_eq_true', decide_eq_false_iff_not,
    ne_eq, and_assoc]

mutual
  /-- every float leaf's `(num, exp)` is what `fv` reads off its repr; for the values of a run the
      harness establishes it (`float(repr(x)) == x`), the driver evaluates `floatsTokB` only -/
  def fvAgreesB (fv : String → Int × Nat) : JVal → Bool
    | .flt n e r => decide (fv r = (n, e))
    | .arr xs => fvAgreesListB fv xs
    | .obj kvs => fvAgreesObjB fv kvs
    | _ => true
  def fvAgreesListB (fv : String → Int × Nat) : List JVal → Bool
    | [] => true
    | x :: xs => fvAgreesB fv x && fvAgreesListB fv xs
  def fvAgreesObjB (fv : String → Int × Nat) : List (String × JVal) → Bool
    | [] => true
    | (_, v) :: rest => fvAgreesB fv v && fvAgreesObjB fv rest
end

theorem floatsOkList_iff_of {fv : String → Int × Nat} {xs : List JVal}
    (ih : ∀ x ∈ xs, (FloatsOk fv x ↔ floatsTokB x = true ∧ fvAgreesB fv x = true)) :
    FloatsOkList fv xs ↔ floatsTokListB xs = true ∧ fvAgreesListB fv xs = true := by
  induction xs with
  | nil => exact ⟨fun _ => ⟨rfl, rfl⟩, fun _ => trivial⟩
  | cons x xs ihx =>
    rw [FloatsOkList, floatsTokListB, fvAgreesListB, Bool.and_eq_true, Bool.and_eq_true,
      ih x List.mem_cons_self, ihx (fun y hy => ih y (List.mem_cons_of_mem _ hy))]
    exact and_and_and_comm

theorem floatsOkObj_iff_of {fv : String → Int × Nat} {kvs : List (String × JVal)}
    (ih : ∀ kv ∈ kvs, (FloatsOk fv kv.2 ↔ floatsTokB kv.2 = true ∧ fvAgreesB fv kv.2 = true)) :
    FloatsOkObj fv kvs ↔ floatsTokObjB kvs = true ∧ fvAgreesObjB fv kvs = true := by
  induction kvs with
  | nil => exact ⟨fun _ => ⟨rfl, rfl⟩, fun _ => trivial⟩
  | cons kv kvs ihx =>
    rw [FloatsOkObj, floatsTokObjB, fvAgreesObjB, Bool.and_eq_true, Bool.and_eq_true,
      ih kv List.mem_cons_self, ihx (fun y hy => ih y (List.mem_cons_of_mem _ hy))]
    exact and_and_and_comm

theorem floatsOk_iff (fv : String → Int × Nat) :
    (v : JVal) → (FloatsOk fv v ↔ floatsTokB v = true ∧ fvAgreesB fv v = true) := by
  intro v
  induction v using JVal.rec_mem with
  | flt n e r => rw [FloatsOk, floatsTokB, fvAgreesB, floatTokB_iff, decide_eq_true_eq]
  | arr xs ih => exact floatsOkList_iff_of ih
  | obj kvs ih => exact floatsOkObj_iff_of ih
  | _ => exact ⟨fun _ => ⟨rfl, rfl⟩, fun _ => trivial⟩

theorem floatsOkList_iff (fv : String → Int × Nat) :
    (xs : List JVal) → (FloatsOkList fv xs ↔ floatsTokListB xs = true ∧ fvAgreesListB fv xs = true) :=
  fun _ => floatsOkList_iff_of (fun x _ => floatsOk_iff fv x)

theorem floatsOkObj_iff (fv : String → Int × Nat) :
    (kvs : List (String × JVal)) → (FloatsOkObj fv kvs ↔ floatsTokObjB kvs = true ∧ fvAgreesObjB fv kvs = true) :=
  fun _ => floatsOkObj_iff_of (fun kv _ => floatsOk_iff fv kv.2)

end Signac
