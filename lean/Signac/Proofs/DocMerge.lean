/-
  The dependency's in-place merge `_update` (`mergeVal`): what a lookup in the merged value
  gives, and the merge lemma `Sim (mergeVal old new) new` (unless `None` meets a dict / list —
  finding F-5d, `nullHit`).
-/
import Signac.Proofs.DocSim
namespace Signac.Doc
open Signac

theorem lookupKV_setKV (k k' : String) (v : JVal) (l : Entries) :
    lookupKV k' (setKV k v l) = if k' = k then some v else lookupKV k' l := by
  induction l with
  | nil => simp only [setKV, lookupKV]
  | cons hd tl ih =>
    obtain ⟨k₀, v₀⟩ := hd
    simp only [setKV]
    split <;> simp only [lookupKV] <;> grind

theorem lookupKV_eraseKV (k k' : String) (l : Entries) :
    lookupKV k' (eraseKV k l) = if k' = k then none else lookupKV k' l := by
  induction l with
  | nil => simp [eraseKV, lookupKV]
  | cons hd tl ih =>
    obtain ⟨k₀, v₀⟩ := hd
    simp only [eraseKV]
    split <;> simp only [lookupKV] <;> grind

theorem lookupKV_filter_hasKey (k : String) (o n : Entries) :
    lookupKV k (n.filter (fun kv => !hasKey kv.1 o)) = if hasKey k o then none else lookupKV k n := by
  induction n with
  | nil => simp [lookupKV]
  | cons hd tl ih =>
    obtain ⟨k₀, v₀⟩ := hd
    simp only [List.filter]
    cases hh : hasKey k₀ o <;> simp only [Bool.not_true, Bool.not_false, lookupKV] <;> grind

theorem hasKey_eq (k : String) (l : Entries) : hasKey k l = (lookupKV k l).isSome := rfl

/-- the value a slot ends up with -/
def slot (ov nv : JVal) : JVal := if pyEq nv ov then ov else mergeVal ov nv

theorem lookupKV_mergeKeep (k : String) (o n : Entries) :
    lookupKV k (mergeKeep o n) = match lookupKV k o, lookupKV k n with
      | some ov, some nv => some (slot ov nv)
      | _, _ => none := by
  induction o with
  | nil => rfl
  | cons hd tl ih =>
    obtain ⟨k₀, v₀⟩ := hd
    simp only [mergeKeep, lookupKV]
    by_cases hk : k = k₀
    · subst hk
      rw [if_pos rfl]
      cases hn : lookupKV k n with
      | some nv => exact if_pos rfl
      | none => rw [ih, hn]; cases lookupKV k tl <;> rfl
    · rw [if_neg hk]
      cases lookupKV k₀ n with
      | some nv => exact (if_neg hk).trans ih
      | none => exact ih

theorem lookupKV_merged (k : String) (o n : Entries) :
    lookupKV k (mergeKeep o n ++ n.filter (fun kv => !hasKey kv.1 o)) =
      match lookupKV k o with
      | some ov => (match lookupKV k n with
          | some nv => some (slot ov nv)
          | none => none)
      | none => lookupKV k n := by
  rw [lookupKV_append, lookupKV_mergeKeep, lookupKV_filter_hasKey, hasKey_eq]
  cases lookupKV k o <;> cases lookupKV k n <;> simp

theorem mem_mergeKeep {o n : Entries} {kv : String × JVal} (h : kv ∈ mergeKeep o n) :
    ∃ ov nv, (kv.1, ov) ∈ o ∧ lookupKV kv.1 n = some nv ∧ kv.2 = slot ov nv := by
  induction o with
  | nil => cases h
  | cons hd tl ih =>
    obtain ⟨k₀, v₀⟩ := hd
    simp only [mergeKeep] at h
    have tail : kv ∈ mergeKeep tl n →
        ∃ ov nv, (kv.1, ov) ∈ (k₀, v₀) :: tl ∧ lookupKV kv.1 n = some nv ∧ kv.2 = slot ov nv :=
      fun h => have ⟨ov, nv, ho, r⟩ := ih h; ⟨ov, nv, List.mem_cons_of_mem _ ho, r⟩
    cases hn : lookupKV k₀ n with
    | none => rw [hn] at h; exact tail h
    | some nv =>
      rw [hn] at h
      rcases List.mem_cons.mp h with rfl | h
      · exact ⟨v₀, nv, List.mem_cons_self, hn, rfl⟩
      · exact tail h

theorem getElem?_mergeArr (o n : List JVal) (i : Nat) :
    (mergeArr o n)[i]? = match o[i]?, n[i]? with
      | some ov, some nv => some (slot ov nv)
      | none, some nv => some nv
      | _, none => none := by
  induction o generalizing n i with
  | nil => simp only [mergeArr, List.getElem?_nil]; cases n[i]? <;> rfl
  | cons ov orest ih =>
    cases n with
    | nil => simp only [mergeArr, List.getElem?_nil]
    | cons nv nrest =>
      simp only [mergeArr]
      cases i with
      | zero => rfl
      | succ i => exact ih nrest i

theorem length_mergeArr (o n : List JVal) : (mergeArr o n).length = n.length := by
  induction o generalizing n with
  | nil => rfl
  | cons ov orest ih =>
    cases n with
    | nil => rfl
    | cons nv nrest => simp only [mergeArr, List.length_cons, ih]

theorem slotHit_false {ov nv : JVal} (h : (!pyEq nv ov && nullHit ov nv) = false) :
    pyEq nv ov = true ∨ nullHit ov nv = false := by
  simpa only [Bool.and_eq_false_iff, Bool.not_eq_false'] using h

theorem nullHitKeep_false {o n : Entries} (h : nullHitKeep o n = false) {k : String} {ov nv : JVal}
    (ho : lookupKV k o = some ov) (hn : lookupKV k n = some nv) :
    pyEq nv ov = true ∨ nullHit ov nv = false := by
  induction o with
  | nil => cases ho
  | cons hd tl ih =>
    obtain ⟨k₀, v₀⟩ := hd
    simp only [nullHitKeep, Bool.or_eq_false_iff] at h
    simp only [lookupKV] at ho
    split at ho
    · next hk =>
      cases ho; subst hk
      have h1 := h.1
      rw [hn] at h1
      exact slotHit_false h1
    · exact ih h.2 ho

theorem nullHitArr_false {o n : List JVal} (h : nullHitArr o n = false) {i : Nat} {ov nv : JVal}
    (ho : o[i]? = some ov) (hn : n[i]? = some nv) :
    pyEq nv ov = true ∨ nullHit ov nv = false := by
  induction o generalizing n i with
  | nil => cases ho
  | cons x xs ih =>
    cases n with
    | nil => cases hn
    | cons y ys =>
      simp only [nullHitArr, Bool.or_eq_false_iff] at h
      cases i with
      | zero => cases ho; cases hn; exact slotHit_false h.1
      | succ i => exact ih h.2 ho hn

/-- `slot` inherits `Sim … nv` from `mergeVal` (`hm` is the induction hypothesis in `merge_sim`) -/
theorem slot_sim_of {ov nv : JVal} (wo : WF ov) (wn : WF nv) (h : pyEq nv ov = true ∨ nullHit ov nv = false)
    (hm : nullHit ov nv = false → Sim (mergeVal ov nv) nv) : Sim (slot ov nv) nv := by
  unfold slot; split
  · next he => exact (pyEq_sim wn wo he).symm
  · next he => exact hm (h.resolve_left he)

/-- merging `new` into `old` gives a value `Sim` to `new`, provided `None` never meets a dict / list -/
theorem merge_sim {old : JVal} : ∀ {new : JVal}, WF old → WF new → nullHit old new = false →
    Sim (mergeVal old new) new := by
  induction old using JVal.rec_mem with
  | obj o ih => intro new wo wn hh; cases new with
    | obj n =>
      refine sim_obj_iff.mpr fun k => ?_
      show OSim (lookupKV k (mergeKeep o n ++ _)) _
      rw [lookupKV_merged]
      cases ho : lookupKV k o with
      | none => exact OSim.refl _
      | some ov =>
        cases hn : lookupKV k n with
        | none => trivial
        | some nv =>
          have wov := wf_lookup wo.2 ho
          have wnv := wf_lookup wn.2 hn
          exact slot_sim_of wov wnv (nullHitKeep_false hh ho hn) (ih _ (lookupKV_mem ho) wov wnv)
    | null => cases hh
    | _ => exact Sim.refl _
  | arr o ih => intro new wo wn hh; cases new with
    | arr n =>
      refine .arr (length_mergeArr o n) fun i x y hx hy => ?_
      rw [getElem?_mergeArr, hy] at hx
      cases ho : o[i]? with
      | none => rw [ho] at hx; cases hx; exact Sim.refl _
      | some ov =>
        rw [ho] at hx; cases hx
        have wov := wf_getElem? wo ho
        have wy := wf_getElem? wn hy
        exact slot_sim_of wov wy (nullHitArr_false hh ho hy) (ih _ (List.mem_of_getElem? ho) wov wy)
    | null => cases hh
    | _ => exact Sim.refl _
  | _ => intro new _ _ _; exact Sim.refl _

theorem slot_sim {ov nv : JVal} (wo : WF ov) (wn : WF nv) (h : pyEq nv ov = true ∨ nullHit ov nv = false) :
    Sim (slot ov nv) nv :=
  slot_sim_of wo wn h (merge_sim wo wn)

theorem merge_sim_list : (o n : List JVal) → WFList o → WFList n → nullHitArr o n = false →
      ∀ (i : Nat) ov nv, o[i]? = some ov → n[i]? = some nv → Sim (slot ov nv) nv :=
  fun _ _ wo wn hh _ _ _ ho hn => slot_sim (wf_getElem? wo ho) (wf_getElem? wn hn) (nullHitArr_false hh ho hn)

end Signac.Doc
