/-
  Proofs/ViewUpdate — `updateView` turns the picture of any valid link set into the picture of
  any other valid link set, without a failing step (`update_correct`); at the end the link set
  `clashLinks`, on which it fails when components need not be ordinary names.
-/
import Signac.Proofs.ViewSpec
import Signac.Proofs.ViewTrie
namespace Signac.LV

theorem mem_dedupPaths (l : List Path) (p : Path) : p ∈ dedupPaths l ↔ p ∈ l := by
  induction l with
  | nil => simp [dedupPaths]
  | cons x xs ih =>
    simp only [dedupPaths, List.mem_cons, List.mem_filter, ih]
    by_cases h : p = x <;> simp [h]

theorem dedupPaths_nodup (l : List Path) : (dedupPaths l).Nodup := by
  induction l with
  | nil => simp [dedupPaths]
  | cons x xs ih =>
    simp only [dedupPaths, List.nodup_cons, List.mem_filter]
    exact ⟨by simp, ih.filter _⟩

theorem mem_findAllLinks (v : View) (q : Path) :
    q ∈ findAllLinks v ↔ (vget v q).isSome ∧ q.getLast? = some leaf := by
  simp only [findAllLinks, List.mem_map, List.mem_filter, vget_isSome_iff, beq_iff_eq]
  exact ⟨fun ⟨x, ⟨hx, hl⟩, e⟩ => ⟨⟨x, hx, e⟩, e ▸ hl⟩, fun ⟨⟨x, hx, e⟩, hl⟩ => ⟨x, ⟨hx, e ▸ hl⟩, e⟩⟩

theorem fsPath_plain {p : Path} (h : ∀ c ∈ p, c ≠ "" ∧ c ≠ ".") : fsPath p = p := by
  unfold fsPath
  rw [List.filter_eq_self]
  intro c hc
  have := h c hc
  simp [this.1, this.2]

/-- the `(path, target)` pairs that are linked, for a list of paths -/
def pairsOf (L : List (Path × String)) (ps : List Path) : List (Path × String) :=
  ps.filterMap (fun p => (linkTarget L p).map (fun t => (p, t)))

theorem pairsOf_keys {L : List (Path × String)} {ps : List Path} (h : ∀ p ∈ ps, p ∈ keysOf L) :
    (pairsOf L ps).map (·.1) = ps := by
  induction ps with
  | nil => rfl
  | cons p ps ih =>
    obtain ⟨t, ht⟩ := linkTarget_isSome_of_mem (h p List.mem_cons_self)
    simp only [pairsOf, List.filterMap_cons, ht, Option.map_some, List.map_cons]
    congr 1
    exact ih (fun q hq => h q (List.mem_cons_of_mem _ hq))

theorem linkSteps_eq {L : List (Path × String)} {ps : List Path}
    (h : ∀ p ∈ ps, ∀ c ∈ p, c ≠ "" ∧ c ≠ ".") :
    ps.filterMap (fun p => match linkTarget L p with
      | some t => some (Step.mklink (fsPath p) t)
      | none => none) = (pairsOf L ps).map (fun k => Step.mklink k.1 k.2) := by
  induction ps with
  | nil => rfl
  | cons p ps ih =>
    have ih' := ih (fun q hq => h q (List.mem_cons_of_mem _ hq))
    rw [pairsOf, List.filterMap_cons, List.filterMap_cons]
    cases hl : linkTarget L p with
    | none => exact ih'
    | some t =>
      show Step.mklink (fsPath p) t :: _ = Step.mklink p t :: _
      rw [fsPath_plain (h p List.mem_cons_self), ih']
      rfl

theorem mem_pairsOf {L : List (Path × String)} {ps : List Path} {k : Path × String}
    (h : k ∈ pairsOf L ps) : k.1 ∈ ps ∧ linkTarget L k.1 = some k.2 := by
  simp only [pairsOf, List.mem_filterMap] at h
  obtain ⟨p, hp, hk⟩ := h
  cases hl : linkTarget L p with
  | none => simp [hl] at hk
  | some t =>
    simp only [hl, Option.map_some, Option.some.injEq] at hk
    subst hk
    exact ⟨hp, hl⟩

def exOf (v : View) : List Path := dedupPaths (findAllLinks v)

def obsOf (v : View) (L : List (Path × String)) : List Path :=
  ((deadBranches [] (colorAll (keysOf L) (buildTree (exOf v)))).filter
    (fun b => !(b = []) && !(b = ["."]))).mergeSort lenGe

theorem analyze_obsolete (v : View) (L : List (Path × String)) : (analyzeView v L).obsolete = obsOf v L := rfl

section
variable (v : View) (L : List (Path × String))

theorem analyze_stale :
    (analyzeView v L).stale = (exOf v).filter (fun p =>
      isLinkAt v p && !(keysOf L).contains p && !(obsOf v L).contains p) := rfl

theorem analyze_fresh :
    (analyzeView v L).fresh = (keysOf L).filter (fun p => !(exOf v).contains p) := rfl

theorem analyze_toUpdate :
    (analyzeView v L).toUpdate = ((exOf v).filter (fun p => (keysOf L).contains p)).filter (fun p =>
      match linkTarget L p with
      | some t => !(vget v p = some (.link t))
      | none => false) := rfl

theorem mem_exOf (q : Path) : q ∈ exOf v ↔ (vget v q).isSome ∧ q.getLast? = some leaf := by
  rw [exOf, mem_dedupPaths, mem_findAllLinks]

/-- what `_update_view` removes, in its order: obsolete paths deepest first, stale links, links
    to be replaced … -/
def removedOf : List Path :=
  (analyzeView v L).obsolete ++ (analyzeView v L).stale ++ (analyzeView v L).toUpdate

/-- … and where it links -/
def linkedOf : List Path :=
  (analyzeView v L).fresh ++ (analyzeView v L).toUpdate

theorem viewSteps_eq :
    viewSteps v L = (removedOf v L).map Step.remove ++ (linkedOf v L).filterMap (fun p =>
      match linkTarget L p with
      | some t => some (Step.mklink (fsPath p) t)
      | none => none) := rfl

theorem exOf_nil : exOf [] = [] := rfl

theorem obsOf_nodup : (obsOf v L).Nodup :=
  (List.mergeSort_perm _ _).nodup_iff.mpr ((dead_nodup _ _).filter _)

theorem obsOf_sorted :
    (obsOf v L).Pairwise (fun a b => properPrefix a b = false) := by
  have : (obsOf v L).Pairwise (fun a b => lenGe a b = true) :=
    List.pairwise_mergeSort
      (fun a b c h1 h2 => by simp only [lenGe, decide_eq_true_eq] at *; exact Nat.le_trans h2 h1)
      (fun a b => by simp only [lenGe, Bool.or_eq_true, decide_eq_true_eq]; exact Nat.le_total _ _) _
  refine this.imp fun {a b} h => ?_
  rw [properPrefix, Bool.and_eq_false_iff]
  exact Or.inr (by simpa [lenGe] using h)

end

theorem valid_pairsOf {L : List (Path × String)} {ps : List Path} (hV : Valid L)
    (h : ∀ p ∈ ps, p ∈ keysOf L) (hnd : ps.Nodup) : Valid (pairsOf L ps) := by
  have hk : keysOf (pairsOf L ps) = ps := pairsOf_keys h
  exact ⟨hk.symm ▸ hnd, fun p hp q hq => hV.noConflict p (h p (hk ▸ hp)) q (h q (hk ▸ hq)),
    fun p hp => hV.leafEnd p (h p (hk ▸ hp)), fun p hp => hV.plain p (h p (hk ▸ hp))⟩

section linked
variable {L : List (Path × String)} {v : View} (hV : Valid L)
include hV

theorem mem_toUpdate (q : Path) :
    q ∈ (analyzeView v L).toUpdate ↔
      (vget v q).isSome ∧ ∃ t, specGet L q = some (.link t) ∧ vget v q ≠ some (.link t) := by
  rw [analyze_toUpdate, List.mem_filter, List.mem_filter, mem_exOf]
  simp only [List.contains_eq_mem, decide_eq_true_eq]
  constructor
  · rintro ⟨⟨⟨hs, _⟩, hk⟩, hc⟩
    obtain ⟨t, ht, hst⟩ := specGet_key hV hk
    exact ⟨hs, t, hst, by simpa [ht] using hc⟩
  · rintro ⟨hs, t, hst, hne⟩
    have ht := specGet_link_inv hst
    have hk := mem_keys_of_linkTarget ht
    exact ⟨⟨⟨hs, hV.leafEnd q hk⟩, hk⟩, by simpa [ht] using hne⟩

theorem mem_fresh (q : Path) :
    q ∈ (analyzeView v L).fresh ↔ q ∈ keysOf L ∧ vget v q = none := by
  rw [analyze_fresh, List.mem_filter]
  simp only [Bool.not_eq_true', List.contains_eq_mem, decide_eq_false_iff_not, mem_exOf]
  constructor
  · rintro ⟨hk, hn⟩
    exact ⟨hk, Option.not_isSome_iff_eq_none.mp fun hs => hn ⟨hs, hV.leafEnd q hk⟩⟩
  · rintro ⟨hk, hn⟩
    exact ⟨hk, fun h => by simp [hn] at h⟩

theorem mem_linked (q : Path) :
    q ∈ linkedOf v L ↔ q ∈ keysOf L ∧ vget v q ≠ specGet L q := by
  rw [linkedOf, List.mem_append, mem_fresh hV, mem_toUpdate hV]
  constructor
  · rintro (⟨hk, hn⟩ | ⟨hs, t, hst, hne⟩)
    · obtain ⟨t, _, hst⟩ := specGet_key hV hk
      exact ⟨hk, by rw [hn, hst]; exact fun e => by cases e⟩
    · exact ⟨mem_keys_of_linkTarget (specGet_link_inv hst), by rw [hst]; exact hne⟩
  · rintro ⟨hk, hne⟩
    obtain ⟨t, _, hst⟩ := specGet_key hV hk
    cases hq : vget v q with
    | none => exact Or.inl ⟨hk, rfl⟩
    | some e => exact Or.inr ⟨rfl, t, hst, by rw [← hq, ← hst]; exact hne⟩

theorem linkedOf_nodup : (linkedOf v L).Nodup := by
  rw [linkedOf, List.nodup_append]
  refine ⟨?_, ?_, fun a ha b hb e => ?_⟩
  · rw [analyze_fresh]; exact hV.nodup.filter _
  · rw [analyze_toUpdate]; exact ((dedupPaths_nodup _).filter _).filter _
  · have h1 := ((mem_fresh hV a).mp ha).2
    have h2 := ((mem_toUpdate hV b).mp hb).1
    rw [← e, h1] at h2; cases h2

end linked

section main
variable {L0 L : List (Path × String)} {v : View}
  (hV0 : Valid L0) (hV : Valid L) (hT : IsTreeOf v L0)
include hV0 hV hT

theorem mem_obsOf (q : Path) : q ∈ obsOf v L ↔ (vget v q).isSome ∧ specGet L q = none := by
  unfold obsOf
  rw [List.mem_mergeSort, List.mem_filter, mem_dead_iff]
  constructor
  · rintro ⟨⟨hn, hc⟩, hf⟩
    simp only [Bool.and_eq_true, Bool.not_eq_true', decide_eq_false_iff_not] at hf
    obtain ⟨e, he, hp⟩ := hn.resolve_left hf.1
    have hs : (vget v e).isSome := ((mem_exOf v e).mp he).1
    rw [hT] at hs ⊢
    obtain ⟨_, k, hk, hek⟩ := specGet_isSome_prefix hs
    refine ⟨specGet_prefix hV0 hf.1 hk (hp.trans hek), ?_⟩
    exact Option.not_isSome_iff_eq_none.mp fun h => hc (specGet_isSome_prefix h).2
  · rintro ⟨hs, hn⟩
    rw [hT] at hs
    obtain ⟨hne, k, hk, hqk⟩ := specGet_isSome_prefix hs
    obtain ⟨t, _, hkt⟩ := specGet_key hV0 hk
    refine ⟨⟨Or.inr ⟨k, (mem_exOf v k).mpr ⟨by rw [hT, hkt]; rfl, hV0.leafEnd k hk⟩, hqk⟩, ?_⟩, ?_⟩
    · rintro ⟨k', hk', hqk'⟩
      have := specGet_prefix hV hne hk' hqk'
      rw [hn] at this; cases this
    · have hdot : q ≠ ["."] := fun e =>
        (hV0.plain k hk "." (hqk.subset (by simp [e]))).2 rfl
      simp [hne, hdot]

theorem mem_stale (q : Path) :
    q ∈ (analyzeView v L).stale ↔ (∃ t, vget v q = some (.link t)) ∧ specGet L q = some .dir := by
  rw [analyze_stale, List.mem_filter, mem_exOf]
  simp only [Bool.and_eq_true, Bool.not_eq_true', List.contains_eq_mem, decide_eq_false_iff_not,
    isLinkAt, mem_obsOf hV0 hV hT]
  constructor
  · rintro ⟨⟨hs, _⟩, ⟨h1, h2⟩, h3⟩
    obtain ⟨e, he⟩ := Option.isSome_iff_exists.mp hs
    cases e with
    | dir => simp [he] at h1
    | link t =>
      refine ⟨⟨t, he⟩, ?_⟩
      cases hl : specGet L q with
      | none => exact absurd ⟨hs, hl⟩ h3
      | some e' =>
        cases e' with
        | dir => rfl
        | link t' => exact absurd (mem_keys_of_linkTarget (specGet_link_inv hl)) h2
  · rintro ⟨⟨t, ht⟩, hd⟩
    have hs : (vget v q).isSome := by rw [ht]; rfl
    refine ⟨⟨hs, ?_⟩, ⟨by simp [ht], (specGet_dir_inv hd).1⟩, fun h => by rw [h.2] at hd; cases hd⟩
    exact hV0.leafEnd q (mem_keys_of_linkTarget (specGet_link_inv (hT q ▸ ht)))

theorem mem_removed (q : Path) :
    q ∈ removedOf v L ↔ (vget v q).isSome ∧ vget v q ≠ specGet L q := by
  rw [removedOf, analyze_obsolete, List.mem_append, List.mem_append, mem_obsOf hV0 hV hT, mem_stale hV0 hV hT,
    mem_toUpdate hV]
  constructor
  · rintro ((⟨hs, hn⟩ | ⟨⟨t, ht⟩, hd⟩) | ⟨hs, t, hst, hne⟩)
    · exact ⟨hs, fun e => by rw [e, hn] at hs; cases hs⟩
    · exact ⟨by rw [ht]; rfl, by rw [ht, hd]; exact fun e => by cases e⟩
    · exact ⟨hs, by rw [hst]; exact hne⟩
  · rintro ⟨hs, hne⟩
    cases hl : specGet L q with
    | none => exact Or.inl (Or.inl ⟨hs, rfl⟩)
    | some e =>
      cases e with
      | link t => exact Or.inr ⟨hs, t, rfl, hl ▸ hne⟩
      | dir =>
        obtain ⟨e', he'⟩ := Option.isSome_iff_exists.mp hs
        cases e' with
        | dir => exact absurd (he'.trans hl.symm) hne
        | link t => exact Or.inl (Or.inr ⟨⟨t, he'⟩, rfl⟩)

/-- the three parts of `removedOf` differ in what `L` prescribes: nothing, a directory, a link -/
theorem removedOf_nodup : (removedOf v L).Nodup := by
  rw [removedOf, analyze_obsolete, List.nodup_append, List.nodup_append]
  refine ⟨⟨obsOf_nodup v L, ?_, fun a ha b hb e => ?_⟩, ?_, fun a ha b hb e => ?_⟩
  · rw [analyze_stale]; exact (dedupPaths_nodup _).filter _
  · rw [mem_obsOf hV0 hV hT] at ha
    rw [mem_stale hV0 hV hT, ← e, ha.2] at hb
    cases hb.2
  · rw [analyze_toUpdate]; exact ((dedupPaths_nodup _).filter _).filter _
  · obtain ⟨_, t, hst, _⟩ := (mem_toUpdate hV b).mp hb
    rw [List.mem_append, mem_obsOf hV0 hV hT, mem_stale hV0 hV hT, e, hst] at ha
    rcases ha with ⟨_, h⟩ | ⟨_, h⟩ <;> cases h

/-- Whatever lies below a removed path is obsolete: the path is a directory of `v`, so `L`
    prescribes no directory there, hence nothing below it. -/
theorem obsolete_below {a b : Path} (ha : a ∈ removedOf v L) (hab : properPrefix a b = true)
    (hb : (vget v b).isSome) : b ∈ obsOf v L := by
  obtain ⟨hs, hne⟩ := (mem_removed hV0 hV hT a).mp ha
  have ha0 := (specGet_isSome_prefix (hT a ▸ hs)).1
  refine (mem_obsOf hV0 hV hT b).mpr ⟨hb, Option.not_isSome_iff_eq_none.mp fun h => hne ?_⟩
  rw [hT, specGet_above_some hV0 (hT b ▸ hb) ha0 hab, specGet_above_some hV h ha0 hab]

/-- The removals run, and leave the part of `v` that `L` prescribes. -/
theorem removals_ok (rest : List Step) :
    ∃ v', runSteps ((removedOf v L).map Step.remove ++ rest) v = runSteps rest v' ∧
      ∀ q, vget v' q = if vget v q = specGet L q then specGet L q else none := by
  obtain ⟨v', hrun, hget⟩ := runSteps_remove (removedOf v L) rest v (removedOf_nodup hV0 hV hT)
    (fun p hp => ((mem_removed hV0 hV hT p).mp hp).1)
    (fun p hp q hpq hs =>
      List.mem_append_left _ (List.mem_append_left _ (obsolete_below hV0 hV hT hp hpq hs)))
    (by
      -- the obsolete paths come first, deepest first; nothing stands above a later path
      have hlater : ∀ a ∈ removedOf v L, ∀ b ∈ (analyzeView v L).stale ++ (analyzeView v L).toUpdate,
          properPrefix a b = false := fun a ha b hb => Bool.eq_false_iff.mpr fun hab => by
        have hbR : b ∈ removedOf v L := by
          rw [removedOf, analyze_obsolete, List.append_assoc]; exact List.mem_append_right _ hb
        have hn := ((mem_obsOf hV0 hV hT b).mp
          (obsolete_below hV0 hV hT ha hab ((mem_removed hV0 hV hT b).mp hbR).1)).2
        rw [List.mem_append, mem_stale hV0 hV hT, mem_toUpdate hV, hn] at hb
        rcases hb with ⟨_, h⟩ | ⟨_, _, h, _⟩ <;> cases h
      rw [removedOf, analyze_obsolete, List.append_assoc] at hlater ⊢
      exact List.pairwise_append.mpr ⟨obsOf_sorted v L,
        List.pairwise_of_forall_mem_list fun a ha b hb => hlater a (List.mem_append_right _ ha) b hb,
        fun a ha b hb => hlater a (List.mem_append_left _ ha) b hb⟩)
  refine ⟨v', hrun, fun q => ?_⟩
  rw [hget]
  by_cases h : vget v q = specGet L q
  · rw [if_pos h, if_neg (fun hm => ((mem_removed hV0 hV hT q).mp hm).2 h), h]
  · rw [if_neg h]
    split
    · rfl
    · next hm =>
      exact Option.not_isSome_iff_eq_none.mp fun hs => hm ((mem_removed hV0 hV hT q).mpr ⟨hs, h⟩)

/-- **Main lemma.**  If `v` is the picture of an accepted link set `L0` then updating it for an
    accepted link set `L` performs no failing step and yields the picture of `L`. -/
theorem update_correct :
    (updateView v L).2 = none ∧ IsTreeOf (updateView v L).1 L := by
  have hps : ∀ p ∈ linkedOf v L, p ∈ keysOf L := fun p hp => ((mem_linked hV p).mp hp).1
  have hkeys : keysOf (pairsOf L (linkedOf v L)) = linkedOf v L := pairsOf_keys hps
  have hVk := valid_pairsOf hV hps (linkedOf_nodup hV)
  obtain ⟨v3, hrun3, hv3⟩ := removals_ok hV0 hV hT
    ((pairsOf L (linkedOf v L)).map (fun k => Step.mklink k.1 k.2))
  obtain ⟨v4, hrun4, hget4⟩ := runSteps_mklink _ v3 hVk.nodup (fun k => key_ne_nil hVk)
    hVk.noConflict
    (fun k hk => by rw [hv3, if_neg ((mem_linked hV k).mp (hkeys ▸ hk)).2])
    (fun k hk q hq hqk => by
      rw [hv3, specGet_above hV hq (hps k (hkeys ▸ hk)) hqk]
      split
      · exact Or.inr rfl
      · exact Or.inl rfl)
  have hrun : updateView v L = (v4, none) := by
    rw [updateView, viewSteps_eq, linkSteps_eq (fun p hp => hV.plain p (hps p hp)), hrun3, hrun4]
  rw [hrun]
  refine ⟨rfl, fun q => ?_⟩
  show vget v4 q = specGet L q
  rw [hget4, hv3]
  cases hl : specGet (pairsOf L (linkedOf v L)) q with
  | some e =>
    -- linked now, or on the way to such a link
    obtain ⟨hq, ⟨t, e1, ht⟩ | ⟨e1, _, k, hk, hp⟩⟩ := specGet_inv hl
    · rw [e1, specGet_of_target hq (mem_pairsOf (linkTarget_mem ht)).2]; rfl
    · rw [e1, specGet_above hV hq (hps k (hkeys ▸ hk)) hp]; rfl
  | none =>
    show (if vget v q = specGet L q then specGet L q else none) = specGet L q
    split
    · rfl
    · next hne =>
      -- `q` differs from what `L` prescribes and is not linked: `L` prescribes nothing
      symm
      cases hs : specGet L q with
      | none => rfl
      | some e =>
        exfalso
        cases e with
        | link t =>
          have hm := (mem_linked hV q).mpr ⟨mem_keys_of_linkTarget (specGet_link_inv hs), hne⟩
          obtain ⟨_, _, h⟩ := specGet_key hVk (hkeys.symm ▸ hm)
          rw [h] at hl; cases hl
        | dir =>
          obtain ⟨_, k, hk, hp⟩ := specGet_dir_inv hs
          have hq := (specGet_inv hs).1
          by_cases hm : k ∈ linkedOf v L
          · rw [specGet_above hVk hq (hkeys.symm ▸ hm) hp] at hl
            cases hl
          · -- `k` keeps its link, so `q` is a directory of `v` already
            have hkk : vget v k = specGet L k :=
              Classical.not_not.mp fun h => hm ((mem_linked hV k).mpr ⟨hk, h⟩)
            obtain ⟨t, _, hkt⟩ := specGet_key hV hk
            apply hne
            rw [hs, hT, specGet_above_some hV0 (by rw [← hT, hkk, hkt]; rfl) hq hp]

end main

/-- On a view that already is the picture of `L` nothing differs from what `L` prescribes: the
    update performs no step at all. -/
theorem steps_nil_of_tree {L : List (Path × String)} {v : View} (hV : Valid L) (hT : IsTreeOf v L) :
    viewSteps v L = [] := by
  have hR : removedOf v L = [] :=
    List.eq_nil_iff_forall_not_mem.mpr fun q hq => ((mem_removed hV hV hT q).mp hq).2 (hT q)
  have hA : linkedOf v L = [] :=
    List.eq_nil_iff_forall_not_mem.mpr fun q hq => ((mem_linked hV q).mp hq).2 (hT q)
  rw [viewSteps_eq, hR, hA]
  rfl

theorem obsOf_empty (L : List (Path × String)) : obsOf [] L = [] := by
  rw [List.eq_nil_iff_forall_not_mem]
  intro q hq
  unfold obsOf at hq
  rw [List.mem_mergeSort, List.mem_filter, mem_dead_iff] at hq
  obtain ⟨⟨hn, _⟩, hf⟩ := hq
  rw [exOf_nil] at hn
  rcases hn with e | ⟨e, he, _⟩
  · simp [e] at hf
  · cases he

theorem viewSteps_empty (L : List (Path × String)) :
    viewSteps [] L = (keysOf L).filterMap (fun p =>
      match linkTarget L p with
      | some t => some (Step.mklink (fsPath p) t)
      | none => none) := by
  have hR : removedOf [] L = [] := by rw [removedOf, analyze_obsolete, obsOf_empty]; rfl
  have hA : linkedOf [] L = keysOf L := by
    rw [linkedOf, analyze_fresh, exOf_nil]
    exact (List.append_nil _).trans (List.filter_eq_self.mpr fun _ _ => rfl)
  rw [viewSteps_eq, hR, hA]
  rfl

/-- the uniqueness, leaf/node and leaf-name checks on raw link paths, without the normalisation
    that `createLinks` applies first (and that makes `Valid.plain` hold, `valid_of_ok`) -/
structure ValidRaw (L : List (Path × String)) : Prop where
  nodup : (keysOf L).Nodup
  noConflict : ∀ p ∈ keysOf L, ∀ q ∈ keysOf L, properPrefix p q = false
  leafEnd : ∀ p ∈ keysOf L, p.getLast? = some leaf

/-- two raw paths that name the same place (`"/job"`-like `["", "job"]` and `["job"]`) -/
def clashLinks : List (Path × String) := [(["", "job"], "a"), (["job"], "b")]

theorem clashLinks_validRaw : ValidRaw clashLinks := ⟨by decide, by decide, by decide⟩

theorem clashLinks_fails : (updateView [] clashLinks).2 = some .exist := by
  unfold updateView
  rw [viewSteps_empty]
  decide

end Signac.LV
