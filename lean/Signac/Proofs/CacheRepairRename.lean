/-
  C09 helper lemmas, the whole of `Project.repair()`: the rename route (a directory whose intact
  state point file hashes to another id than the directory name is moved to that id, provided the
  cache does not know the directory name and the destination is free), the loop over all listed
  directories, and its two corollaries: every directory ends up under its destination, and with
  every state point known from the cache nothing moves.  Core only.
-/
import Signac.Proofs.CacheRepair
namespace Signac.Cache
open Signac Signac.Ws

section
variable {β : Type}

theorem mem_keys_aerase_of_ne {j k : String} {l : List (String × β)} (hj : j ∈ K l) (hne : j ≠ k) :
    j ∈ K (aerase k l) := mem_keys_aerase_iff.mpr ⟨hj, hne⟩

end

section
variable {hash : JVal → String}

theorem ensureRead_mk (ws : List (String × Dir)) (cf : Option (List (String × JVal)))
    (se : List (String × JVal)) (np : Nat) :
    ensureRead ⟨ws, cf, se, true, np⟩ = ⟨ws, cf, se, true, np⟩ := rfl

theorem mem_keys_readCache_session (s : St) (j : String) :
    j ∈ K (readCache s).session ↔ j ∈ K s.session ∨ ∃ c, s.cacheFile = some c ∧ j ∈ K c := by
  unfold readCache
  split
  · rename_i c hc
    rw [mem_keys_updateAll]
    exact or_congr_right ⟨fun h => ⟨c, hc, h⟩, fun ⟨c', hc', h⟩ => Option.some.inj (hc.symm.trans hc') ▸ h⟩
  · rename_i hc
    exact (or_iff_left fun ⟨c, hc', _⟩ => nomatch hc.symm.trans hc').symm

/-- whether an id is known does not change when the cache file is merged a second time -/
theorem isSome_session_ensureRead_readCache (s : St) (j : String) :
    (alookup j (ensureRead (readCache s)).session).isSome = (alookup j (readCache s).session).isSome := by
  rw [Bool.eq_iff_iff, alookup_isSome_iff, alookup_isSome_iff]
  unfold ensureRead
  split
  · exact Iff.rfl
  · show j ∈ K (readCache (readCache s)).session ↔ _
    rw [mem_keys_readCache_session (readCache s), readCache_cacheFile, mem_keys_readCache_session s]
    exact ⟨fun h => h.elim id Or.inr, Or.inl⟩

theorem ensureRead_readCache_ws (s : St) : (ensureRead (readCache s)).ws = s.ws :=
  (ensureRead_ws _).trans (readCache_ws s)

/-- a state point file with an intact mapping, unknown to the cache, that hashes to another name:
    the mapping is not kept cached under `id` (`u` is the state once it is dropped again), and the
    directory moves if it can -/
theorem repairOne_misnamed {t : St} (hr : t.cacheRead = true) {id : String} {d : Dir}
    {kvs : List (String × JVal)} (hs : alookup id t.session = none) (hd : alookup id t.ws = some d)
    (hsp : d.sp = .valid (.obj kvs)) (hne : hash (.obj kvs) ≠ id) :
    ∃ u : St, u.ws = t.ws ∧ u.cacheRead = true ∧
      (∀ j, j ≠ id → alookup j u.session = alookup j t.session) ∧
      repairOne hash t id =
        match relocate u id (hash (.obj kvs)) with
        | none => (u, true)
        | some s' => initTwice hash s' (.obj kvs) :=
  ⟨{ t with session := aerase id (aset id (.obj kvs) t.session) }, rfl, hr,
    fun _ hj => (alookup_aerase_ne hj _).trans (alookup_aset_ne hj _ _),
    repairOne_of_wrong hr (lookRaw_read hs hd hsp) hne⟩

/-- ... met by the loop of `repair()` right after the cache file was merged -/
theorem repairOne_misnamed_start {s : St} {id : String} {d : Dir} {kvs : List (String × JVal)}
    (hd : alookup id s.ws = some d) (hsp : d.sp = .valid (.obj kvs)) (hne : hash (.obj kvs) ≠ id)
    (hunk : alookup id (readCache s).session = none) :
    ∃ u : St, u.ws = s.ws ∧ u.cacheRead = true ∧
      repairOne hash (readCache s) id =
        match relocate u id (hash (.obj kvs)) with
        | none => (u, true)
        | some s' => initTwice hash s' (.obj kvs) := by
  have hws := ensureRead_readCache_ws s
  obtain ⟨u, hu, hr, _, e⟩ := repairOne_misnamed (hash := hash) (ensureRead_cacheRead (readCache s))
    (Option.not_isSome_iff_eq_none.mp (by rw [isSome_session_ensureRead_readCache, hunk]; exact Bool.false_ne_true))
    (hws.symm ▸ hd) hsp hne
  exact ⟨u, hu.trans hws, hr, (repairOne_ensureRead _ id).symm.trans e⟩

end

/-- the mapping held by the directory's state point file, if the file is intact and holds one -/
def spObj (d : Dir) : Option JVal :=
  match d.sp with
  | .valid (.obj kvs) => some (.obj kvs)
  | _ => none

/-- the id under which repair leaves the directory `e`, given the (merged) session cache `sess`:
    its own id if the cache knows it; otherwise the hash of the mapping its file holds -/
def dest (hash : JVal → String) (sess : List (String × JVal)) (e : String × Dir) : String :=
  if (alookup e.1 sess).isSome then e.1
  else match spObj e.2 with
    | some v => hash v
    | none => e.1

section
variable {hash : JVal → String}

theorem spObj_some {d : Dir} {w : JVal} (h : spObj d = some w) :
    ∃ kvs, w = .obj kvs ∧ d.sp = .valid (.obj kvs) := by
  unfold spObj at h
  split at h
  · cases h; exact ⟨_, rfl, ‹_›⟩
  · cases h

theorem dest_congr {sess sess' : List (String × JVal)} {e : String × Dir}
    (h : (alookup e.1 sess').isSome = (alookup e.1 sess).isSome) :
    dest hash sess' e = dest hash sess e := by
  unfold dest
  rw [h]

theorem dest_of_cached {sess : List (String × JVal)} {id : String} {d : Dir}
    (h : (alookup id sess).isSome = true) : dest hash sess (id, d) = id := if_pos h

theorem dest_of_read {sess : List (String × JVal)} {id : String} {d : Dir} {kvs : List (String × JVal)}
    (h : alookup id sess = none) (hsp : d.sp = .valid (.obj kvs)) :
    dest hash sess (id, d) = hash (.obj kvs) := by
  unfold dest spObj
  rw [h, hsp]
  rfl

/-- `init` twice on an existing directory whose name is the hash of `v` (cache file already read):
    afterwards the directory validates, its payload is kept, and at most `v` is registered -/
theorem initTwice_at (s : St) (hr : s.cacheRead = true) (v : JVal) (d : Dir)
    (hl : alookup (hash v) s.ws = some d) :
    (initTwice hash s v).2 = false ∧ (initTwice hash s v).1.cacheRead = true ∧
    ((initTwice hash s v).1.session = s.session ∨
      (initTwice hash s v).1.session = aset (hash v) v s.session) ∧
    ∃ d', (initTwice hash s v).1.ws = aset (hash v) d' s.ws ∧ d'.payload = d.payload ∧
      (loadValid hash d' (hash v)).isSome = true := by
  cases hv : loadValid hash d (hash v) with
  | some w =>
    rw [initTwice_valid hr hl hv]
    exact ⟨rfl, hr, Or.inl rfl, d, (aset_lookup_self hl).symm, rfl, by rw [hv]; rfl⟩
  | none =>
    rw [initTwice_invalid hr hl hv]
    exact ⟨rfl, hr, Or.inr rfl, _, rfl, rfl, loadValid_fresh v _⟩

/-- what one iteration of the loop does to the directory `(id, d)` and to nothing else -/
structure StepR (hash : JVal → String) (t t' : St) (id : String) (d : Dir) : Prop where
  read : t'.cacheRead = true
  sess : ∀ j, j ≠ id → alookup j t'.session = alookup j t.session
  known : ∀ v, alookup id t.session = some v → alookup id t'.session = some v
  ws : (dest hash t.session (id, d) = id ∧
          ∃ d', t'.ws = aset id d' t.ws ∧ d'.payload = d.payload ∧ (loadValid hash d' id).isSome = true) ∨
       (dest hash t.session (id, d) ≠ id ∧
          t'.ws = aerase id t.ws ++ [(dest hash t.session (id, d), d)] ∧
          (loadValid hash d (dest hash t.session (id, d))).isSome = true)

/-- One iteration for a directory that is known to the cache, or holds an intact mapping whose
    hash is its own name or a free name. -/
theorem repairOne_step (t : St) (hr : t.cacheRead = true) (hc : CacheInv hash t) (id : String) (d : Dir)
    (hd : alookup id t.ws = some d)
    (hcls : (alookup id t.session).isSome = true ∨ (spObj d).isSome = true)
    (hfree : dest hash t.session (id, d) ≠ id → alookup (dest hash t.session (id, d)) t.ws = none) :
    (repairOne hash t id).2 = false ∧ StepR hash t (repairOne hash t id).1 id d := by
  cases hs : alookup id t.session with
  | some v =>
    -- known from the cache
    obtain rfl : hash v = id := hc.1 _ _ (alookup_some_mem hs)
    obtain ⟨hb, hr', hs', hd'⟩ := initTwice_at (hash := hash) t hr v d hd
    rw [repairOne_of_right hr (by unfold lookRaw; rw [hs]) rfl]
    generalize initTwice hash t v = r at hb hr' hs' hd'
    refine ⟨hb, hr', fun j hj => ?_, fun w hw => ?_, Or.inl ⟨dest_of_cached (by rw [hs]; rfl), hd'⟩⟩
    · rcases hs' with hs' | hs' <;> rw [hs']
      exact alookup_aset_ne hj _ _
    · rcases hs' with hs' | hs' <;> rw [hs']
      · exact hw
      · exact (alookup_aset_self _ _ _).trans (hs.symm.trans hw)
  | none =>
    obtain ⟨w, ho⟩ := Option.isSome_iff_exists.mp (hcls.resolve_left (by rw [hs]; exact Bool.false_ne_true))
    obtain ⟨kvs, rfl, hsp⟩ := spObj_some ho
    have hdest : dest hash t.session (id, d) = hash (.obj kvs) := dest_of_read hs hsp
    rw [hdest] at hfree
    by_cases hcorr : hash (.obj kvs) = id
    · -- intact as it stands: only registered
      rw [repairOne_of_right hr (lookRaw_read hs hd hsp) hcorr]
      obtain ⟨hb, hr', hs', hd'⟩ := initTwice_at (hash := hash) (register t id (.obj kvs)) hr (.obj kvs) d
        (hcorr.symm ▸ hd)
      rw [hcorr] at hs' hd'
      generalize initTwice hash (register t id (.obj kvs)) (.obj kvs) = r at hb hr' hs' hd'
      refine ⟨hb, hr', fun j hj => ?_, fun w hw => (nomatch hs.symm.trans hw), Or.inl ⟨hdest.trans hcorr, hd'⟩⟩
      rcases hs' with hs' | hs' <;> rw [hs']
      · exact alookup_aset_ne hj _ _
      · exact (alookup_aset_ne hj _ _).trans (alookup_aset_ne hj _ _)
    · -- misnamed: moved
      obtain ⟨u, hws, hru, hsu, e⟩ := repairOne_misnamed (hash := hash) hr hs hd hsp hcorr
      rw [e, relocate_free (hws.symm ▸ hd) (hws.symm ▸ hfree hcorr)]
      dsimp only
      rw [initTwice_valid (s := { u with ws := aerase id u.ws ++ [(hash (.obj kvs), d)] }) (d := d) hru
          (alookup_moved_new hcorr (hws.symm ▸ hfree hcorr) d) (loadValid_of_sp hsp)]
      refine ⟨rfl, hru, hsu, fun w hw => (nomatch hs.symm.trans hw),
        Or.inr ⟨hdest ▸ hcorr, hdest ▸ hws ▸ rfl, hdest ▸ ?_⟩⟩
      rw [loadValid_of_sp hsp]
      rfl

end

/-- what is compared before and after: each directory's name and payload -/
abbrev pay (e : String × Dir) : String × Nat := (e.1, e.2.payload)

/-- name and payload of a directory once the ids `ids` have been processed: those move to their
    destination.  The loop invariant: this list, taken with the ids still to come, is a permutation
    of what it was at the start (processed directories sit at their destination already). -/
def tgt (hash : JVal → String) (sess : List (String × JVal)) (ids : List String) (e : String × Dir) :
    String × Nat :=
  ((if e.1 ∈ ids then dest hash sess e else e.1), e.2.payload)

section
variable {hash : JVal → String}

theorem tgt_of_mem {sess : List (String × JVal)} {ids : List String} {e : String × Dir} (h : e.1 ∈ ids) :
    tgt hash sess ids e = (dest hash sess e, e.2.payload) := by
  unfold tgt; rw [if_pos h]

theorem tgt_of_not_mem {sess : List (String × JVal)} {ids : List String} {e : String × Dir} (h : e.1 ∉ ids) :
    tgt hash sess ids e = pay e := by
  unfold tgt; rw [if_neg h]

/-- consequences of one iteration for the rest of the loop -/
structure Frame (hash : JVal → String) (t t1 : St) (id : String) (d : Dir) (rest : List String) : Prop where
  read : t1.cacheRead = true
  nd : (K t1.ws).Nodup
  restWs : ∀ j, j ∈ rest → alookup j t1.ws = alookup j t.ws
  restSess : ∀ j, j ≠ id → alookup j t1.session = alookup j t.session
  mem : ∀ e, e ∈ t1.ws → (e ∈ t.ws ∧ e.1 ≠ id) ∨
    (e.1 = dest hash t.session (id, d) ∧ (loadValid hash e.2 e.1).isSome = true)
  perm : (t1.ws.map (tgt hash t1.session rest)).Perm (t.ws.map (tgt hash t.session (id :: rest)))
  keysEq : dest hash t.session (id, d) = id → K t1.ws = K t.ws

theorem frame_of_step {t t1 : St} {id : String} {d : Dir} {rest : List String}
    (hst : StepR hash t t1 id d) (hnd : (K t.ws).Nodup) (hd : alookup id t.ws = some d)
    (hfree : dest hash t.session (id, d) ≠ id → dest hash t.session (id, d) ∉ K t.ws)
    (hnotin : id ∉ rest) (hsub : ∀ j, j ∈ rest → j ∈ K t.ws) :
    Frame hash t t1 id d rest := by
  have hidk : id ∈ K t.ws := List.mem_map.mpr ⟨(id, d), alookup_some_mem hd, rfl⟩
  -- the two maps agree away from `id`
  have hg : ∀ e : String × Dir, e.1 ≠ id → tgt hash t1.session rest e = tgt hash t.session (id :: rest) e := by
    intro e he
    by_cases hr : e.1 ∈ rest
    · rw [tgt_of_mem hr, tgt_of_mem (List.mem_cons_of_mem _ hr),
        dest_congr (congrArg Option.isSome (hst.sess e.1 he))]
    · rw [tgt_of_not_mem hr, tgt_of_not_mem fun h => (List.mem_cons.mp h).elim he hr]
  rcases hst.ws with ⟨hdest, d', hws, hp, hv⟩ | ⟨hdest, hws, hv⟩
  · -- in place
    have hkeys : K t1.ws = K t.ws := hws ▸ aset_keys_of_mem hidk
    have hnd1 : (K t1.ws).Nodup := hkeys ▸ hnd
    refine ⟨hst.read, hnd1, fun j hj => ?_, hst.sess, fun e he => ?_, ?_, fun _ => hkeys⟩
    · rw [hws, alookup_aset_ne fun e : j = id => hnotin (e ▸ hj)]
    · by_cases hid : e.1 = id
      · have := alookup_of_mem_nodup he hnd1
        rw [hws, hid, alookup_aset_self] at this
        exact Or.inr ⟨hid.trans hdest.symm, hid ▸ Option.some.inj this ▸ hv⟩
      · exact Or.inl ⟨(mem_aset (hws ▸ he)).resolve_left fun h => hid (congrArg Prod.fst h), hid⟩
    · rw [hws, map_aset_congr hnd hd ?_ fun e _ hne => hg e hne]
      rw [tgt_of_not_mem (e := (id, d')) hnotin, tgt_of_mem (e := (id, d)) List.mem_cons_self, hdest, pay, hp]
  · -- moved
    have hnk := hfree hdest
    have hnr : dest hash t.session (id, d) ∉ rest := fun h => hnk (hsub _ h)
    refine ⟨hst.read, ?_, fun j hj => ?_, hst.sess, fun e he => ?_, ?_, fun h => absurd h hdest⟩
    · exact hws ▸ nodup_moved hnd hnk id d
    · rw [hws]
      exact alookup_moved_other (fun e : j = id => hnotin (e ▸ hj))
        (fun e : j = dest hash t.session (id, d) => hnk (e ▸ hsub j hj)) _ _
    · rw [hws] at he
      exact (mem_moved_iff.mp he).imp (fun h => h) fun h : e = _ => h ▸ ⟨rfl, hv⟩
    · refine List.Perm.trans ?_ ((perm_aerase hnd hd).map (tgt hash t.session (id :: rest))).symm
      rw [hws, List.map_append, List.map_append, List.map_congr_left fun e he =>
        hg e (mem_aerase_iff.mp he).2]
      show (_ ++ [tgt hash t1.session rest (_, d)]).Perm (_ ++ [tgt hash t.session (id :: rest) (id, d)])
      rw [tgt_of_not_mem (e := (dest hash t.session (id, d), d)) hnr,
        tgt_of_mem (e := (id, d)) List.mem_cons_self]

/-- hypotheses on the ids still to be processed, relative to the current state: each is known to
    the session or holds an intact mapping; a directory that will move has a free destination;
    destinations are pairwise distinct -/
structure LoopHyp (hash : JVal → String) (t : St) (ids : List String) : Prop where
  nd : ids.Nodup
  cls : ∀ id, id ∈ ids → ∃ d, alookup id t.ws = some d ∧
      ((alookup id t.session).isSome = true ∨ (spObj d).isSome = true)
  free : ∀ id d, id ∈ ids → alookup id t.ws = some d →
      dest hash t.session (id, d) ≠ id → dest hash t.session (id, d) ∉ K t.ws
  inj : ∀ i1 d1 i2 d2, i1 ∈ ids → i2 ∈ ids → alookup i1 t.ws = some d1 → alookup i2 t.ws = some d2 →
      dest hash t.session (i1, d1) = dest hash t.session (i2, d2) → i1 = i2

theorem loopHyp_step {t t1 : St} {id : String} {d : Dir} {rest : List String}
    (H : LoopHyp hash t (id :: rest)) (hd : alookup id t.ws = some d)
    (F : Frame hash t t1 id d rest) : LoopHyp hash t1 rest := by
  have hnd := List.nodup_cons.mp H.nd
  have hne : ∀ j, j ∈ rest → j ≠ id := fun j hj e => hnd.1 (e ▸ hj)
  have hdest : ∀ j dj, j ∈ rest → dest hash t1.session (j, dj) = dest hash t.session (j, dj) :=
    fun j dj hj => dest_congr (congrArg Option.isSome (F.restSess j (hne j hj)))
  refine ⟨hnd.2, fun j hj => ?_, fun j dj hj hl hdn hk => ?_, fun i1 d1 i2 d2 h1 h2 hl1 hl2 he => ?_⟩
  · rw [F.restWs j hj, F.restSess j (hne j hj)]
    exact H.cls j (List.mem_cons_of_mem _ hj)
  · rw [F.restWs j hj] at hl
    rw [hdest j dj hj] at hdn hk
    obtain ⟨e, he, hek⟩ := List.mem_map.mp hk
    rcases F.mem e he with h | h
    · exact H.free j dj (List.mem_cons_of_mem _ hj) hl hdn (List.mem_map.mpr ⟨e, h.1, hek⟩)
    · exact hne j hj (H.inj j dj id d (List.mem_cons_of_mem _ hj) List.mem_cons_self hl hd (hek.symm.trans h.1))
  · rw [F.restWs i1 h1] at hl1
    rw [F.restWs i2 h2] at hl2
    rw [hdest i1 d1 h1, hdest i2 d2 h2] at he
    exact H.inj i1 d1 i2 d2 (List.mem_cons_of_mem _ h1) (List.mem_cons_of_mem _ h2) hl1 hl2 he

/-- The loop of `repair` over ids each of which is known, intact, or misnamed with a free
    destination, the other directories being valid: nothing is reported; names and payloads are
    those of the start with every processed directory under its destination id; every directory
    validates; if no directory has to move, the listing keeps its order. -/
theorem repairLoop_ok (ids : List String) (t : St) (hr : t.cacheRead = true) (hc : CacheInv hash t)
    (hnd : (K t.ws).Nodup) (H : LoopHyp hash t ids)
    (hval : ∀ e, e ∈ t.ws → e.1 ∉ ids → (loadValid hash e.2 e.1).isSome = true) :
    (repairLoop hash t ids).2 = [] ∧ (K (repairLoop hash t ids).1.ws).Nodup ∧
    ((repairLoop hash t ids).1.ws.map pay).Perm (t.ws.map (tgt hash t.session ids)) ∧
    AllValid hash (repairLoop hash t ids).1.ws ∧
    ((∀ id d, id ∈ ids → alookup id t.ws = some d → dest hash t.session (id, d) = id) →
      K (repairLoop hash t ids).1.ws = K t.ws) := by
  induction ids generalizing t with
  | nil =>
    refine ⟨rfl, hnd, ?_, fun id d hm => hval (id, d) hm List.not_mem_nil, fun _ => rfl⟩
    rw [List.map_congr_left fun e _ => tgt_of_not_mem (hash := hash) (sess := t.session) (e := e) List.not_mem_nil]
    exact .refl _
  | cons id rest ih =>
    obtain ⟨d, hd, hcls⟩ := H.cls id List.mem_cons_self
    have hfr := H.free id d List.mem_cons_self hd
    obtain ⟨hbad, hst⟩ := repairOne_step (hash := hash) t hr hc id d hd hcls
      fun h => alookup_eq_none_iff.mpr (hfr h)
    have hnd' := List.nodup_cons.mp H.nd
    have hc1 := cacheInv_repairOne t id hc
    rw [repairLoop_cons, hbad]
    generalize (repairOne hash t id).1 = t1 at hst hc1 ⊢
    have F := frame_of_step hst hnd hd hfr hnd'.1 fun j hj =>
      let ⟨dj, h1, _⟩ := H.cls j (List.mem_cons_of_mem _ hj)
      List.mem_map.mpr ⟨(j, dj), alookup_some_mem h1, rfl⟩
    obtain ⟨h1, h2, h3, h4, h5⟩ := ih t1 F.read hc1 F.nd (loopHyp_step H hd F) fun e he hn =>
      (F.mem e he).elim (fun h => hval e h.1 fun hm => (List.mem_cons.mp hm).elim h.2 hn) And.right
    generalize repairLoop hash t1 rest = r at h1 h2 h3 h4 h5 ⊢
    rw [h1]
    refine ⟨rfl, h2, h3.trans F.perm, h4, fun hstay => ?_⟩
    rw [h5 fun j dj hj hl => ?_, F.keysEq (hstay id d List.mem_cons_self hd)]
    rw [dest_congr (congrArg Option.isSome (F.restSess j fun e => hnd'.1 (e ▸ hj)))]
    exact hstay j dj (List.mem_cons_of_mem _ hj) ((F.restWs j hj).symm.trans hl)

end

/-- Hypotheses of the repair theorem, over the state before `repair()` (`readCache s` is the
    session cache merged with the cache file, as `repair` sees it):
    * every listed directory is known to the cache or holds an intact mapping (which then hashes
      to the directory's own name — the job is intact — or to another one — it was renamed);
    * the destination of a renamed directory is not a listed id;
    * no two directories have the same destination. -/
def Repairable (hash : JVal → String) (s : St) : Prop :=
  (∀ e, e ∈ s.ws → (alookup e.1 (readCache s).session).isSome = true ∨ (spObj e.2).isSome = true) ∧
  (∀ e, e ∈ s.ws → dest hash (readCache s).session e ≠ e.1 → dest hash (readCache s).session e ∉ K s.ws) ∧
  (s.ws.map (dest hash (readCache s).session)).Nodup

instance (hash : JVal → String) (s : St) : Decidable (Repairable hash s) := by
  unfold Repairable; infer_instance

section
variable {hash : JVal → String}

/-- the loop starts by reading the cache file, so it does not matter whether that was done before -/
theorem repairLoop_ensureRead (s : St) (ids : List String) :
    (repairLoop hash (ensureRead s) ids).2 = (repairLoop hash s ids).2 ∧
    (repairLoop hash (ensureRead s) ids).1.ws = (repairLoop hash s ids).1.ws := by
  cases ids with
  | nil => exact ⟨rfl, ensureRead_ws s⟩
  | cons id r => rw [repairLoop_cons, repairLoop_cons, repairOne_ensureRead]; exact ⟨rfl, rfl⟩

theorem loopHyp_of_repairable {s : St} (hnd : (K s.ws).Nodup) (hR : Repairable hash s) :
    LoopHyp hash (ensureRead (readCache s)) (K s.ws) := by
  obtain ⟨hcls, hfree, hinj⟩ := hR
  have hws := ensureRead_readCache_ws s
  have hde : ∀ e, dest hash (ensureRead (readCache s)).session e = dest hash (readCache s).session e :=
    fun e => dest_congr (isSome_session_ensureRead_readCache s e.1)
  refine ⟨hnd, fun id hid => ?_, fun id d _ hl => ?_, fun i1 d1 i2 d2 _ _ h1 h2 he => ?_⟩
  · obtain ⟨d, hd⟩ := Option.isSome_iff_exists.mp (alookup_isSome_iff.mpr hid)
    rw [hws, isSome_session_ensureRead_readCache]
    exact ⟨d, hd, hcls (id, d) (alookup_some_mem hd)⟩
  · rw [hws] at hl ⊢
    rw [hde]
    exact hfree (id, d) (alookup_some_mem hl)
  · rw [hws] at h1 h2
    rw [hde, hde] at he
    exact congrArg Prod.fst (eq_of_nodup_map hinj (alookup_some_mem h1) (alookup_some_mem h2) he)

/-- The loop of `repair()` from its start on a repairable project, in terms of the state before:
    the facts of `repairLoop_ok` with every listed directory processed. -/
theorem repair_ok (s : St) (hc : CacheInv hash s) (hnd : (K s.ws).Nodup) (hR : Repairable hash s) :
    (repair hash s).2 = [] ∧ (K (repair hash s).1.ws).Nodup ∧
    ((repair hash s).1.ws.map pay).Perm
      (s.ws.map fun e => (dest hash (readCache s).session e, e.2.payload)) ∧
    AllValid hash (repair hash s).1.ws ∧
    ((∀ e, e ∈ s.ws → dest hash (readCache s).session e = e.1) → K (repair hash s).1.ws = K s.ws) := by
  have hws := ensureRead_readCache_ws s
  have hde : ∀ e, dest hash (ensureRead (readCache s)).session e = dest hash (readCache s).session e :=
    fun e => dest_congr (isSome_session_ensureRead_readCache s e.1)
  obtain ⟨h1, h2, h3, h4, h5⟩ := repairLoop_ok (hash := hash) (K s.ws) (ensureRead (readCache s))
    (ensureRead_cacheRead _) (cacheInv_ensureRead (cacheInv_readCache hc)) (hws.symm ▸ hnd)
    (loopHyp_of_repairable hnd hR) fun e he hn => absurd (List.mem_map.mpr ⟨e, hws ▸ he, rfl⟩) hn
  obtain ⟨e1, e2⟩ := repairLoop_ensureRead (hash := hash) (readCache s) (K s.ws)
  rw [e1] at h1
  rw [e2] at h2 h3 h4 h5
  -- every directory is among the ids processed, so each sits under its destination
  rw [hws, List.map_congr_left (g := fun e => (dest hash (readCache s).session e, e.2.payload)) fun e he =>
    (tgt_of_mem (List.mem_map.mpr ⟨e, he, rfl⟩)).trans (congrArg (·, e.2.payload) (hde e))] at h3
  rw [hws] at h5
  exact ⟨h1, h2, h3, h4, fun hstay => h5 fun id d _ hl =>
    (hde (id, d)).trans (hstay (id, d) (alookup_some_mem hl))⟩

/-- `repair()` on a project in which every listed directory is known to the cache, intact, or
    renamed-but-intact with a free destination of its own: nothing is reported, `check()` passes
    afterwards, and the result lists exactly the directories of the start, each with its payload,
    under its destination id (`dest`: the old id for known/intact ones, the hash of its own state
    point for a renamed one). -/
theorem repair_restores_renamed (s : St) (hc : CacheInv hash s) (hnd : (K s.ws).Nodup)
    (hR : Repairable hash s) :
    (repair hash s).2 = [] ∧ check hash (repair hash s).1 = [] ∧
    (K (repair hash s).1.ws).Nodup ∧
    ((repair hash s).1.ws.map pay).Perm
      (s.ws.map fun e => (dest hash (readCache s).session e, e.2.payload)) ∧
    (∀ e, e ∈ s.ws → ∃ d', alookup (dest hash (readCache s).session e) (repair hash s).1.ws = some d' ∧
        d'.payload = e.2.payload ∧ (loadValid hash d' (dest hash (readCache s).session e)).isSome = true) := by
  obtain ⟨h1, h2, h3, h4, _⟩ := repair_ok s hc hnd hR
  generalize repair hash s = r at h1 h2 h3 h4 ⊢
  refine ⟨h1, (check_nil_iff _).mpr h4, h2, h3, fun e he => ?_⟩
  -- the permutation puts `e`'s payload under its destination, and names are unique
  obtain ⟨e', he', hp⟩ := List.mem_map.mp (h3.mem_iff.mpr (List.mem_map.mpr ⟨e, he, rfl⟩))
  obtain ⟨hk, hpl⟩ := Prod.mk.inj hp
  exact ⟨e'.2, hk ▸ alookup_of_mem_nodup he' h2, hpl, hk ▸ h4 _ _ he'⟩

/-- One iteration of the repair loop (cache file already read) for an id whose state point is cached. -/
theorem repairOne_known {t : St} (hr : t.cacheRead = true) (id : String) (hk : Known hash t)
    (hc : CacheInv hash t) (hid : id ∈ K t.ws) :
    (repairOne hash t id).2 = false ∧ StepOk hash t (repairOne hash t id).1 id := by
  have hinv := cacheInv_repairOne t id hc
  obtain ⟨v, hv, _⟩ := hk id hid
  obtain ⟨d, hd⟩ := Option.isSome_iff_exists.mp (alookup_isSome_iff.mpr hid)
  have hdest : dest hash t.session (id, d) = id := dest_of_cached (by rw [hv]; rfl)
  obtain ⟨hb, hst⟩ := repairOne_step t hr hc id d hd (Or.inl (by rw [hv]; rfl)) fun h => absurd hdest h
  generalize repairOne hash t id = r at hinv hb hst ⊢
  obtain ⟨_, d', hws', hp, hvalid⟩ := hst.ws.resolve_right fun h => h.1 hdest
  have hkeys : K (aset id d' t.ws) = K t.ws := aset_keys_of_mem hid
  refine ⟨hb, hws'.symm ▸ hkeys, ⟨d', hws'.symm ▸ alookup_aset_self _ _ _, hvalid⟩,
    fun j hj => hws'.symm ▸ alookup_aset_ne hj _ _, fun a b ha hb => ?_, ?_, hinv⟩
  · cases ha.symm.trans hd
    cases hb.symm.trans (hws'.symm ▸ alookup_aset_self _ _ _)
    exact hp
  · refine known_of_isSome hinv.1 fun j hj => ?_
    rw [hws', hkeys] at hj
    by_cases hji : j = id
    · rw [hji, hst.known v hv]; rfl
    · obtain ⟨w, hw, _⟩ := hk j hj
      rw [hst.sess j hji, hw]; rfl

/-- repair() restores every damaged job when all state points are known from the cache: it
    reports nothing, check() passes afterwards, the listing is the same and no payload moved. -/
theorem repair_restores_known (s : St) (hc : CacheInv hash s) (hnd : (K s.ws).Nodup)
    (hk : Known hash (readCache s)) :
    (repair hash s).2 = [] ∧ check hash (repair hash s).1 = [] ∧ K (repair hash s).1.ws = K s.ws ∧
    (∀ j d d', alookup j s.ws = some d → alookup j (repair hash s).1.ws = some d' → d'.payload = d.payload) := by
  -- every directory is known, so none moves
  have hknown : ∀ e, e ∈ s.ws → (alookup e.1 (readCache s).session).isSome = true := fun e he => by
    obtain ⟨_, hv, _⟩ := hk e.1 ((readCache_ws s).symm ▸ List.mem_map.mpr ⟨e, he, rfl⟩)
    rw [hv]; rfl
  have hstay : ∀ e, e ∈ s.ws → dest hash (readCache s).session e = e.1 := fun e he =>
    dest_of_cached (hknown e he)
  have hR : Repairable hash s := ⟨fun e he => Or.inl (hknown e he), fun e he hne => absurd (hstay e he) hne,
    (List.map_congr_left hstay : s.ws.map (dest hash (readCache s).session) = K s.ws) ▸ hnd⟩
  obtain ⟨h1, h2, _, _, h5⟩ := repair_restores_renamed s hc hnd hR
  refine ⟨h1, h2, (repair_ok s hc hnd hR).2.2.2.2 hstay, fun j d d' hd hd' => ?_⟩
  obtain ⟨d'', hl, hp, _⟩ := h5 (j, d) (alookup_some_mem hd)
  rw [hstay (j, d) (alookup_some_mem hd)] at hl
  cases hd'.symm.trans hl
  exact hp

/-- A single misnamed directory, met by the loop of `repair()` right after the cache was read:
    it is not reported; afterwards `id` is no longer listed, `id'` is listed with the very same
    directory (state point file and payload), and every other entry is unchanged. -/
theorem repair_rename_one (s : St) (id id' : String) (d : Dir) (kvs : List (String × JVal))
    (hd : alookup id s.ws = some d) (hsp : d.sp = .valid (.obj kvs))
    (hh : hash (.obj kvs) = id') (hne : id' ≠ id) (hfree : id' ∉ K s.ws)
    (hunk : alookup id (readCache s).session = none) :
    (repairOne hash (readCache s) id).2 = false ∧
    (repairOne hash (readCache s) id).1.ws = aerase id s.ws ++ [(id', d)] ∧
    alookup id (repairOne hash (readCache s) id).1.ws = none ∧
    (∃ d', alookup id' (repairOne hash (readCache s) id).1.ws = some d' ∧
        d'.sp = .valid (.obj kvs) ∧ d'.payload = d.payload) ∧
    (∀ j, j ≠ id → j ≠ id' →
        alookup j (repairOne hash (readCache s) id).1.ws = alookup j s.ws) := by
  have hf : alookup id' s.ws = none := alookup_eq_none_iff.mpr hfree
  subst hh
  obtain ⟨u, hws, hr, e⟩ := repairOne_misnamed_start (hash := hash) hd hsp hne hunk
  rw [e, relocate_free (hws.symm ▸ hd) (hws.symm ▸ hf)]
  dsimp only
  rw [initTwice_valid (s := { u with ws := aerase id u.ws ++ [(hash (.obj kvs), d)] }) (d := d) hr
      (alookup_moved_new hne (hws.symm ▸ hf) d) (loadValid_of_sp hsp)]
  dsimp only
  rw [hws]
  exact ⟨rfl, rfl, alookup_moved_old hne _ _, ⟨d, alookup_moved_new hne hf d, hsp, rfl⟩,
    fun j hj hj' => alookup_moved_other hj hj' _ _⟩

/-- The destination is occupied by a non-empty directory: `id` is reported as corrupted and
    the listing is exactly what it was. -/
theorem repair_rename_blocked (s : St) (id id' : String) (d d2 : Dir) (kvs : List (String × JVal))
    (hd : alookup id s.ws = some d) (hsp : d.sp = .valid (.obj kvs))
    (hh : hash (.obj kvs) = id') (hne : id' ≠ id)
    (hocc : alookup id' s.ws = some d2) (hfull : dirEmpty d2 = false)
    (hunk : alookup id (readCache s).session = none) :
    (repairOne hash (readCache s) id).2 = true ∧ (repairOne hash (readCache s) id).1.ws = s.ws := by
  subst hh
  obtain ⟨u, hws, _, e⟩ := repairOne_misnamed_start (hash := hash) hd hsp hne hunk
  rw [e, relocate_blocked (hws.symm ▸ hd) (hws.symm ▸ hocc) hfull]
  exact ⟨rfl, hws⟩

/-- The destination is occupied by an EMPTY directory (no state point file, no payload): the
    misnamed directory takes its place. -/
theorem repair_rename_onto_empty (s : St) (id id' : String) (d d2 : Dir) (kvs : List (String × JVal))
    (hd : alookup id s.ws = some d) (hsp : d.sp = .valid (.obj kvs))
    (hh : hash (.obj kvs) = id') (hne : id' ≠ id)
    (hocc : alookup id' s.ws = some d2) (hempty : dirEmpty d2 = true)
    (hunk : alookup id (readCache s).session = none) :
    (repairOne hash (readCache s) id).2 = false ∧
    (repairOne hash (readCache s) id).1.ws = aset id' d (aerase id s.ws) := by
  subst hh
  obtain ⟨u, hws, hr, e⟩ := repairOne_misnamed_start (hash := hash) hd hsp hne hunk
  rw [e, relocate_onto_empty (hws.symm ▸ hd) (hws.symm ▸ hocc) hempty]
  dsimp only
  rw [initTwice_valid (s := { u with ws := aset (hash (.obj kvs)) d (aerase id u.ws) }) (d := d) hr
      (alookup_aset_self _ _ _) (loadValid_of_sp hsp)]
  dsimp only
  rw [hws]
  exact ⟨rfl, rfl⟩

end
end Signac.Cache
