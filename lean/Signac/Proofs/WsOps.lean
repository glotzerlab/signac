/-
  What the individual operations of the workspace model do: the two project slots; init; re-key by
  its four outcomes (moves the payload, never clobbers, handles of the group follow); move and
  clone; the operations that touch no job.  Core only.
-/
import Signac.Proofs.WsAssoc
namespace Signac.Ws
open Signac

section
variable {hash : JVal → String}

/-- Any index other than 0 addresses the second project, so two indices address the same slot
    exactly when they agree on being 0. -/
theorem jobs_setJobs (w : World) (p q : Nat) (j : Jobs) :
    (w.setJobs p j).jobs q = if (p = 0) = (q = 0) then j else w.jobs q := by
  unfold World.setJobs World.jobs
  by_cases hp : p = 0 <;> by_cases hq : q = 0 <;> simp [hp, hq]

theorem jobs_setJobs_same (w : World) (p : Nat) (j : Jobs) : (w.setJobs p j).jobs p = j := by
  rw [jobs_setJobs, if_pos rfl]

theorem jobs_setJobs_other (w : World) {p q : Nat} (j : Jobs) (h : (p = 0) ≠ (q = 0)) :
    (w.setJobs p j).jobs q = w.jobs q := by
  rw [jobs_setJobs, if_neg h]

theorem jobs_withHandles (w : World) (hs : List (String × Handle)) (p : Nat) :
    (w.withHandles hs).jobs p = w.jobs p := rfl

theorem ensure_of_some {w : World} {hd : Handle} {jd : JobData}
    (h : alookup (hash hd.sp) (w.jobs hd.proj) = some jd) : ensure hash w hd = w := by
  unfold ensure
  dsimp only
  rw [h]

theorem ensure_of_none {w : World} {hd : Handle} (h : alookup (hash hd.sp) (w.jobs hd.proj) = none) :
    ensure hash w hd = w.setJobs hd.proj (w.jobs hd.proj ++ [(hash hd.sp, ⟨hd.sp, [], []⟩)]) := by
  unfold ensure
  dsimp only
  rw [h]

theorem ensure_handles (w : World) (hd : Handle) :
    (ensure hash w hd).handles = w.handles := by
  unfold ensure World.setJobs
  dsimp only
  split
  · rfl
  · split <;> rfl

theorem step_init {w : World} {h : String} {hd : Handle} (hh : alookup h w.handles = some hd) :
    step hash w (.init h) = (ensure hash w hd, .ok) := by
  dsimp only [step]
  rw [hh]

/-- Same id (the edit does not change the JSON value): nothing happens. -/
theorem rekey_same_id (w : World) (hd : Handle) (newSp : JVal) (he : hash hd.sp = hash newSp) :
    rekey hash w hd newSp = (w, .ok) := if_pos he

/-- The job is not initialised: only the handles of the group change. -/
theorem rekey_uninit (w : World) (hd : Handle) (newSp : JVal) (hne : hash hd.sp ≠ hash newSp)
    (hsrc : alookup (hash hd.sp) (w.jobs hd.proj) = none) :
    rekey hash w hd newSp = (w.withHandles (followers hd.grp newSp w.handles), .ok) := by
  unfold rekey
  dsimp only
  rw [if_neg hne, hsrc]

/-- Destination already initialised: DestinationExistsError and nothing changes at all. -/
theorem rekey_dest_exists (w : World) (hd : Handle) (newSp : JVal) {jd : JobData}
    (hne : hash hd.sp ≠ hash newSp)
    (hsrc : alookup (hash hd.sp) (w.jobs hd.proj) = some jd)
    (hdst : (alookup (hash newSp) (w.jobs hd.proj)).isSome = true) :
    rekey hash w hd newSp = (w, .destExists) := by
  unfold rekey
  dsimp only
  rw [if_neg hne, hsrc]
  exact if_pos hdst

theorem rekey_moved (w : World) (hd : Handle) (newSp : JVal) {jd : JobData}
    (hne : hash hd.sp ≠ hash newSp)
    (hsrc : alookup (hash hd.sp) (w.jobs hd.proj) = some jd)
    (hdst : alookup (hash newSp) (w.jobs hd.proj) = none) :
    rekey hash w hd newSp =
      ((w.setJobs hd.proj (aerase (hash hd.sp) (w.jobs hd.proj) ++ [(hash newSp, { jd with sp := newSp })])).withHandles
        (followers hd.grp newSp w.handles), .ok) := by
  unfold rekey
  dsimp only
  rw [if_neg hne, hsrc, hdst]
  rfl

theorem rekey_cases {motive : World × Res → Prop} (w : World) (hd : Handle) (newSp : JVal)
    (same : hash hd.sp = hash newSp → motive (w, .ok))
    (uninit : hash hd.sp ≠ hash newSp → alookup (hash hd.sp) (w.jobs hd.proj) = none →
      motive (w.withHandles (followers hd.grp newSp w.handles), .ok))
    (clash : hash hd.sp ≠ hash newSp → motive (w, .destExists))
    (moved : ∀ jd, hash hd.sp ≠ hash newSp → alookup (hash hd.sp) (w.jobs hd.proj) = some jd →
      alookup (hash newSp) (w.jobs hd.proj) = none →
      motive ((w.setJobs hd.proj (aerase (hash hd.sp) (w.jobs hd.proj) ++
        [(hash newSp, { jd with sp := newSp })])).withHandles (followers hd.grp newSp w.handles), .ok)) :
    motive (rekey hash w hd newSp) := by
  by_cases hne : hash hd.sp = hash newSp
  · rw [rekey_same_id w hd newSp hne]; exact same hne
  cases hsrc : alookup (hash hd.sp) (w.jobs hd.proj) with
  | none => rw [rekey_uninit w hd newSp hne hsrc]; exact uninit hne hsrc
  | some jd =>
    cases hdst : alookup (hash newSp) (w.jobs hd.proj) with
    | none => rw [rekey_moved w hd newSp hne hsrc hdst]; exact moved jd hne hsrc hdst
    | some _ => rw [rekey_dest_exists w hd newSp hne hsrc (by rw [hdst]; rfl)]; exact clash hne

/-- The job re-appears under the new id with document and files unchanged, the old id
    disappears, every other job of the project is untouched. -/
theorem rekey_moves_payload (w : World) (hd : Handle) (newSp : JVal) {jd : JobData}
    (hne : hash hd.sp ≠ hash newSp)
    (hsrc : alookup (hash hd.sp) (w.jobs hd.proj) = some jd)
    (hdst : alookup (hash newSp) (w.jobs hd.proj) = none) :
    (rekey hash w hd newSp).2 = .ok ∧
    alookup (hash newSp) ((rekey hash w hd newSp).1.jobs hd.proj) = some { jd with sp := newSp } ∧
    alookup (hash hd.sp) ((rekey hash w hd newSp).1.jobs hd.proj) = none ∧
    (∀ i, i ≠ hash hd.sp → i ≠ hash newSp →
      alookup i ((rekey hash w hd newSp).1.jobs hd.proj) = alookup i (w.jobs hd.proj)) := by
  rw [rekey_moved w hd newSp hne hsrc hdst]
  dsimp only
  rw [jobs_withHandles, jobs_setJobs_same]
  exact ⟨rfl, alookup_moved_new (Ne.symm hne) hdst _, alookup_moved_old (Ne.symm hne) _ _,
    fun i h1 h2 => alookup_moved_other h1 h2 _ _⟩

theorem followers_spec (g : Nat) (newSp : JVal) (hs : List (String × Handle)) :
    ∀ n hd, (n, hd) ∈ followers g newSp hs →
      ∃ hd0, (n, hd0) ∈ hs ∧ hd.proj = hd0.proj ∧ hd.grp = hd0.grp ∧
        (if hd0.grp = g then hd.sp = newSp else hd.sp = hd0.sp) := by
  intro n hd h
  fun_induction followers g newSp hs with
  | case1 => cases h
  | case2 n0 h0 r ih =>
    rcases List.mem_cons.mp h with h | h
    · cases h
      refine ⟨h0, List.mem_cons_self, ?_⟩
      by_cases hg : h0.grp = g
      · rw [if_pos hg, if_pos hg]; exact ⟨rfl, rfl, rfl⟩
      · rw [if_neg hg, if_neg hg]; exact ⟨rfl, rfl, rfl⟩
    · obtain ⟨hd0, hm, hrest⟩ := ih h
      exact ⟨hd0, List.mem_cons_of_mem _ hm, hrest⟩

/-- After a successful re-key every handle of the group carries the new state point
    (hence the new id), handles of other groups are unchanged. -/
theorem rekey_handles_follow (w : World) (hd : Handle) (newSp : JVal)
    (hne : hash hd.sp ≠ hash newSp) (hok : (rekey hash w hd newSp).2 = .ok) :
    ∀ n h', (n, h') ∈ (rekey hash w hd newSp).1.handles →
      ∃ h0, (n, h0) ∈ w.handles ∧ h'.proj = h0.proj ∧ h'.grp = h0.grp ∧
        (if h0.grp = hd.grp then h'.sp = newSp else h'.sp = h0.sp) := by
  have hs : (rekey hash w hd newSp).1.handles = followers hd.grp newSp w.handles := by
    revert hok
    exact rekey_cases (motive := fun r => r.2 = .ok → r.1.handles = _) w hd newSp
      (fun he => absurd he hne) (fun _ _ _ => rfl) (fun _ hok => nomatch hok) (fun _ _ _ _ _ => rfl)
  rw [hs]
  exact followers_spec hd.grp newSp w.handles

/-- A re-key that fails leaves the handles as they were, too. -/
theorem rekey_fail_identity (w : World) (hd : Handle) (newSp : JVal)
    (hfail : (rekey hash w hd newSp).2 ≠ .ok) : (rekey hash w hd newSp).1 = w := by
  revert hfail
  exact rekey_cases (motive := fun r => r.2 ≠ .ok → r.1 = w) w hd newSp (fun _ _ => rfl)
    (fun _ _ h => absurd rfl h) (fun _ _ => rfl) (fun _ _ _ _ h => absurd rfl h)

/-- `move` to another project: same id there, gone here, payload identical. -/
theorem move_keeps_id (w : World) (hn : String) (hd : Handle) (p : Nat) {jd : JobData}
    (hh : alookup hn w.handles = some hd) (hpq : (hd.proj = 0) ≠ (p = 0))
    (hsrc : alookup (hash hd.sp) (w.jobs hd.proj) = some jd)
    (hdst : alookup (hash hd.sp) (w.jobs p) = none) :
    (step hash w (.move hn p)).2 = .ok ∧
    alookup (hash hd.sp) ((step hash w (.move hn p)).1.jobs p) = some jd ∧
    alookup (hash hd.sp) ((step hash w (.move hn p)).1.jobs hd.proj) = none := by
  have hne : hd.proj ≠ p := fun e => hpq (e ▸ rfl)
  dsimp only [step]
  rw [hh]
  dsimp only
  rw [hsrc]
  dsimp only
  rw [if_neg hne, hdst]
  refine ⟨rfl, ?_, ?_⟩
  · show alookup (hash hd.sp) (World.jobs (World.setJobs _ p _) p) = some jd
    rw [jobs_setJobs_same, jobs_setJobs_other _ _ hpq, alookup_append_new, hdst]
    exact if_pos rfl
  · show alookup (hash hd.sp) (World.jobs (World.setJobs _ p _) hd.proj) = none
    rw [jobs_setJobs_other _ _ (Ne.symm hpq), jobs_setJobs_same, alookup_aerase_self]

/-- `clone` into another project: an identical copy there, the source project unchanged. -/
theorem clone_independent (w : World) (hn h2 : String) (hd : Handle) (p : Nat) {jd : JobData}
    (hh : alookup hn w.handles = some hd) (hpq : (hd.proj = 0) ≠ (p = 0))
    (hsrc : alookup (hash hd.sp) (w.jobs hd.proj) = some jd)
    (hdst : alookup (hash hd.sp) (w.jobs p) = none) :
    (step hash w (.clone hn p h2)).2 = .ok ∧
    alookup (hash hd.sp) ((step hash w (.clone hn p h2)).1.jobs p) = some jd ∧
    (step hash w (.clone hn p h2)).1.jobs hd.proj = w.jobs hd.proj := by
  dsimp only [step]
  rw [hh]
  dsimp only
  rw [hsrc]
  dsimp only
  rw [hdst]
  refine ⟨rfl, ?_, ?_⟩
  · show alookup (hash hd.sp) (World.jobs (World.setJobs _ p (w.jobs p ++ _)) p) = some jd
    rw [jobs_setJobs_same, alookup_append_new, hdst]
    exact if_pos rfl
  · show World.jobs (World.setJobs _ p _) hd.proj = w.jobs hd.proj
    rw [jobs_setJobs_other _ _ (Ne.symm hpq)]
    rfl

theorem clone_dest_exists (w : World) (hn h2 : String) (hd : Handle) (p : Nat) {jd : JobData}
    (hh : alookup hn w.handles = some hd)
    (hsrc : alookup (hash hd.sp) (w.jobs hd.proj) = some jd)
    (hdst : (alookup (hash hd.sp) (w.jobs p)).isSome = true) :
    (step hash w (.clone hn p h2)).2 = .destExists ∧
    (step hash w (.clone hn p h2)).1.p0 = w.p0 ∧ (step hash w (.clone hn p h2)).1.p1 = w.p1 := by
  dsimp only [step]
  rw [hh]
  dsimp only
  rw [hsrc]
  dsimp only
  rw [if_pos hdst]
  exact ⟨rfl, rfl, rfl⟩

/-- the operations that only create, copy or drop handles, touch the cache or plant a foreign
    directory -/
def Op.isHandleOrCacheOp : Op → Bool
  | .openSp .. => true
  | .openId .. => true
  | .ucache _ => true
  | .rmcache _ => true
  | .session _ => true
  | .copy .. => true
  | .deepcopy .. => true
  | .pickle .. => true
  | .drop _ => true
  | .plant .. => true
  | _ => false

theorem handle_ops_keep_jobs (w : World) (op : Op) (h : op.isHandleOrCacheOp = true) :
    (step hash w op).1.p0 = w.p0 ∧ (step hash w op).1.p1 = w.p1 := by
  cases op <;> first | exact Bool.noConfusion h | dsimp only [step]
  case openId hn p pre cached =>
    split
    · split <;> exact ⟨rfl, rfl⟩
    · exact ⟨rfl, rfl⟩
    · split
      · split <;> exact ⟨rfl, rfl⟩
      · exact ⟨rfl, rfl⟩
  case pickle hn h2 =>
    cases alookup hn w.handles with
    | none => exact ⟨rfl, rfl⟩
    | some hd => dsimp only; split <;> exact ⟨rfl, rfl⟩
  case plant p name => split <;> exact ⟨rfl, rfl⟩
  case copy hn h2 => cases alookup hn w.handles <;> exact ⟨rfl, rfl⟩
  case deepcopy hn h2 => cases alookup hn w.handles <;> exact ⟨rfl, rfl⟩
  all_goals exact ⟨rfl, rfl⟩

end
end Signac.Ws
