/-
  Proofs/ConcFs — the file-system layer of the C12 model: lookup laws of `set` / `del`,
  the file-system invariant `FsInv`, what a step of one actor guarantees to the others (`Guar`),
  and the result of each primitive by case (`exec_*`).
-/
import Signac.Concurrency
namespace Signac.Conc
variable {SP DV : Type}

theorem get_del (fs : FS SP DV) (p q : Path) :
    (fs.del p).get q = if p = q then none else fs.get q := by
  induction fs with
  | nil => simp [FS.del, FS.get]
  | cons e r ih =>
    obtain ⟨q', n⟩ := e
    simp only [FS.del, List.filter] at ih ⊢
    by_cases h : q' = p
    · subst h
      simp only [ne_eq, not_true_eq_false, decide_false, FS.get]
      rw [ih]
      by_cases h2 : q' = q <;> simp [h2]
    · simp only [ne_eq, h, not_false_eq_true, decide_true, FS.get]
      rw [ih]
      by_cases h2 : q' = q
      · subst h2
        have : ¬ p = q' := fun e => h e.symm
        simp [this]
      · simp [h2]

theorem get_set (fs : FS SP DV) (p : Path) (n : Node SP DV) (q : Path) :
    (fs.set p n).get q = if p = q then some n else fs.get q := by
  simp only [FS.set, FS.get]
  by_cases h : p = q
  · simp [h]
  · simp [h, get_del]

theorem get_set_self (fs : FS SP DV) (p : Path) (n : Node SP DV) : (fs.set p n).get p = some n := by
  rw [get_set, if_pos rfl]

def IsDir (fs : FS SP DV) (p : Path) : Prop := fs.get p = some .dir
def IsFile (fs : FS SP DV) (p : Path) : Prop := ∃ c, fs.get p = some (.file c)

/-- complete content of the right kind for job `i` -/
def GoodC (hash : SP → JobId) (i : JobId) : Kind → Content SP DV → Prop
  | .sp, .spc v => hash v = i
  | .doc, .docc _ => True
  | _, _ => False

theorem GoodC.sp_inv {hash : SP → JobId} {i : JobId} {c : Content SP DV} (h : GoodC hash i .sp c) :
    ∃ v, c = .spc v ∧ hash v = i := by
  cases c with
  | spc v => exact ⟨v, rfl, h⟩
  | _ => exact h.elim

theorem GoodC.doc_inv {hash : SP → JobId} {i : JobId} {c : Content SP DV} (h : GoodC hash i .doc c) :
    ∃ d, c = .docc d := by
  cases c with
  | docc d => exact ⟨d, rfl⟩
  | _ => exact h.elim

theorem goodC_not_torn {hash : SP → JobId} {i : JobId} {k : Kind} {c : Content SP DV}
    (h : GoodC hash i k c) : c ≠ .torn := by
  intro e; subst e; cases k <;> exact h

/-- what may sit at a path: directories at directory paths; a *complete* state point that hashes
    to the directory name / a *complete* JSON object at the published file names; an empty-or-complete
    payload in temp files -/
def NodeOk (hash : SP → JobId) : Path → Node SP DV → Prop
  | .ws, n => n = .dir
  | .jobdir _, n => n = .dir
  | .file i k, n => ∃ c, n = .file c ∧ GoodC hash i k c
  | .tmp i k _, n => ∃ c, n = .file c ∧ (c = .torn ∨ GoodC hash i k c)

/-- Shape of every reachable file system: every entry is `NodeOk`, and nothing exists without
    its parent directory. -/
structure FsInv (hash : SP → JobId) (fs : FS SP DV) : Prop where
  ok : ∀ p n, fs.get p = some n → NodeOk hash p n
  par : ∀ p n, fs.get p = some n → parentOk fs p = true

/-- What a step of actor `a` guarantees to everybody else: directories stay, published files
    stay files, nobody else's temp file is touched. -/
structure Guar (a : Nat) (fs fs' : FS SP DV) : Prop where
  dirs : ∀ p, IsDir fs p → IsDir fs' p
  files : ∀ i k, IsFile fs (.file i k) → IsFile fs' (.file i k)
  tmps : ∀ i k b, b ≠ a → fs'.get (.tmp i k b) = fs.get (.tmp i k b)

theorem Guar.refl (a : Nat) (fs : FS SP DV) : Guar a fs fs :=
  ⟨fun _ h => h, fun _ _ h => h, fun _ _ _ _ => rfl⟩

theorem Guar.trans {a : Nat} {f1 f2 f3 : FS SP DV} (h1 : Guar a f1 f2) (h2 : Guar a f2 f3) :
    Guar a f1 f3 :=
  ⟨fun p h => h2.dirs p (h1.dirs p h), fun i k h => h2.files i k (h1.files i k h),
   fun i k b hb => (h2.tmps i k b hb).trans (h1.tmps i k b hb)⟩

theorem parentOk_iff (fs : FS SP DV) (p : Path) :
    parentOk fs p = true ↔ ∀ q, p.parent = some q → IsDir fs q := by
  unfold parentOk IsDir
  cases hp : p.parent with
  | none => simp
  | some q =>
    simp only [Option.some.injEq, forall_eq']
    cases hq : fs.get q with
    | none => simp
    | some n => cases n <;> simp

variable {hash : SP → JobId}

theorem FsInv.fileT {fs : FS SP DV} (h : FsInv hash fs) {i : JobId} {k : Kind} {n : Node SP DV}
    (hg : fs.get (.file i k) = some n) : ∃ c, n = .file c ∧ GoodC hash i k c := h.ok _ _ hg

theorem FsInv.tmpT {fs : FS SP DV} (h : FsInv hash fs) {i : JobId} {k : Kind} {a : Nat} {n : Node SP DV}
    (hg : fs.get (.tmp i k a) = some n) : ∃ c, n = .file c ∧ (c = .torn ∨ GoodC hash i k c) :=
  h.ok _ _ hg

theorem fsinv_nil : FsInv hash ([] : FS SP DV) :=
  ⟨fun _ _ h => by simp [FS.get] at h, fun _ _ h => by simp [FS.get] at h⟩

theorem dirs_set {fs : FS SP DV} (h : FsInv hash fs) {p : Path} {n : Node SP DV}
    (hn : NodeOk hash p n) : ∀ q, IsDir fs q → IsDir (fs.set p n) q := by
  intro q hq
  unfold IsDir at *
  rw [get_set]
  split
  · next e =>
    subst e
    have := h.ok _ _ hq
    cases p <;> first | exact congrArg some hn | (obtain ⟨_, e, _⟩ := this; cases e)
  · exact hq

theorem dirs_del_tmp {fs : FS SP DV} (h : FsInv hash fs) (i : JobId) (k : Kind) (a : Nat) :
    ∀ q, IsDir fs q → IsDir (fs.del (.tmp i k a)) q := by
  intro q hq
  unfold IsDir at *
  rw [get_del]
  split
  · next e => subst e; obtain ⟨_, e, _⟩ := h.tmpT hq; cases e
  · exact hq

theorem fsinv_keep {fs fs' : FS SP DV} (h : FsInv hash fs) (hd : ∀ q, IsDir fs q → IsDir fs' q)
    (hn : ∀ q n, fs'.get q = some n → fs.get q = some n ∨ NodeOk hash q n ∧ parentOk fs q = true) :
    FsInv hash fs' :=
  ⟨fun q n hq => (hn q n hq).elim (h.ok q n) And.left,
   fun q n hq => (parentOk_iff fs' q).2 fun r hr =>
     hd r ((parentOk_iff fs q).1 ((hn q n hq).elim (h.par q n) And.right) r hr)⟩

theorem fsinv_set {fs : FS SP DV} (h : FsInv hash fs) {p : Path} {n : Node SP DV}
    (hn : NodeOk hash p n) (hp : parentOk fs p = true) : FsInv hash (fs.set p n) := by
  refine fsinv_keep h (dirs_set h hn) fun q m hq => ?_
  rw [get_set] at hq
  split at hq
  · next e => subst e; cases hq; exact .inr ⟨hn, hp⟩
  · exact .inl hq

theorem fsinv_del_tmp {fs : FS SP DV} (h : FsInv hash fs) (i : JobId) (k : Kind) (a : Nat) :
    FsInv hash (fs.del (.tmp i k a)) := by
  refine fsinv_keep h (dirs_del_tmp h i k a) fun q m hq => ?_
  rw [get_del] at hq
  split at hq
  · cases hq
  · exact .inl hq

theorem guar_set {fs : FS SP DV} (h : FsInv hash fs) {p : Path} {n : Node SP DV} (a : Nat)
    (hn : NodeOk hash p n) (hp : ∀ i k b, p = .tmp i k b → b = a) : Guar a fs (fs.set p n) := by
  refine ⟨dirs_set h hn, fun i k ⟨c, hc⟩ => ?_, fun i k b hb => ?_⟩
  · unfold IsFile
    rw [get_set]
    split
    · next e => subst e; obtain ⟨c', rfl, _⟩ := hn; exact ⟨c', rfl⟩
    · exact ⟨c, hc⟩
  · rw [get_set, if_neg fun e => hb (hp i k b e)]

theorem guar_del_tmp {fs : FS SP DV} (h : FsInv hash fs) (i : JobId) (k : Kind) (a : Nat) :
    Guar a fs (fs.del (.tmp i k a)) := by
  refine ⟨dirs_del_tmp h i k a, fun j k' hf => ?_, fun j k' b hb => ?_⟩
  · unfold IsFile; rw [get_del, if_neg fun e => nomatch e]; exact hf
  · rw [get_del, if_neg fun e => hb (by cases e; rfl)]

theorem dir_node {fs : FS SP DV} (hfs : FsInv hash fs) {p : Path} {n : Node SP DV}
    (hp : ∀ m : Node SP DV, NodeOk hash p m → m = .dir) (h : fs.get p = some n) : IsDir fs p := by
  cases hp n (hfs.ok _ _ h); exact h

theorem tmp_not_dir {fs : FS SP DV} (hfs : FsInv hash fs) (i : JobId) (k : Kind) (a : Nat) :
    ¬ IsDir fs (.tmp i k a) := fun h => by obtain ⟨_, e, _⟩ := hfs.tmpT h; cases e

theorem file_not_dir {fs : FS SP DV} (hfs : FsInv hash fs) (i : JobId) (k : Kind) :
    ¬ IsDir fs (.file i k) := fun h => by obtain ⟨_, e, _⟩ := hfs.fileT h; cases e

theorem parent_dir {fs : FS SP DV} (hfs : FsInv hash fs) {p q : Path} {n : Node SP DV}
    (h : fs.get p = some n) (hq : p.parent = some q) : IsDir fs q :=
  (parentOk_iff fs p).1 (hfs.par _ _ h) q hq

theorem parentOk_of_dir {fs : FS SP DV} {p q : Path} (hq : p.parent = some q) (h : IsDir fs q) :
    parentOk fs p = true :=
  (parentOk_iff fs p).2 fun _ e => Option.some.inj (hq.symm.trans e) ▸ h


section
variable {fs : FS SP DV} {p : Path}

theorem exec_isdir_T (h : IsDir fs p) : exec fs (.isdir p) = (fs, .bool true) := by
  simp only [exec]; unfold IsDir at h; rw [h]
theorem exec_isdir_F (h : ¬ IsDir fs p) : exec fs (.isdir p) = (fs, .bool false) := by
  simp only [exec]; unfold IsDir at h; split <;> simp_all
theorem exec_isfile_T (h : IsFile fs p) : exec fs (.isfile p) = (fs, .bool true) := by
  obtain ⟨c, hc⟩ := h; simp only [exec, hc]
theorem exec_isfile_F (h : ¬ IsFile fs p) : exec fs (.isfile p) = (fs, .bool false) := by
  simp only [exec]; unfold IsFile at h; split <;> simp_all
theorem exec_exists_T {n : Node SP DV} (h : fs.get p = some n) :
    exec fs (.pexists p) = (fs, .bool true) := by simp only [exec, h]
theorem exec_read_file {c : Content SP DV} (h : fs.get p = some (.file c)) :
    exec fs (.read p) = (fs, .data c) := by simp only [exec, h]
theorem exec_read_none (h : fs.get p = none) : exec fs (.read p) = (fs, .err .enoent) := by simp only [exec, h]
theorem exec_read_data {c : Content SP DV} (h : (exec fs (.read p)).2 = .data c) : fs.get p = some (.file c) := by
  simp only [exec] at h; split at h <;> cases h; assumption
theorem exec_mkdir_some {n : Node SP DV} (h : fs.get p = some n) :
    exec fs (.mkdir p) = (fs, .err .eexist) := by simp only [exec, h]
theorem exec_mkdir_none (h : fs.get p = none) (hp : parentOk fs p = true) :
    exec fs (.mkdir p) = (fs.set p .dir, .ok) := by simp only [exec, h, hp, if_true]
theorem exec_openw (h : ¬ IsDir fs p) (hp : parentOk fs p = true) :
    exec fs (.openw p) = (fs.set p (.file .torn), .ok) := by
  simp only [exec]; unfold IsDir at h; split <;> simp_all
theorem exec_write {c : Content SP DV} (h : IsFile fs p) :
    exec fs (.write p c) = (fs.set p (.file c), .ok) := by
  obtain ⟨c', hc⟩ := h; simp only [exec, hc]
theorem exec_close : exec fs (.close p) = (fs, .ok) := rfl
theorem exec_rename {q : Path} {c : Content SP DV} (h : fs.get p = some (.file c))
    (hq : ¬ IsDir fs q) (hp : parentOk fs q = true) :
    exec fs (.rename p q) = ((fs.del p).set q (.file c), .ok) := by
  simp only [exec, h]; unfold IsDir at hq; split <;> simp_all
theorem exec_listdir (h : IsDir fs p) : exec fs (.listdir p) = (fs, .names fs.jobs) := by
  simp only [exec]; unfold IsDir at h; rw [h]
end

theorem exec_save_rename {fs : FS SP DV} (hfs : FsInv hash fs) {i : JobId} {k : Kind} {a : Nat}
    {c : Content SP DV} (hc : fs.get (.tmp i k a) = some (.file c)) :
    exec fs (.rename (.tmp i k a) (.file i k)) = ((fs.del (.tmp i k a)).set (.file i k) (.file c), .ok) :=
  exec_rename hc (file_not_dir hfs i k) (parentOk_of_dir rfl (parent_dir hfs hc rfl))

end Signac.Conc
