/-
  The live document merge (`Signac/SyncLive.lean`).  On a private file (`runAlone`, which is what a
  quiet environment amounts to: `runQuiet_eq`) the step program computes the pure model
  (`live_quiet`, `liveByKey_quiet`, `liveUpdate_quiet`).  The program writes only below
  top-level keys of the source (`OnlyWrites`), so no step changes another key and what the
  environment does to the other keys survives (`foreign_inv`, `envOnly` under `ForeignLocal`); its
  loop also reads only below those keys (`Resp`), so a run against an environment that leaves them
  alone agrees on them with the private run (`Resp.sim`, `liveDocSync_sim`).  Core only.
-/
import Signac.SyncLive
import Signac.Proofs.SyncIdemFull
namespace Signac.Sync

theorem setKV_setKV (k : String) (a b : JVal) (d : Doc) : setKV k a (setKV k b d) = setKV k a d := by
  induction d with
  | nil => simp [setKV]
  | cons hd tl ih =>
    by_cases h : hd.1 = k
    · simp [setKV, h]
    · simp [setKV, h, ih]

theorem mem_setKV {k : String} {v : JVal} {kv : String × JVal} {d : Doc} (h : kv ∈ setKV k v d) :
    kv = (k, v) ∨ kv ∈ d := by
  induction d with
  | nil => simpa [setKV] using h
  | cons hd tl ih =>
    simp only [setKV] at h
    split at h
    · exact (List.mem_cons.mp h).imp_right (List.mem_cons_of_mem _)
    · rcases List.mem_cons.mp h with h | h
      · exact .inr (h ▸ List.mem_cons_self)
      · exact (ih h).imp_right (List.mem_cons_of_mem _)

theorem NodupKeysObj_setKV {k : String} {v : JVal} (hv : NodupKeysVal v) {d : Doc} (h : NodupKeysObj d) :
    NodupKeysObj (setKV k v d) := by
  induction d with
  | nil => simp [setKV, NodupKeysObj, hv]
  | cons hd tl ih =>
    obtain ⟨k', v'⟩ := hd
    simp only [setKV]
    split
    · exact ⟨‹k' = k› ▸ h.1, hv, h.2.2⟩
    · refine ⟨fun kv hkv => ?_, h.2.1, ih h.2.2⟩
      rcases mem_setKV hkv with e | hm
      · exact e ▸ Ne.symm ‹_›
      · exact h.1 kv hm

theorem getV_cons_some {k : String} {p : List String} {v w : JVal} (h : getV (k :: p) v = some w) :
    ∃ d ch, v = .obj d ∧ lookupKV k d = some ch ∧ getV p ch = some w := by
  cases v with
  | obj d =>
    simp only [getV] at h
    cases hl : lookupKV k d with
    | none => rw [hl] at h; cases h
    | some ch => rw [hl] at h; exact ⟨d, ch, rfl, hl, h⟩
  | _ => cases h

theorem getV_append {p : List String} (q : List String) {v w : JVal} (h : getV p v = some w) :
    getV (p ++ q) v = getV q w := by
  induction p generalizing v with
  | nil => cases h; rfl
  | cons k p ih =>
    obtain ⟨d, ch, rfl, hl, hw⟩ := getV_cons_some h
    simp only [List.cons_append, getV, hl]
    exact ih hw

theorem setV_key (k : String) (x : JVal) (d : Doc) : setV [k] x (.obj d) = .obj (setKV k x d) := by
  simp only [setV]
  cases lookupKV k d <;> rfl

theorem setV_append {p : List String} (q : List String) (x : JVal) {v w : JVal} (h : getV p v = some w) :
    setV (p ++ q) x v = setV p (setV q x w) v := by
  induction p generalizing v with
  | nil => cases h; rfl
  | cons k p ih =>
    obtain ⟨d, ch, rfl, hl, hw⟩ := getV_cons_some h
    simp only [List.cons_append, setV, hl, ih hw]

theorem getV_setV {p : List String} (x : JVal) {v w : JVal} (h : getV p v = some w) :
    getV p (setV p x v) = some x := by
  induction p generalizing v with
  | nil => rfl
  | cons k p ih =>
    obtain ⟨d, ch, rfl, hl, hw⟩ := getV_cons_some h
    simp only [setV, hl, getV, lookupKV_setKV_same]
    exact ih hw

theorem setV_setV {p : List String} (x y : JVal) {v w : JVal} (h : getV p v = some w) :
    setV p y (setV p x v) = setV p y v := by
  induction p generalizing v with
  | nil => rfl
  | cons k p ih =>
    obtain ⟨d, ch, rfl, hl, hw⟩ := getV_cons_some h
    simp only [setV, hl, lookupKV_setKV_same, setKV_setKV, ih hw]

theorem setV_self {p : List String} {v w : JVal} (h : getV p v = some w) : setV p w v = v := by
  induction p generalizing v with
  | nil => cases h; rfl
  | cons k p ih =>
    obtain ⟨d, ch, rfl, hl, hw⟩ := getV_cons_some h
    simp only [setV, hl, ih hw, setKV_self hl]

theorem obj_setPath {path : List String} {f dd : Doc} (h : getPath path f = some (.obj dd)) (a : Doc) :
    JVal.obj (setPath path (.obj a) f) = setV path (.obj a) (.obj f) := by
  cases path with
  | nil => rfl
  | cons k p =>
    obtain ⟨d, ch, e, hl, -⟩ := getV_cons_some h
    cases e
    simp only [setPath, setV, hl]

/-- the mapping at `path` is `dd`: then `key in dst` / `dst[key]` of that view is a plain lookup -/
theorem getPath_snoc {path : List String} {f dd : Doc} (h : getPath path f = some (.obj dd)) (k : String) :
    getPath (path ++ [k]) f = lookupKV k dd := by
  simp only [getPath, getV_append [k] h, getV]
  cases lookupKV k dd <;> rfl

/-- a store at `path ++ [k]` is `view[k] = x` on the view at `path` -/
theorem setPath_snoc {path : List String} {f dd : Doc} (h : getPath path f = some (.obj dd)) (k : String)
    (x : JVal) : setPath (path ++ [k]) x f = setPath path (.obj (setKV k x dd)) f := by
  simp only [setPath, setV_append [k] x h, setV_key]

theorem getPath_setPath {path : List String} {f dd : Doc} (h : getPath path f = some (.obj dd)) (dd' : Doc) :
    getPath path (setPath path (.obj dd') f) = some (.obj dd') := by
  rw [getPath, obj_setPath h]
  exact getV_setV _ h

theorem setPath_setPath {path : List String} {f dd : Doc} (h : getPath path f = some (.obj dd)) (a b : Doc) :
    setPath path (.obj b) (setPath path (.obj a) f) = setPath path (.obj b) f :=
  JVal.obj.inj <| by rw [obj_setPath (getPath_setPath h a), obj_setPath h, obj_setPath h, setV_setV _ _ h]

theorem setPath_self {path : List String} {f dd : Doc} (h : getPath path f = some (.obj dd)) :
    setPath path (.obj dd) f = f :=
  JVal.obj.inj <| by rw [obj_setPath h, setV_self h]

theorem setPath_nil (d' d : Doc) : setPath [] (.obj d') d = d' := rfl

theorem setPath_key (k : String) (v : JVal) (d : Doc) : setPath [k] v d = setKV k v d := by
  simp only [setPath, setV_key]

/-- the program run on a private file -/
def runAlone : LProg → Doc → Doc × LRes
  | .done r, f => (f, r)
  | .load k, f => runAlone (k f) f
  | .store p v k, f => runAlone k (setPath p v f)

theorem runLiveFrom_quiet (p : LProg) : ∀ (n : Nat) (f : Doc),
    (runLiveFrom (fun _ => id) p n f).file = (runAlone p f).1 ∧
    (runLiveFrom (fun _ => id) p n f).res = (runAlone p f).2 := by
  induction p with
  | done r => exact fun _ _ => ⟨rfl, rfl⟩
  | load k ih => exact fun n f => ih f (n + 1) f
  | store p v k ih => exact fun n f => ih (n + 1) (setPath p v f)

theorem runQuiet_eq (p : LProg) (f : Doc) :
    (runQuiet p f).file = (runAlone p f).1 ∧ (runQuiet p f).res = (runAlone p f).2 :=
  runLiveFrom_quiet p 0 f

/-- `prog`, started on the file `f` whose mapping at `path` the pure merge turns into `r.dst`,
    ends with a type error exactly when the pure merge does, and otherwise goes on with `K` on
    the file with `r.dst` at `path`.  The first conjunct is the invariant the loop needs of the
    mapping it goes on with. -/
def QSpec (path : List String) (K : LRes → LProg) (f : Doc) (r : ByKeySt) (prog : LProg) : Prop :=
  NodupKeysObj r.dst ∧
  runAlone prog f =
    if r.typeErr then (setPath path (.obj r.dst) f, ⟨r.skipped, r.wrote, true⟩)
    else runAlone (K ⟨r.skipped, r.wrote, false⟩) (setPath path (.obj r.dst) f)

theorem QSpec.same {path : List String} {K : LRes → LProg} {f dd : Doc} {sk : List String} {wr : Bool}
    {prog : LProg} (hdd : NodupKeysObj dd) (hp : getPath path f = some (.obj dd))
    (he : runAlone prog f = runAlone (K ⟨sk, wr, false⟩) f) : QSpec path K f ⟨dd, sk, wr, false⟩ prog :=
  ⟨hdd, by simp only [he, Bool.false_eq_true, if_false, setPath_self hp]⟩

theorem QSpec.shift {path : List String} {K : LRes → LProg} {f dd a : Doc} {r : ByKeySt} {prog prog' : LProg}
    (hp : getPath path f = some (.obj dd))
    (h : QSpec path K (setPath path (.obj a) f) r prog')
    (he : runAlone prog f = runAlone prog' (setPath path (.obj a) f)) : QSpec path K f r prog :=
  ⟨h.1, by rw [he, h.2, setPath_setPath hp]⟩

theorem liveLeaf_sel (ks : Option (String → Bool)) (root : String) (path : List String) (k : String) (v : JVal)
    (st : LRes) (K : LRes → LProg) :
    liveLeaf ks root path k v st K =
      if keySelected ks (root ++ k) then .store (path ++ [k]) v (K { st with wrote := true })
      else K { st with skipped := st.skipped ++ [root ++ k] } := by
  cases ks <;> rfl

theorem liveValue_leaf (ks : Option (String → Bool)) (root : String) (path : List String) (k : String) {v : JVal}
    (hl : IsLeaf v) (st : LRes) (K : LRes → LProg) :
    liveValue ks root path k v st K = liveLeaf ks root path k v st K := by
  cases v <;> first | exact hl.elim | rfl

theorem liveLeaf_quiet (ks : Option (String → Bool)) (root : String) (path : List String) (k : String)
    (v w : JVal) (hl : IsLeaf v) (hv : NodupKeysVal v) (sk : List String) (wr : Bool) (K : LRes → LProg)
    (f dd : Doc) (hdd : NodupKeysObj dd) (hp : getPath path f = some (.obj dd)) :
    QSpec path K f (byKeyValue ks root k v w ⟨dd, sk, wr, false⟩) (liveLeaf ks root path k v ⟨sk, wr, false⟩ K) := by
  rw [byKeyValue_leaf_sel ks root k v w hl, liveLeaf_sel]
  cases keySelected ks (root ++ k) with
  | false => exact .same hdd hp rfl
  | true => exact ⟨NodupKeysObj_setKV hv hdd, by simp only [if_true, runAlone, setPath_snoc hp]; rfl⟩


theorem liveValue_quiet_plain (ks : Option (String → Bool)) (root : String) (path : List String) (k : String)
    (sv : List (String × JVal)) (w : JVal) (hw : IsLeaf w) (sk : List String) (wr : Bool) (K : LRes → LProg)
    (f dd : Doc) (hdd : NodupKeysObj dd) (hp : getPath path f = some (.obj dd))
    (hg : getPath (path ++ [k]) f = some w) :
    QSpec path K f (byKeyValue ks root k (.obj sv) w ⟨dd, sk, wr, false⟩)
      (liveValue ks root path k (.obj sv) ⟨sk, wr, false⟩ K) := by
  have e : runAlone (liveValue ks root path k (.obj sv) ⟨sk, wr, false⟩ K) f =
      match sv with
      | [] => runAlone (K ⟨sk, wr, false⟩) f
      | _ :: _ => (f, ⟨sk, wr, true⟩) := by
    simp only [liveValue, runAlone, hg]
    cases w <;> first | exact hw.elim | (cases sv <;> rfl)
  rw [byKeyValue_of_obj_leaf ks root k sv w hw]
  cases sv with
  | nil => exact .same hdd hp e
  | cons a tl => exact ⟨hdd, by simp only [e, if_true, setPath_self hp]⟩

theorem runAlone_liveItems_cons (ks : Option (String → Bool)) (root : String) {path : List String} {f dd : Doc}
    (hp : getPath path f = some (.obj dd)) (k : String) (v : JVal) (tl : List (String × JVal)) (st : LRes)
    (K : LRes → LProg) :
    runAlone (liveItems ks root path ((k, v) :: tl) st K) f =
      match lookupKV k dd with
      | none => runAlone (liveItems ks root path tl { st with wrote := true } K)
          (setPath path (.obj (setKV k v dd)) f)
      | some w =>
        if pyEq w v then runAlone (liveItems ks root path tl st K) f
        else runAlone (liveValue ks root path k v st (fun st' => liveItems ks root path tl st' K)) f := by
  cases hl : lookupKV k dd with
  | none => simp only [liveItems, runAlone, getPath_snoc hp, hl, setPath_snoc hp]
  | some w =>
    simp only [liveItems, runAlone, getPath_snoc hp, hl]
    cases pyEq w v <;> rfl

/-- on a private file the loop over the items and the step for one key (source value `v`,
    destination value `w`) run like the pure merge, then go on with `K` -/
theorem live_quiet (ks : Option (String → Bool)) :
    (∀ items (root : String) (path : List String) (K : LRes → LProg), NodupKeysObj items →
      ∀ (sk : List String) (wr : Bool) (f dd : Doc), NodupKeysObj dd → getPath path f = some (.obj dd) →
      QSpec path K f (byKeyItems ks root items ⟨dd, sk, wr, false⟩)
        (liveItems ks root path items ⟨sk, wr, false⟩ K)) ∧
    (∀ v w (root : String) (path : List String) (k : String), NodupKeysVal v →
      ∀ (sk : List String) (wr : Bool) (K : LRes → LProg) (f dd : Doc),
      NodupKeysObj dd → getPath path f = some (.obj dd) → lookupKV k dd = some w → pyEq w v = false →
      QSpec path K f (byKeyValue ks root k v w ⟨dd, sk, wr, false⟩)
        (liveValue ks root path k v ⟨sk, wr, false⟩ K)) := by
  refine conf_induction ?nil ?cons ?leaf ?obj_leaf ?obj_obj
  case nil => exact fun _ _ _ _ sk wr f dd hdd hp => .same hdd hp rfl
  case cons =>
    intro k v tl ihv ihtl root path K hn sk wr f dd hdd hp
    replace ihtl := ihtl root path K hn.2.2
    have hrun := runAlone_liveItems_cons ks root hp k v tl ⟨sk, wr, false⟩ K
    simp only [byKeyItems, Bool.false_eq_true, if_false]
    cases hl : lookupKV k dd with
    | none =>
      -- `key in dst` fails: the store, then the rest of the loop on the new file
      rw [hl] at hrun
      exact .shift hp (ihtl sk true _ _ (NodupKeysObj_setKV hn.2.1 hdd) (getPath_setPath hp _)) hrun
    | some w =>
      dsimp only
      cases he : pyEq w v with
      | true =>
        simp only [hl, he, if_true] at hrun ⊢
        have h := ihtl sk wr f dd hdd hp
        exact ⟨h.1, hrun ▸ h.2⟩
      | false =>
        simp only [hl, he, Bool.false_eq_true, if_false] at hrun ⊢
        have hv := ihv w root path k hn.2.1 sk wr
          (fun st' => liveItems ks root path tl st' K) f dd hdd hp hl he
        generalize byKeyValue ks root k v w ⟨dd, sk, wr, false⟩ = rv at hv ⊢
        obtain ⟨dv, skv, wrv, te⟩ := rv
        cases te with
        | true =>
          rw [byKeyItems_typeErr_mono ks root tl _ rfl]
          exact ⟨hv.1, by rw [hrun, hv.2]; rfl⟩
        | false =>
          refine .shift hp (ihtl skv wrv _ dv hv.1 (getPath_setPath hp _)) ?_
          rw [hrun, hv.2]
          rfl
  case leaf =>
    intro v w hl root path k hv sk wr K f dd hdd hp _ _
    rw [liveValue_leaf ks root path k hl]
    exact liveLeaf_quiet ks root path k v w hl hv sk wr K f dd hdd hp
  case obj_leaf =>
    intro sv w hw root path k _ sk wr K f dd hdd hp hl _
    exact liveValue_quiet_plain ks root path k sv w hw sk wr K f dd hdd hp (by rw [getPath_snoc hp, hl])
  case obj_obj =>
    intro sv dw ih root path k hv sk wr K f dd hdd hp hl he
    have hw : NodupKeysVal (.obj dw) := NodupKeysObj_lookup hdd hl
    have hg : getPath (path ++ [k]) f = some (.obj dw) := by rw [getPath_snoc hp, hl]
    -- `src == dst` of the nested call is false as well, and the nested loop runs on the child
    have hne : pyEq (.obj sv) (.obj dw) = false := by
      cases h : pyEq (.obj sv) (.obj dw) with
      | false => rfl
      | true => rw [pyEq_symm hv hw h] at he; cases he
    have h := ih (root ++ k ++ ".") (path ++ [k]) K hv sk wr f dw hw hg
    refine ⟨NodupKeysObj_setKV (v := .obj _) h.1 hdd, ?_⟩
    simp only [byKeyValue, liveValue, runAlone, hg, eqAt, hne, Bool.false_eq_true, if_false]
    rw [h.2, setPath_snoc hp]
    rfl

theorem liveValue_quiet (ks : Option (String → Bool)) :
    (root : String) → (path : List String) → (k : String) → (v : JVal) → NodupKeysVal v →
    ∀ (w : JVal) (sk : List String) (wr : Bool) (K : LRes → LProg) (f dd : Doc),
    NodupKeysObj dd → getPath path f = some (.obj dd) → lookupKV k dd = some w → pyEq w v = false →
    QSpec path K f (byKeyValue ks root k v w ⟨dd, sk, wr, false⟩)
      (liveValue ks root path k v ⟨sk, wr, false⟩ K) :=
  fun root path k v hv w => (live_quiet ks).2 v w root path k hv


/-- every source entry has an `==` entry in the destination (seen from the destination's side) -/
def AllEq (items d : Doc) : Prop := ∀ kv ∈ items, ∃ w, lookupKV kv.1 d = some w ∧ pyEq w kv.2 = true

theorem byKeyItems_all_eq (ks : Option (String → Bool)) (root : String) (items dd : Doc) (sk : List String)
    (wr : Bool) (h : AllEq items dd) : byKeyItems ks root items ⟨dd, sk, wr, false⟩ = ⟨dd, sk, wr, false⟩ := by
  induction items with
  | nil => rfl
  | cons hd tl ih =>
    obtain ⟨w, hw, he⟩ := h hd List.mem_cons_self
    simp only [byKeyItems, Bool.false_eq_true, if_false, hw, he, if_true]
    exact ih fun kv hkv => h kv (List.mem_cons_of_mem _ hkv)

theorem allEq_of_pyEq {s d x : Doc} (hs : NodupKeysObj s) (hd : NodupKeysObj d)
    (hx : ∀ k ∈ keys s, lookupKV k x = lookupKV k d) (h : pyEq (.obj s) (.obj x) = true) : AllEq s d := by
  simp only [pyEq, Bool.and_eq_true] at h
  intro kv hkv
  obtain ⟨w, hw, he⟩ := pyEqEntries_iff.mp h.2 kv hkv
  rw [hx kv.1 (List.mem_map.mpr ⟨kv, hkv, rfl⟩)] at hw
  exact ⟨w, hw, pyEq_symm (NodupKeysObj_mem hs kv hkv) (NodupKeysObj_lookup hd hw) he⟩

theorem liveUpdateItems_quiet (items : Doc) : ∀ (st : LRes) (d : Doc),
    runAlone (liveUpdateItems items st) d =
      (updateItems items d, ⟨st.skipped, st.wrote || !items.isEmpty, st.typeErr⟩) := by
  induction items with
  | nil => intro st d; simp [liveUpdateItems, runAlone, updateItems]
  | cons hd tl ih =>
    intro st d
    simp only [liveUpdateItems, runAlone, updateItems, setPath_key, ih]
    simp

/-- `DocSync.update` on a private file = the pure model -/
theorem liveUpdate_quiet (s d : Doc) :
    runAlone (liveUpdate s) d = (updateItems s d, ⟨[], !s.isEmpty, false⟩) := by
  simp [liveUpdate, liveUpdateItems_quiet]

/-- without a second process the snapshot variant (`mergeSnapshot`: merge in memory, write the whole
    document back) is the pure model as well -/
theorem mergeSnapshot_quiet_byKey (ks : Option (String → Bool)) (s d : Doc) :
    runAlone (mergeSnapshot (.byKey ks) s) d =
      ((byKeyItems ks "" s ⟨d, [], false, false⟩).dst,
       ⟨(byKeyItems ks "" s ⟨d, [], false, false⟩).skipped,
        (byKeyItems ks "" s ⟨d, [], false, false⟩).wrote,
        (byKeyItems ks "" s ⟨d, [], false, false⟩).typeErr⟩) := rfl

theorem mergeSnapshot_quiet_update (s d : Doc) :
    runAlone (mergeSnapshot .update s) d = (updateItems s d, ⟨[], !s.isEmpty, false⟩) := rfl


/-! ### what the merge reads and writes: only below top-level keys of the source -/

def AgreeOn (S : List String) (f g : Doc) : Prop := ∀ k ∈ S, lookupKV k f = lookupKV k g

theorem AgreeOn.refl (S : List String) (f : Doc) : AgreeOn S f f := fun _ _ => rfl

/-- every store of the program is at a path below a top-level key of `S` -/
inductive OnlyWrites (S : List String) : LProg → Prop
  | done (r : LRes) : OnlyWrites S (.done r)
  | load (k : Doc → LProg) : (∀ f, OnlyWrites S (k f)) → OnlyWrites S (.load k)
  | store (k0 : String) (p : List String) (v : JVal) (K : LProg) :
      k0 ∈ S → OnlyWrites S K → OnlyWrites S (.store (k0 :: p) v K)

/-- every store of the program is below a top-level key of `S`, and what the program does after a
    load depends only on what the file holds under the keys of `S` -/
inductive Resp (S : List String) : LProg → Prop
  | done (r : LRes) : Resp S (.done r)
  | load (k : Doc → LProg) : (∀ f, Resp S (k f)) → (∀ f g, AgreeOn S f g → k f = k g) → Resp S (.load k)
  | store (k0 : String) (p : List String) (v : JVal) (K : LProg) :
      k0 ∈ S → Resp S K → Resp S (.store (k0 :: p) v K)

theorem Resp.onlyWrites {S : List String} {P : LProg} (h : Resp S P) : OnlyWrites S P := by
  induction h with
  | done r => exact .done r
  | load k _ _ ih => exact .load k ih
  | store k0 p v K hk _ ih => exact .store k0 p v K hk ih

theorem lookupKV_setPath_other {j k0 : String} (h : j ≠ k0) (p : List String) (v : JVal) (f : Doc) :
    lookupKV j (setPath (k0 :: p) v f) = lookupKV j f := by
  simp only [setPath, setV]
  cases lookupKV k0 f with
  | some ch => exact lookupKV_setKV_other h _ _
  | none =>
    cases p with
    | nil => exact lookupKV_setKV_other h _ _
    | cons _ _ => rfl

theorem lookupKV_setPath_same {k0 : String} {f g : Doc} (h : lookupKV k0 f = lookupKV k0 g) (p : List String)
    (v : JVal) : lookupKV k0 (setPath (k0 :: p) v f) = lookupKV k0 (setPath (k0 :: p) v g) := by
  simp only [setPath, setV, ← h]
  cases hl : lookupKV k0 f with
  | some ch => simp only [lookupKV_setKV_same]
  | none =>
    cases p with
    | nil => simp only [lookupKV_setKV_same]
    | cons _ _ => simp only [hl, h ▸ hl]

theorem AgreeOn.setPath {S : List String} {f g : Doc} (h : AgreeOn S f g) (k0 : String) (p : List String)
    (v : JVal) : AgreeOn S (setPath (k0 :: p) v f) (setPath (k0 :: p) v g) := by
  intro j hj
  by_cases e : j = k0
  · subst e; exact lookupKV_setPath_same (h j hj) p v
  · rw [lookupKV_setPath_other e, lookupKV_setPath_other e]; exact h j hj

/-- A program that reads and writes only below `S`, run against an environment that leaves the
    keys of `S` alone, reports what it reports on a private copy and leaves the same values under
    the keys of `S`. -/
theorem Resp.sim {S : List String} {env : Nat → Doc → Doc} (henv : ∀ n x, AgreeOn S (env n x) x)
    {P : LProg} (hP : Resp S P) : ∀ (n : Nat) (f q : Doc), AgreeOn S f q →
    (runLiveFrom env P n f).res = (runAlone P q).2 ∧
    AgreeOn S (runLiveFrom env P n f).file (runAlone P q).1 := by
  induction hP with
  | done r => intro n f q h; exact ⟨rfl, h⟩
  | load k _ hag ih =>
    intro n f q h
    have h1 : AgreeOn S (env n f) q := fun j hj => (henv n f j hj).trans (h j hj)
    simp only [runLiveFrom, runAlone]
    rw [hag _ _ h1]
    exact ih q (n + 1) (env n f) q h1
  | store k0 p v K _ _ ih =>
    intro n f q h
    have h1 : AgreeOn S (env n f) q := fun j hj => (henv n f j hj).trans (h j hj)
    simp only [runLiveFrom, runAlone]
    exact ih (n + 1) _ _ (h1.setPath k0 p v)

/-- No step of the program changes a key outside `S` — whatever the environment does. -/
theorem OnlyWrites.trace {S : List String} {P : LProg} (hP : OnlyWrites S P) (env : Nat → Doc → Doc) :
    ∀ (n : Nat) (f : Doc), ∀ ba ∈ traceFrom env P n f, ∀ j, j ∉ S → lookupKV j ba.2 = lookupKV j ba.1 := by
  induction hP with
  | done r => intro n f ba h; simp [traceFrom] at h
  | load k _ ih =>
    intro n f ba h j hj
    simp only [traceFrom, List.mem_cons] at h
    rcases h with h | h
    · subst h; rfl
    · exact ih _ _ _ ba h j hj
  | store k0 p v K hk0 _ ih =>
    intro n f ba h j hj
    simp only [traceFrom, List.mem_cons] at h
    rcases h with h | h
    · subst h
      exact lookupKV_setPath_other (fun e => hj (by rw [e]; exact hk0)) p v _
    · exact ih _ _ ba h j hj

/-- Any step-indexed property of the part of the file outside `S` that the environment's rewrites
    maintain is maintained by the whole run. -/
theorem OnlyWrites.foreign_inv {S : List String} {P : LProg} (hP : OnlyWrites S P) (env : Nat → Doc → Doc)
    (I : Nat → Doc → Prop)
    (hI : ∀ n x y, (∀ j, j ∉ S → lookupKV j x = lookupKV j y) → I n x → I n y)
    (henv : ∀ n x, I n x → I (n + 1) (env n x)) :
    ∀ (n : Nat) (f : Doc), I n f → I (runLiveFrom env P n f).steps (runLiveFrom env P n f).file := by
  induction hP with
  | done r => intro n f h; exact h
  | load k _ ih => intro n f h; exact ih _ _ _ (henv n f h)
  | store k0 p v K hk0 _ ih =>
    intro n f h
    refine ih _ _ (hI _ (env n f) _ (fun j hj => ?_) (henv n f h))
    exact (lookupKV_setPath_other (fun e => hj (by rw [e]; exact hk0)) p v _).symm

/-- a value the other process writes under a key outside `S` at step `i`, and does not touch
    afterwards, is in the file at the end of every run that gets as far as step `i` -/
theorem OnlyWrites.write_survives {S : List String} {P : LProg} (hP : OnlyWrites S P) (env : Nat → Doc → Doc)
    (j : String) (hj : j ∉ S) (i : Nat) (c : Option JVal)
    (hw : ∀ x, lookupKV j (env i x) = c)
    (hkeep : ∀ n x, i < n → lookupKV j (env n x) = lookupKV j x)
    (f : Doc) (hlong : i < (runLive env P f).steps) : lookupKV j (runLive env P f).file = c := by
  have h := hP.foreign_inv env (fun n x => n ≤ i ∨ lookupKV j x = c)
    (fun n x y hxy hx => hx.imp id (fun e => (hxy j hj) ▸ e))
    (fun n x hx => by
      rcases Nat.lt_trichotomy n i with h | h | h
      · exact Or.inl h
      · subst h; exact Or.inr (hw x)
      · rcases hx with hx | hx
        · omega
        · exact Or.inr ((hkeep n x h).trans hx))
    0 f (Or.inl (Nat.zero_le _))
  rcases h with h | h
  · exact absurd hlong (by simpa [runLive] using Nat.not_lt.mpr h)
  · exact h

theorem envOnly_zero (env : Nat → Doc → Doc) (f : Doc) : envOnly env 0 f = f := rfl

theorem envOnly_succ (env : Nat → Doc → Doc) (n : Nat) (f : Doc) :
    envOnly env (n + 1) f = env n (envOnly env n f) := by
  simp [envOnly, List.range_succ]

/-- what a rewrite makes of the keys outside `S` depends only on the keys outside `S` -/
def ForeignLocal (S : List String) (env : Nat → Doc → Doc) : Prop :=
  ∀ n x y, (∀ j, j ∉ S → lookupKV j x = lookupKV j y) → ∀ j, j ∉ S → lookupKV j (env n x) = lookupKV j (env n y)

theorem OnlyWrites.envOnly {S : List String} {P : LProg} (hP : OnlyWrites S P) (env : Nat → Doc → Doc)
    (hloc : ForeignLocal S env) (f : Doc) : ∀ j, j ∉ S →
    lookupKV j (runLive env P f).file = lookupKV j (envOnly env (runLive env P f).steps f) := by
  refine hP.foreign_inv env (fun n x => ∀ j, j ∉ S → lookupKV j x = lookupKV j (Sync.envOnly env n f))
    ?_ ?_ 0 f (fun _ _ => rfl)
  · intro n x y hxy hx j hj
    rw [← hxy j hj]; exact hx j hj
  · intro n x hx j hj
    rw [envOnly_succ]
    exact hloc n x _ hx j hj

theorem runLiveFrom_file_trace (env : Nat → Doc → Doc) (P : LProg) : ∀ (n : Nat) (f : Doc),
    (runLiveFrom env P n f).file = (((traceFrom env P n f).getLast?).map Prod.snd).getD f := by
  induction P with
  | done r => intro n f; rfl
  | load k ih =>
    intro n f
    simp only [runLiveFrom, traceFrom, ih]
    cases traceFrom env (k (env n f)) (n + 1) (env n f) with
    | nil => rfl
    | cons a l => rw [List.getLast?_eq_some_getLast (List.cons_ne_nil a l)]; rfl
  | store p v k ih =>
    intro n f
    simp only [runLiveFrom, traceFrom, ih]
    cases traceFrom env k (n + 1) (setPath p v (env n f)) with
    | nil => rfl
    | cons a l => rw [List.getLast?_eq_some_getLast (List.cons_ne_nil a l)]; rfl

/-! #### the merge programs are such programs -/

/-- the first key of the dotted path `path ++ [k]` is in `S` -/
def HeadIn (S : List String) (path : List String) (k : String) : Prop :=
  ∃ k0 rest, path ++ [k] = k0 :: rest ∧ k0 ∈ S

theorem HeadIn.snoc {S : List String} {path : List String} {k : String} (h : HeadIn S path k) (k' : String) :
    HeadIn S (path ++ [k]) k' := by
  obtain ⟨k0, rest, e, hk0⟩ := h
  exact ⟨k0, rest ++ [k'], by rw [e]; rfl, hk0⟩

theorem HeadIn.top {S : List String} {k : String} (h : k ∈ S) : HeadIn S [] k := ⟨k, [], rfl, h⟩

theorem HeadIn.agree {S : List String} {path : List String} {k : String} (h : HeadIn S path k) {f g : Doc}
    (hfg : AgreeOn S f g) : getPath (path ++ [k]) f = getPath (path ++ [k]) g := by
  obtain ⟨k0, rest, e, hk0⟩ := h
  simp only [e, getPath, getV, hfg k0 hk0]

theorem Resp.store_snoc {S : List String} {path : List String} {k : String} (h : HeadIn S path k) (v : JVal)
    {K : LProg} (hK : Resp S K) : Resp S (.store (path ++ [k]) v K) := by
  obtain ⟨k0, rest, e, hk0⟩ := h
  rw [e]
  exact .store k0 rest v K hk0 hK

theorem liveLeaf_resp (ks : Option (String → Bool)) (S : List String) (root : String) (path : List String)
    (k : String) (v : JVal) (hh : HeadIn S path k) (st : LRes) (K : LRes → LProg)
    (hK : ∀ st', Resp S (K st')) : Resp S (liveLeaf ks root path k v st K) := by
  rw [liveLeaf_sel]
  split
  · exact Resp.store_snoc hh v (hK _)
  · exact hK _

/-- the step for one key with source value `v` reads and writes only below `S` if what follows it does -/
def LiveValueResp (ks : Option (String → Bool)) (S : List String) (v : JVal) : Prop :=
  ∀ (root : String) (path : List String) (k : String), HeadIn S path k →
  ∀ (st : LRes) (K : LRes → LProg), (∀ st', Resp S (K st')) → Resp S (liveValue ks root path k v st K)

theorem liveItems_resp_of (ks : Option (String → Bool)) (S : List String) (root : String) (path : List String)
    (K : LRes → LProg) (hK : ∀ st', Resp S (K st')) (items : List (String × JVal)) :
    (∀ kv ∈ items, LiveValueResp ks S kv.2) → (∀ kv ∈ items, HeadIn S path kv.1) →
    ∀ (st : LRes), Resp S (liveItems ks root path items st K) := by
  induction items with
  | nil => exact fun _ _ st => hK st
  | cons hd tl ihtl =>
    obtain ⟨k, v⟩ := hd
    intro ih h st
    have hh : HeadIn S path k := h (k, v) List.mem_cons_self
    replace ihtl := ihtl (fun kv hkv => ih kv (List.mem_cons_of_mem _ hkv))
      (fun kv hkv => h kv (List.mem_cons_of_mem _ hkv))
    simp only [liveItems]
    refine Resp.load _ (fun f1 => ?_) (fun f g hfg => by simp only [hh.agree hfg])
    split
    · exact Resp.store_snoc hh v (ihtl _)
    · refine Resp.load _ (fun f2 => ?_) (fun f g hfg => by simp only [hh.agree hfg])
      split
      · exact Resp.done _
      · split
        · exact ihtl _
        · exact ih (k, v) List.mem_cons_self root path k hh st _ ihtl

theorem liveValue_resp (ks : Option (String → Bool)) (S : List String) :
    (root : String) → (path : List String) → (k : String) → (v : JVal) → HeadIn S path k →
    ∀ (st : LRes) (K : LRes → LProg), (∀ st', Resp S (K st')) →
    Resp S (liveValue ks root path k v st K) := by
  intro root path k v
  induction v using JVal.rec_mem generalizing root path k with
  | obj sv ih =>
    intro hh st K hK
    simp only [liveValue]
    refine Resp.load _ (fun f3 => ?_) (fun f g hfg => by simp only [hh.agree hfg])
    split
    · refine Resp.load _ (fun f4 => ?_) (fun f g hfg => by
        rw [show eqAt sv (path ++ [k]) f = eqAt sv (path ++ [k]) g by simp only [eqAt, hh.agree hfg]])
      split
      · exact hK _
      · exact liveItems_resp_of ks S (root ++ k ++ ".") (path ++ [k]) K hK sv
          (fun kv hkv r p k' => ih kv hkv r p k') (fun kv _ => hh.snoc kv.1) st
    · split
      · exact hK _
      · exact Resp.done _
    · exact Resp.done _
  | _ => exact fun hh st K hK => liveLeaf_resp ks S root path k _ hh st K hK

/-- the loop of the top-level call -/
def byKeyLoop (ks : Option (String → Bool)) (s : Doc) : LProg :=
  liveItems ks "" [] s ⟨[], false, false⟩ .done

theorem liveByKey_eq (ks : Option (String → Bool)) (s : Doc) :
    liveByKey ks s =
      .load fun f => if pyEq (.obj s) (.obj f) then .done ⟨[], false, false⟩ else byKeyLoop ks s := rfl

theorem byKeyLoop_resp (ks : Option (String → Bool)) (s : Doc) : Resp (keys s) (byKeyLoop ks s) :=
  liveItems_resp_of ks (keys s) "" [] .done (fun _ => Resp.done _) s
    (fun kv _ r p k => liveValue_resp ks _ r p k kv.2)
    (fun kv hkv => HeadIn.top (List.mem_map.mpr ⟨kv, hkv, rfl⟩)) _

theorem liveByKey_onlyWrites (ks : Option (String → Bool)) (s : Doc) : OnlyWrites (keys s) (liveByKey ks s) := by
  rw [liveByKey_eq]
  refine .load _ fun f => ?_
  split
  · exact .done _
  · exact (byKeyLoop_resp ks s).onlyWrites

/-- the `src == dst` shortcut of the top-level call, taken on any file `x` that holds under the
    source's keys what `d` holds, returns what the loop would on `d` -/
theorem byKeyLoop_shortcut (ks : Option (String → Bool)) {s d x : Doc} (hs : NodupKeysObj s) (hd : NodupKeysObj d)
    (hx : AgreeOn (keys s) x d) (h : pyEq (.obj s) (.obj x) = true) :
    runAlone (byKeyLoop ks s) d = (d, ⟨[], false, false⟩) := by
  rw [byKeyLoop, ((live_quiet ks).1 s "" [] .done hs [] false d d hd rfl).2,
    byKeyItems_all_eq ks "" s d [] false (allEq_of_pyEq hs hd hx h)]
  rfl

theorem runAlone_liveByKey (ks : Option (String → Bool)) {s d : Doc} (hs : NodupKeysObj s) (hd : NodupKeysObj d) :
    runAlone (liveByKey ks s) d = runAlone (byKeyLoop ks s) d := by
  simp only [liveByKey_eq, runAlone]
  split
  · exact (byKeyLoop_shortcut ks hs hd (AgreeOn.refl _ d) ‹_›).symm
  · rfl

/-- `DocSync.ByKey(ks)` on a private file = the pure model, type errors included -/
theorem liveByKey_quiet (ks : Option (String → Bool)) (s d : Doc) (hs : NodupKeysObj s) (hd : NodupKeysObj d) :
    runAlone (liveByKey ks s) d =
      ((byKeyItems ks "" s ⟨d, [], false, false⟩).dst,
       ⟨(byKeyItems ks "" s ⟨d, [], false, false⟩).skipped,
        (byKeyItems ks "" s ⟨d, [], false, false⟩).wrote,
        (byKeyItems ks "" s ⟨d, [], false, false⟩).typeErr⟩) := by
  rw [runAlone_liveByKey ks hs hd, byKeyLoop, ((live_quiet ks).1 s "" [] .done hs [] false d d hd rfl).2]
  cases (byKeyItems ks "" s ⟨d, [], false, false⟩).typeErr <;> rfl

/-- `DocSync.ByKey` against an environment that leaves the source's top-level keys alone: same
    report as on a private copy, same values under the source's keys.  The `src == dst` shortcut
    of the top-level call looks at the LENGTH of the destination, so `liveByKey` is not `Resp` and
    the two runs need not take the same branch there; they agree all the same. -/
theorem liveByKey_sim (ks : Option (String → Bool)) (s d : Doc) (hs : NodupKeysObj s) (hd : NodupKeysObj d)
    (env : Nat → Doc → Doc) (henv : ∀ n x, AgreeOn (keys s) (env n x) x) :
    (runLive env (liveByKey ks s) d).res = (runAlone (liveByKey ks s) d).2 ∧
    AgreeOn (keys s) (runLive env (liveByKey ks s) d).file (runAlone (liveByKey ks s) d).1 := by
  have h0 : AgreeOn (keys s) (env 0 d) d := henv 0 d
  rw [runAlone_liveByKey ks hs hd]
  simp only [liveByKey_eq, runLive, runLiveFrom]
  split
  · rw [byKeyLoop_shortcut ks hs hd h0 ‹_›]
    exact ⟨rfl, h0⟩
  · exact (byKeyLoop_resp ks s).sim henv 1 (env 0 d) d h0

theorem liveUpdateItems_resp (S : List String) (items : Doc) (h : ∀ kv ∈ items, kv.1 ∈ S) :
    ∀ st : LRes, Resp S (liveUpdateItems items st) := by
  induction items with
  | nil => exact .done
  | cons hd tl ih =>
    exact fun _ => .store hd.1 [] hd.2 _ (h hd List.mem_cons_self) (ih (fun kv hkv => h kv (List.mem_cons_of_mem _ hkv)) _)

theorem liveUpdate_resp (s : Doc) : Resp (keys s) (liveUpdate s) :=
  liveUpdateItems_resp (keys s) s (fun kv hkv => List.mem_map.mpr ⟨kv, hkv, rfl⟩) _

theorem liveDocSync_onlyWrites (ds : DocSync) (s : Doc) : OnlyWrites (keys s) (liveDocSync ds s) := by
  cases ds with
  | byKey ks => exact liveByKey_onlyWrites ks s
  | update => exact (liveUpdate_resp s).onlyWrites
  | noSync => exact .done _
  | copy => exact .done _

theorem liveDocSync_sim (ds : DocSync) (s d : Doc) (hs : NodupKeysObj s) (hd : NodupKeysObj d)
    (env : Nat → Doc → Doc) (henv : ∀ n x, AgreeOn (keys s) (env n x) x) :
    (runLive env (liveDocSync ds s) d).res = (runAlone (liveDocSync ds s) d).2 ∧
    AgreeOn (keys s) (runLive env (liveDocSync ds s) d).file (runAlone (liveDocSync ds s) d).1 := by
  cases ds with
  | byKey ks => exact liveByKey_sim ks s d hs hd env henv
  | update => exact (liveUpdate_resp s).sim henv 0 d d (AgreeOn.refl _ d)
  | noSync => exact ⟨rfl, AgreeOn.refl _ d⟩
  | copy => exact ⟨rfl, AgreeOn.refl _ d⟩

end Signac.Sync
