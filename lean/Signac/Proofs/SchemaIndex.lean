/-
  The typed index of one key (`Index.add`, `buildFrom`): which slot keys exist (`Index.keys`), that they
  are pairwise in different slots (`Index.Distinct`), how many ids they hold (`Index.total`), and when
  the index is "constant" (`AllInSlot`, `ConstSpec`).  Core only.
-/
import Signac.Proofs.SchemaAssoc
namespace Signac.Schema
open Signac

def Index.keys (idx : Index) : List IKey := idx.map Prod.fst

/-- number of ids filed in an index -/
def Index.total : Index → Nat
  | [] => 0
  | (_, ids) :: rest => ids.length + Index.total rest

/-- stored keys are pairwise in different slots (earlier key compared with later key) -/
def Index.Distinct (idx : Index) : Prop := idx.keys.Pairwise (fun a b => IKey.same a b = false)

theorem Index.add_cons (k : IKey) (id : String) (r : IKey) (ids : List String) (rest : Index) :
    Index.add k id ((r, ids) :: rest) =
      if IKey.same r k then (r, ids ++ [id]) :: rest else (r, ids) :: Index.add k id rest := rfl

/-- `index[k].add(id)` opens a new slot, at the end, exactly if no stored key equals `k` -/
theorem Index.add_keys (k : IKey) (id : String) (idx : Index) :
    (Index.add k id idx).keys =
      if idx.keys.any (IKey.same · k) then idx.keys else idx.keys ++ [k] := by
  induction idx with
  | nil => rfl
  | cons hd tl ih =>
    obtain ⟨r, ids⟩ := hd
    rw [Index.add_cons]
    unfold Index.keys at ih ⊢
    rw [List.map_cons, List.any_cons]
    cases IKey.same r k with
    | true => rfl
    | false =>
      rw [if_neg Bool.false_ne_true, List.map_cons, ih, Bool.false_or]
      split <;> rfl

theorem Index.add_keys_old {k : IKey} {id : String} {idx : Index} {r : IKey}
    (h : r ∈ idx.keys) : r ∈ (Index.add k id idx).keys := by
  rw [Index.add_keys]
  split
  · exact h
  · exact List.mem_append_left _ h

theorem Index.add_keys_new {k : IKey} {id : String} {idx : Index} {r : IKey}
    (h : r ∈ (Index.add k id idx).keys) : r ∈ idx.keys ∨ r = k := by
  rw [Index.add_keys] at h
  split at h
  · exact Or.inl h
  · exact (List.mem_append.mp h).imp_right List.mem_singleton.mp

theorem Index.add_has (k : IKey) (id : String) (idx : Index) :
    ∃ r ∈ (Index.add k id idx).keys, r = k ∨ IKey.same r k = true := by
  rw [Index.add_keys]
  split
  · next h =>
    obtain ⟨r, hr, hs⟩ := List.any_eq_true.mp h
    exact ⟨r, hr, Or.inr hs⟩
  · exact ⟨k, List.mem_append_right _ List.mem_cons_self, Or.inl rfl⟩

theorem Index.add_distinct {k : IKey} {id : String} {idx : Index} (h : idx.Distinct) :
    (Index.add k id idx).Distinct := by
  unfold Index.Distinct at h ⊢
  rw [Index.add_keys]
  split
  · exact h
  · next hn => exact pairwise_append_new h hn

theorem Index.add_length_ge (k : IKey) (id : String) (idx : Index) :
    idx.length ≤ (Index.add k id idx).length := by
  induction idx with
  | nil => exact Nat.zero_le _
  | cons hd tl ih =>
    obtain ⟨r, ids⟩ := hd
    rw [Index.add_cons]
    split
    · exact Nat.le_refl _
    · exact Nat.succ_le_succ ih

theorem Index.add_total (k : IKey) (id : String) (idx : Index) :
    (Index.add k id idx).total = idx.total + 1 := by
  induction idx with
  | nil => rfl
  | cons hd tl ih =>
    obtain ⟨r, ids⟩ := hd
    rw [Index.add_cons]
    cases IKey.same r k with
    | true => rw [if_pos rfl, total, total, List.length_append, List.length_singleton]; omega
    | false => rw [if_neg Bool.false_ne_true, total, total, ih]; omega

theorem stepIndex_some {nodes : List String} {j : Job} {v : JVal}
    (h : getPath nodes (.obj j.sp) = some v) (idx : Index) :
    stepIndex nodes idx j = Index.add (keyOf v) j.id idx := by
  rw [stepIndex, h]

theorem stepIndex_none {nodes : List String} {j : Job} (h : getPath nodes (.obj j.sp) = none)
    (idx : Index) : stepIndex nodes idx j = idx := by
  rw [stepIndex, h]

theorem buildFrom_preserves {nodes : List String} {P : Index → Prop}
    (step : ∀ idx j, P idx → P (stepIndex nodes idx j)) {jobs : List Job} :
    ∀ {idx : Index}, P idx → P (buildFrom nodes idx jobs) := by
  induction jobs with
  | nil => exact fun h => h
  | cons j js ih => exact fun h => ih (step _ j h)

theorem stepIndex_preserves {nodes : List String} {P : Index → Prop}
    (add : ∀ k id idx, P idx → P (Index.add k id idx)) (idx : Index) (j : Job) (h : P idx) :
    P (stepIndex nodes idx j) := by
  cases hv : getPath nodes (.obj j.sp) with
  | none => rw [stepIndex_none hv]; exact h
  | some v => rw [stepIndex_some hv]; exact add _ _ _ h

theorem buildFrom_keys_old {nodes : List String} {jobs : List Job} {idx : Index} {r : IKey}
    (h : r ∈ idx.keys) : r ∈ (buildFrom nodes idx jobs).keys :=
  buildFrom_preserves (P := fun idx => r ∈ idx.keys)
    (stepIndex_preserves fun _ _ _ => Index.add_keys_old) h

theorem buildFrom_distinct {nodes : List String} {jobs : List Job} {idx : Index}
    (h : idx.Distinct) : (buildFrom nodes idx jobs).Distinct :=
  buildFrom_preserves (stepIndex_preserves fun _ _ _ => Index.add_distinct) h

theorem buildFrom_length_ge {nodes : List String} {jobs : List Job} {idx : Index} :
    idx.length ≤ (buildFrom nodes idx jobs).length :=
  buildFrom_preserves (P := fun i => idx.length ≤ i.length)
    (stepIndex_preserves fun k id _ h => Nat.le_trans h (Index.add_length_ge k id _)) (Nat.le_refl _)

/-- soundness: a stored key was there before or is the key of a value some job holds -/
theorem buildFrom_keys_sound {nodes : List String} {jobs : List Job} :
    ∀ {idx : Index} {r : IKey}, r ∈ (buildFrom nodes idx jobs).keys →
      r ∈ idx.keys ∨ ∃ j ∈ jobs, ∃ v, getPath nodes (.obj j.sp) = some v ∧ r = keyOf v := by
  induction jobs with
  | nil => intro idx r h; exact Or.inl h
  | cons j js ih =>
    intro idx r h
    rcases ih h with h | ⟨j', hj', hv⟩
    · cases hv : getPath nodes (.obj j.sp) with
      | none => rw [stepIndex_none hv] at h; exact Or.inl h
      | some v =>
        rw [stepIndex_some hv] at h
        exact (Index.add_keys_new h).imp_right fun h => ⟨j, List.mem_cons_self, v, hv, h⟩
    · exact Or.inr ⟨j', List.mem_cons_of_mem _ hj', hv⟩

/-- completeness: every value a job holds is represented by a stored key of its slot -/
theorem buildFrom_keys_complete {nodes : List String} {jobs : List Job} :
    ∀ {idx : Index} {j : Job} {v : JVal}, j ∈ jobs → getPath nodes (.obj j.sp) = some v →
      ∃ r ∈ (buildFrom nodes idx jobs).keys, r = keyOf v ∨ IKey.same r (keyOf v) = true := by
  induction jobs with
  | nil => intro idx j v hj; cases hj
  | cons j0 js ih =>
    intro idx j v hj hv
    rcases List.mem_cons.mp hj with rfl | hj
    · obtain ⟨r, hr, h⟩ := Index.add_has (keyOf v) j.id idx
      rw [← stepIndex_some hv] at hr
      exact ⟨r, buildFrom_keys_old (jobs := js) hr, h⟩
    · exact ih hj hv

theorem buildFrom_total_le {nodes : List String} {jobs : List Job} :
    ∀ {idx : Index}, (buildFrom nodes idx jobs).total ≤ idx.total + jobs.length := by
  induction jobs with
  | nil => exact Nat.le_refl _
  | cons j js ih =>
    intro idx
    have h := @ih (stepIndex nodes idx j)
    have h2 : (stepIndex nodes idx j).total ≤ idx.total + 1 := by
      cases hv : getPath nodes (.obj j.sp) with
      | none => rw [stepIndex_none hv]; exact Nat.le_succ _
      | some v => rw [stepIndex_some hv, Index.add_total]; exact Nat.le_refl _
    rw [buildFrom, List.length_cons]
    omega

theorem isConstIdx_iff {idx : Index} {n : Nat} :
    isConstIdx idx n = true ↔ ∃ r ids, idx = [(r, ids)] ∧ ids.length = n := by
  unfold isConstIdx
  split
  · next r ids =>
    exact ⟨fun h => ⟨r, ids, rfl, eq_of_beq h⟩, fun ⟨_, _, e, h⟩ => by cases e; exact beq_iff_eq.mpr h⟩
  · next hne => exact ⟨nofun, fun ⟨r, ids, e, _⟩ => absurd e (hne r ids)⟩

/-- too few ids to go round, or a second slot: the index will not be constant -/
theorem buildFrom_not_const {nodes : List String} {idx : Index} {js : List Job} {n : Nat}
    (h : idx.total + js.length < n ∨ 2 ≤ idx.length) :
    isConstIdx (buildFrom nodes idx js) n = false := by
  refine Bool.eq_false_iff.mpr fun hc => ?_
  obtain ⟨r, ids, e, hl⟩ := isConstIdx_iff.mp hc
  have h1 := @buildFrom_total_le nodes js idx
  have h2 := @buildFrom_length_ge nodes js idx
  rw [e] at h1 h2
  rw [Index.total, Index.total, hl] at h1
  rw [List.length_singleton] at h2
  omega

/-- every job of `js` holds a value that lands in the slot of the stored key `r` -/
def AllInSlot (nodes : List String) (r : IKey) (js : List Job) : Prop :=
  ∀ j ∈ js, ∃ v, getPath nodes (.obj j.sp) = some v ∧ IKey.same r (keyOf v) = true

theorem buildFrom_single {nodes : List String} {r : IKey} {js : List Job} :
    ∀ {ids : List String},
      (isConstIdx (buildFrom nodes [(r, ids)] js) (ids.length + js.length) = true
        ↔ AllInSlot nodes r js) := by
  induction js with
  | nil => exact ⟨fun _ _ hj => (nomatch hj), fun _ => beq_self_eq_true _⟩
  | cons j js ih =>
    intro ids
    rw [buildFrom, AllInSlot, List.forall_mem_cons, List.length_cons]
    cases hv : getPath nodes (.obj j.sp) with
    | none =>
      rw [stepIndex_none hv, buildFrom_not_const (idx := [(r, ids)])
        (.inl (by rw [Index.total, Index.total]; omega))]
      exact ⟨nofun, fun h => nomatch h.1⟩
    | some v =>
      rw [stepIndex_some hv, Index.add_cons]
      cases hs : IKey.same r (keyOf v) with
      | true =>
        have := @ih (ids ++ [j.id])
        rw [List.length_append, List.length_singleton, Nat.add_assoc, Nat.add_comm 1] at this
        rw [if_pos rfl, this]
        exact ⟨fun h => ⟨⟨v, rfl, hs⟩, h⟩, fun h => h.2⟩
      | false =>
        rw [if_neg Bool.false_ne_true,
          buildFrom_not_const (idx := (r, ids) :: Index.add (keyOf v) j.id []) (.inr (Nat.le_refl 2))]
        refine ⟨nofun, fun ⟨⟨v', hv', hs'⟩, _⟩ => ?_⟩
        cases hv'
        rw [hs] at hs'
        cases hs'

/-- "constant" as the index sees it: the first job (in index order) holds a value under the key
    and every further job holds a value that lands in that first value's slot -/
def ConstSpec (nodes : List String) : List Job → Prop
  | [] => False
  | j0 :: js => ∃ v0, getPath nodes (.obj j0.sp) = some v0 ∧ AllInSlot nodes (keyOf v0) js

theorem buildFrom_const (nodes : List String) (jobs : List Job) :
    isConstIdx (buildFrom nodes [] jobs) jobs.length = true ↔ ConstSpec nodes jobs := by
  cases jobs with
  | nil => exact ⟨nofun, nofun⟩
  | cons j0 js =>
    rw [buildFrom, ConstSpec, List.length_cons]
    cases hv : getPath nodes (.obj j0.sp) with
    | none =>
      rw [stepIndex_none hv, buildFrom_not_const (idx := []) (.inl (by rw [Index.total]; omega))]
      exact ⟨nofun, fun ⟨_, h, _⟩ => nomatch h⟩
    | some v =>
      rw [stepIndex_some hv]
      have := @buildFrom_single nodes (keyOf v) js [j0.id]
      rw [List.length_singleton, Nat.add_comm] at this
      exact this.trans ⟨fun h => ⟨v, rfl, h⟩, fun ⟨_, h, h'⟩ => by cases h; exact h'⟩

end Signac.Schema
