/-
  Ground layer of the sync model: directories as association lists, steps seen from a parent
  directory, and the relation `Ext` between two states of the proxy ("the later one is the earlier
  one after further logged steps, none of them in a dry run") from which both the replay of the
  log and the frame of a dry run are read off at every layer.  Core only.
-/
import Signac.Sync
import Signac.Proofs.SyncFold
namespace Signac.Sync


theorem getE_setE_same (n : Name) (c : Node) (es : Entries) : getE n (setE n c es) = some c := by
  fun_induction setE n c es <;> simp_all [getE]

theorem getE_setE_other {m n : Name} (h : m ≠ n) (c : Node) (es : Entries) :
    getE m (setE n c es) = getE m es := by
  fun_induction setE n c es <;> simp_all [getE, Ne.symm h]

theorem getE_setE (m n : Name) (c : Node) (es : Entries) :
    getE m (setE n c es) = if m = n then some c else getE m es := by
  split
  · next h => rw [h, getE_setE_same]
  · next h => exact getE_setE_other h c es

theorem setE_getE {n : Name} {c : Node} {es : Entries} (h : getE n es = some c) : setE n c es = es := by
  fun_induction setE n c es <;> simp_all [getE]

theorem setE_setE (n : Name) (c c' : Node) (es : Entries) : setE n c (setE n c' es) = setE n c es := by
  fun_induction setE n c' es <;> simp_all [setE]

theorem getE_delE_same (n : Name) (es : Entries) : getE n (delE n es) = none := by
  fun_induction delE n es <;> simp_all [getE]

theorem getE_delE_other {m n : Name} (h : m ≠ n) (es : Entries) : getE m (delE n es) = getE m es := by
  fun_induction delE n es <;> simp_all [getE, Ne.symm h]

theorem delE_absent {n : Name} {es : Entries} (h : getE n es = none) : delE n es = es := by
  fun_induction delE n es <;> simp_all [getE]

theorem delE_setE_absent {n : Name} {es : Entries} (c : Node) (h : getE n es = none) :
    delE n (setE n c es) = es := by
  fun_induction setE n c es <;> simp_all [getE, delE]

abbrev names (l : Entries) : List Name := l.map Prod.fst

theorem mem_of_getE {n : Name} {l : Entries} {c : Node} (h : getE n l = some c) : (n, c) ∈ l := by
  fun_induction getE n l <;> simp_all

theorem not_mem_names_of_getE {n : Name} {l : Entries} (h : getE n l = none) : n ∉ names l := by
  induction l with
  | nil => exact List.not_mem_nil
  | cons x tl ih =>
    obtain ⟨k, v⟩ := x
    by_cases hk : k = n
    · simp only [getE, hk, if_true] at h; cases h
    · simp only [getE, hk, if_false] at h
      exact List.not_mem_cons_of_ne_of_not_mem (Ne.symm hk) (ih h)

theorem lookupP_congr_head {n : Name} {es es' : Entries} (h : getE n es' = getE n es) (p : Path) :
    lookupP n p es' = lookupP n p es := by
  cases p with
  | nil => exact h
  | cons k q => simp only [lookupP, h]

theorem lookupP_cons_dir {n : Name} {es ch : Entries} (h : getE n es = some (.dir ch)) (k : Name) (q : Path) :
    lookupP n (k :: q) es = lookupP k q ch := by
  simp only [lookupP, h]

theorem lookupP_cons_none {n : Name} {es : Entries} (h : ∀ ch, getE n es ≠ some (.dir ch)) (k : Name) (q : Path) :
    lookupP n (k :: q) es = none := by
  cases hg : getE n es with
  | none => simp only [lookupP, hg]
  | some c =>
    cases c with
    | file m => simp only [lookupP, hg]
    | dir ch => exact absurd hg (h ch)

theorem Node.rec_mem {P : Node → Prop} (file : ∀ m, P (.file m))
    (dir : ∀ es, (∀ x ∈ es, P x.2) → P (.dir es)) (c : Node) : P c :=
  Node.rec (motive_1 := P) (motive_2 := fun es => ∀ x ∈ es, P x.2) (motive_3 := fun x => P x.2)
    file dir (fun _ h => nomatch h) (fun _ _ h t => List.forall_mem_cons.mpr ⟨h, t⟩) (fun _ _ h => h) c

/-! ### steps under a directory -/

theorem apply_under {n : Name} {es ch : Entries} (h : getE n es = some (.dir ch)) (s : Step) :
    Step.apply es (s.under n) = setE n (.dir (Step.apply ch s)) es := by
  cases s <;> simp only [Step.under, Step.apply, putP, delP, h]

theorem applyAll_under (n : Name) (ss : List Step) :
    ∀ (es ch : Entries), getE n es = some (.dir ch) →
      applyAll es (ss.map (Step.under n)) = setE n (.dir (applyAll ch ss)) es := by
  induction ss with
  | nil => intro es ch h; exact (setE_getE h).symm
  | cons s tl ih =>
    intro es ch h
    simp only [applyAll, List.map, List.foldl] at *
    rw [apply_under h s, ih _ _ (getE_setE_same _ _ _), setE_setE]

theorem applyAll_append (es : Entries) (a b : List Step) :
    applyAll es (a ++ b) = applyAll (applyAll es a) b :=
  List.foldl_append

theorem map_inJob (id : Name) (ss : List Step) :
    ss.map (Step.inJob id) = (ss.map (Step.under id)).map (Step.under WS) :=
  (List.map_map).symm

/-! ### the proxy -/

theorem pPut_dry (n : Name) (c : Node) (a : Acc) : pPut true n c a = a := rfl
theorem pDel_dry (n : Name) (a : Acc) : pDel true n a = a := rfl

theorem pPut_d (dry : Bool) (n : Name) (c : Node) (a : Acc) :
    (pPut dry n c a).d = if dry then a.d else setE n c a.d := by
  cases dry <;> rfl

theorem getE_pPut_other {m n : Name} (h : m ≠ n) (dry : Bool) (c : Node) (a : Acc) :
    getE m (pPut dry n c a).d = getE m a.d := by
  cases dry
  · exact getE_setE_other h _ _
  · rfl

theorem getE_pDel_other {m n : Name} (h : m ≠ n) (dry : Bool) (a : Acc) :
    getE m (pDel dry n a).d = getE m a.d := by
  cases dry
  · exact getE_delE_other h _
  · rfl

abbrev Res.acc (r : Res) : Acc := ⟨r.d, r.log⟩
abbrev Acc.res (a : Acc) (e : Option Err) : Res := ⟨a.d, a.log, e⟩


/-- the accumulator's directory is what its log makes of `a0` -/
def Refines (a0 : Entries) (a : Acc) : Prop := applyAll a0 a.log = a.d

theorem refines_mk {a0 d : Entries} {log : List Step} (h : applyAll a0 log = d) : Refines a0 ⟨d, log⟩ := h

/-- `b` is `a` after the further steps `b` has logged; a dry run logs none.  One induction per layer
    then gives both the replay of the log (`Ext.refines`) and the frame of a dry run (`Ext.of_dry`). -/
def Ext (dry : Bool) (a b : Acc) : Prop :=
  ∃ ss, b.log = a.log ++ ss ∧ b.d = applyAll a.d ss ∧ (dry = true → ss = [])

theorem Ext.refl (dry : Bool) (a : Acc) : Ext dry a a :=
  ⟨[], (List.append_nil _).symm, rfl, fun _ => rfl⟩

theorem Ext.trans {dry : Bool} {a b c : Acc} (h1 : Ext dry a b) (h2 : Ext dry b c) : Ext dry a c := by
  obtain ⟨s1, l1, d1, n1⟩ := h1
  obtain ⟨s2, l2, d2, n2⟩ := h2
  exact ⟨s1 ++ s2, by rw [l2, l1, List.append_assoc], by rw [d2, d1, applyAll_append],
    fun h => by rw [n1 h, n2 h]; rfl⟩

theorem Ext.pPut (dry : Bool) (n : Name) (c : Node) (a : Acc) : Ext dry a (pPut dry n c a) := by
  cases dry
  · exact ⟨[.put n [] c], rfl, rfl, fun h => nomatch h⟩
  · exact Ext.refl _ _

theorem Ext.pDel (dry : Bool) (n : Name) (a : Acc) : Ext dry a (pDel dry n a) := by
  cases dry
  · exact ⟨[.del n []], rfl, rfl, fun h => nomatch h⟩
  · exact Ext.refl _ _

/-- what happened inside the directory `n`, seen from its parent -/
theorem Ext.under {dry : Bool} {a r : Acc} {n : Name} {ch : Entries} (h : getE n a.d = some (.dir ch))
    (hr : Ext dry ⟨ch, []⟩ r) : Ext dry a ⟨setE n (.dir r.d) a.d, a.log ++ r.log.map (Step.under n)⟩ := by
  obtain ⟨ss, hl, hd, hn⟩ := hr
  refine ⟨ss.map (Step.under n), by rw [hl]; rfl, ?_, fun h => by rw [hn h]; rfl⟩
  rw [hd]
  exact (applyAll_under n ss a.d ch h).symm

theorem Ext.inJob {dry : Bool} {a r : Acc} {id : Name} {ws djob : Entries} (hw : getE WS a.d = some (.dir ws))
    (hj : getE id ws = some (.dir djob)) (hr : Ext dry ⟨djob, []⟩ r) :
    Ext dry a ⟨setE WS (.dir (setE id (.dir r.d) ws)) a.d, a.log ++ r.log.map (Step.inJob id)⟩ := by
  rw [map_inJob]
  exact Ext.under hw (Ext.under (a := ⟨ws, []⟩) hj hr)

theorem Ext.refines {dry : Bool} {a0 : Entries} {a b : Acc} (h : Ext dry a b) (ha : Refines a0 a) :
    Refines a0 b := by
  obtain ⟨ss, hl, hd, _⟩ := h
  rw [Refines, hl, applyAll_append, ha, hd]

theorem Ext.of_dry {a b : Acc} (h : Ext true a b) : b.d = a.d ∧ b.log = a.log := by
  obtain ⟨ss, hl, hd, hn⟩ := h
  rw [hn rfl] at hl hd
  exact ⟨hd, hl.trans (List.append_nil _)⟩

end Signac.Sync
