/-
  Every history of C08 operations keeps the workspace uncorrupted and the cache invariant.
-/
import Signac.Proofs.CacheUpdate
namespace Signac.Cache
open Signac Signac.Ws

section
variable {hash : JVal → String}

theorem loadValid_fresh (sp : JVal) (p : Nat) : (loadValid hash ⟨.valid sp, p⟩ (hash sp)).isSome = true := by
  rw [loadValid_valid]; rfl

theorem getStatepoint_ws (s : St) (id : String) : (getStatepoint hash s id).1.ws = s.ws :=
  getStatepoint_cases (motive := fun r => r.1.ws = s.ws) s id (fun _ _ => ensureRead_ws s)
    (fun _ _ _ _ => ensureRead_ws s) (fun _ _ _ => ensureRead_ws s) (fun _ _ => ensureRead_ws s)

theorem observeAll_ws (s : St) (ids : List String) : (observeAll hash s ids).ws = s.ws := by
  induction ids generalizing s with
  | nil => exact ensureRead_ws s
  | cons id r ih => rw [observeAll, ih, getStatepoint_ws]

theorem allValid_cstep (s : St) (h : AllValid hash s.ws) (op : COp) : AllValid hash (cstep hash s op).ws := by
  have he : AllValid hash (ensureRead s).ws := (ensureRead_ws s).symm ▸ h
  -- a directory found in the listing validates, so `init` never writes into an existing one
  cases op with
  | init sp =>
    exact initJob_cases (motive := fun r => AllValid hash r.1.ws) s sp false (fun _ _ _ _ => he)
      (fun _ hl hn _ => absurd hn (loadValid_ne_none_of_allValid he hl)) (fun _ hl hn _ _ => absurd hn (loadValid_ne_none_of_allValid he hl))
      (fun _ => allValid_append he (loadValid_fresh sp 0))
  | remove sp => exact allValid_erase he _
  | rekey sp k v =>
    exact rekeyJob_cases (motive := fun r => AllValid hash r.1.ws) s sp k v (fun _ => he)
      (fun d _ => allValid_append (allValid_erase he _) (loadValid_fresh _ d.payload))
  | ucache => exact (updateCache_ws s).symm ▸ h
  | session => exact h
  | rmcache => exact h
  | observe => exact (observeAll_ws s _).symm ▸ h

theorem cacheInv_cstep (s : St) (h : CacheInv hash s) (op : COp) : CacheInv hash (cstep hash s op) := by
  cases op with
  | init sp => exact cacheInv_initJob h sp false
  | remove sp => exact cacheInv_ensureRead h
  | rekey sp k v => exact cacheInv_rekeyJob h sp k v
  | ucache => exact cacheInv_updateCache h
  | session => exact cacheInv_newSession h
  | rmcache => exact cacheInv_rmCache h
  | observe => exact cacheInv_observeAll h _

theorem crun_inv (s : St) (hv : AllValid hash s.ws) (hc : CacheInv hash s) (ops : List COp) :
    AllValid hash (crun hash s ops).ws ∧ CacheInv hash (crun hash s ops) := by
  induction ops generalizing s with
  | nil => exact ⟨hv, hc⟩
  | cons op ops ih => exact ih _ (allValid_cstep s hv op) (cacheInv_cstep s hc op)

theorem empty_inv : AllValid hash St.empty.ws ∧ CacheInv hash St.empty :=
  ⟨fun _ _ hm => (nomatch hm), fun _ _ hm => (nomatch hm), fun _ hc => (nomatch hc)⟩

end
end Signac.Cache
