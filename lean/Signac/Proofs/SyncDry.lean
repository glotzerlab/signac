/-
  A dry run of the sync model reports what the real run from the same state reports: the outcome
  of every layer depends on the destination only through parts that the real run has not written
  when it reads them.  (That a dry run logs no step and changes nothing is `run_dry`.)  The job
  entry point onto a missing job needs one more fact: a fresh job directory cannot make
  `sync_jobs` fail.  Core only.
-/
import Signac.Proofs.SyncProject
namespace Signac.Sync

/-- the same options with `dry_run=True` -/
def Opts.asDry (o : Opts) : Opts := { o with dry := true }

@[simp] theorem asDry_dry (o : Opts) : o.asDry.dry = true := rfl
@[simp] theorem asDry_recursive (o : Opts) : o.asDry.recursive = o.recursive := rfl
@[simp] theorem asDry_docSync (o : Opts) : o.asDry.docSync = o.docSync := rfl
@[simp] theorem asDry_checkSchema (o : Opts) : o.asDry.checkSchema = o.checkSchema := rfl
@[simp] theorem asDry_gate (o : Opts) : o.asDry.gate = o.gate := rfl
@[simp] theorem asDry_deep (o : Opts) : o.asDry.deep = o.deep := rfl
theorem asDry_excluded (o : Opts) (n : Name) : excluded o.asDry n = excluded o n := rfl
theorem asDry_verdict (o : Opts) (p : Path) (a b : FMeta) : verdict o.asDry p a b = verdict o p a b := rfl
theorem asDry_selected (o : Opts) (id : Name) : selected o.asDry id = selected o id := rfl

/-! ### the walk -/

theorem step2_err_dry (o : Opts) (sub : Path) (dst0 : Entries) (x : Name × Node) (a a' : Acc) :
    (step2 o sub dst0 x a).2 = (step2 o.asDry sub dst0 x a').2 := by
  obtain ⟨k, sk⟩ := x
  simp only [step2, phase2]
  cases sk with
  | dir es => rfl
  | file ms =>
    cases getE k dst0 with
    | none => rfl
    | some dn =>
      cases dn with
      | dir es => rfl
      | file md =>
        show (if differs o.deep ms md && !excluded o k then _ else _ : Acc × Option Err).2 =
          (if differs o.deep ms md && !excluded o k then
            match verdict o (sub ++ [k]) ms md with
            | none => (a', some (.fileConflict k))
            | some true => phase2 o.asDry sub dst0 [] (pPut o.asDry.dry k (.file (touch o.asDry.now ms)) a')
            | some false => phase2 o.asDry sub dst0 [] a'
          else phase2 o.asDry sub dst0 [] a' : Acc × Option Err).2
        cases differs o.deep ms md && !excluded o k with
        | false => rfl
        | true =>
          cases verdict o (sub ++ [k]) ms md with
          | none => rfl
          | some b => cases b <;> rfl

theorem err2_dry (o : Opts) (sub : Path) (ses des : Entries) :
    err2 o sub ses des = err2 o.asDry sub ses des := by
  unfold err2
  rw [phase2_eq, phase2_eq]
  exact foldE_err_indep (step2_err_dry o sub des) ses _ _

theorem acc2_get_dir (o : Opts) (sub : Path) (ses des : Entries) (n : Name) (dch : Entries)
    (hnd : (names ses).Nodup) (hd : getE n des = some (.dir dch)) :
    getE n (acc2 o sub ses des).d = some (.dir dch) := by
  rw [acc2_get_of_no_conflict o sub ses des n hnd (by intro ms md hc; simp [Conflict, hd] at hc)]
  rw [phase1_get o des n ses hnd]
  cases getE n ses <;> simp [hd]

theorem subStep_err_congr (o : Opts) (sub : Path) (dst0 : Entries) (x : Name × Node) (s₁ s₂ : Acc)
    (h : getE x.1 s₁.d = getE x.1 s₂.d) : (subStep o sub dst0 x s₁).2 = (subStep o sub dst0 x s₂).2 := by
  unfold subStep
  rw [h]
  split <;> rfl

theorem walkSubs_err_dry_of (o : Opts) (sub : Path) (dst0 l : Entries) (a a' : Acc) (hw : WFEntries l)
    (ih : ∀ x ∈ l, ∀ sub des, WFNode x.2 → (walkDir o sub x.2 des).err = (walkDir o.asDry sub x.2 des).err)
    (hrel : ∀ k x, k ∈ names l → getE k dst0 = some (.dir x) → getE k a.d = getE k a'.d) :
    (walkSubs o sub dst0 l a).err = (walkSubs o.asDry sub dst0 l a').err := by
  rw [walkSubs_eq, walkSubs_eq]
  refine foldE_err_congr (π := fun n s => getE n s.d) (π' := fun n s => getE n s.d)
    (fun k v n s h => subStep_other o sub dst0 k v s h) (fun k v n s h => subStep_other o.asDry sub dst0 k v s h)
    a a' hw.nodup (fun x _ => subStep_err_congr o sub dst0 x) (fun x _ => subStep_err_congr o.asDry sub dst0 x)
    (fun x hx => ?_)
  rcases subStep_cases o sub dst0 x.1 x.2 a with ⟨ses, y, dch, h1, h2, h3, he⟩ | ⟨hc, he⟩
  · have h3' : getE x.1 a'.d = some (.dir dch) := (hrel x.1 y (List.mem_map_of_mem hx) h2) ▸ h3
    rcases subStep_cases o.asDry sub dst0 x.1 x.2 a' with ⟨ses', _, dch', h1', _, h3'', he'⟩ | ⟨hc', _⟩
    · rw [he, he']
      cases h1.symm.trans h1'
      cases h3'.symm.trans h3''
      exact h1 ▸ ih x hx _ dch (hw.mem hx)
    · exact absurd ⟨ses, y, dch, h1, h2, h3'⟩ hc'
  · rcases subStep_cases o.asDry sub dst0 x.1 x.2 a' with ⟨ses', y, dch', h1', h2', h3', _⟩ | ⟨_, he'⟩
    · exact absurd ⟨ses', y, dch', h1', h2', (hrel x.1 y (List.mem_map_of_mem hx) h2') ▸ h3'⟩ hc
    · rw [he, he']

theorem walkDir_err_dry (o : Opts) (sub : Path) : (sn : Node) → (des : Entries) → WFNode sn →
      (walkDir o sub sn des).err = (walkDir o.asDry sub sn des).err := by
  intro sn
  induction sn using Node.rec_mem generalizing sub with
  | file m => intro _ _; rfl
  | dir ses ih =>
    intro des hw
    have hw' : WFEntries ses := by simpa [WFNode] using hw
    rw [walkDir_dir, walkDir_dir, ← err2_dry o sub ses des]
    cases err2 o sub ses des with
    | some e => rfl
    | none =>
      show (if o.recursive then _ else _ : Res).err = (if o.recursive then _ else _ : Res).err
      cases o.recursive with
      | false => rfl
      | true =>
        exact walkSubs_err_dry_of o sub des ses _ _ hw' (fun x hx sub des => ih x hx sub des)
          (fun k x _ hx => by
            rw [acc2_get_dir o sub ses des k x hw'.nodup hx, acc2_get_dir o.asDry sub ses des k x hw'.nodup hx])

theorem walkSubs_err_dry (o : Opts) (sub : Path) (dst0 : Entries) : (l : List (Name × Node)) →
      (a a' : Acc) → WFEntries l →
      (∀ k x, k ∈ names l → getE k dst0 = some (.dir x) → getE k a.d = getE k a'.d) →
      (walkSubs o sub dst0 l a).err = (walkSubs o.asDry sub dst0 l a').err :=
  fun l a a' hw => walkSubs_err_dry_of o sub dst0 l a a' hw (fun x _ sub => walkDir_err_dry o sub x.2)

/-! ### one job -/

/-- the walk leaves an excluded top-level name as a document / a file exactly as it was -/
theorem walk_excluded_top (o : Opts) (sub : Path) (ses des : Entries) (n : Name) (hw : WFEntries ses)
    (hx : excluded o n = true) :
    docOf n (walkDir o sub (.dir ses) des).d = docOf n des ∧
    isFile n (walkDir o sub (.dir ses) des).d = isFile n des := by
  rcases walkDir_get_cases o sub ses des n hw.nodup with h | ⟨sn, _, hd, h⟩ | ⟨_, _, _, _, hx', _⟩ | ⟨_, _, _, hd, h⟩
  · simp only [docOf, isFile, h, and_self]
  · have : leftOnlyNode o n sn = none := by simp [leftOnlyNode, hx]
    simp only [docOf, isFile, h, this, hd, and_self]
  · rw [hx] at hx'; cases hx'
  · simp only [docOf, isFile, h, hd, and_self]

/-- facts about the exclusion tables that hold for Python's `re.match`: the document file name
    and its backup name match the (implicit) document pattern -/
structure DocPatOk (o : Opts) : Prop where
  doc : o.docPat Extracted.FN_JOB_DOCUMENT = true
  bak : o.docPat (Extracted.FN_JOB_DOCUMENT ++ "~") = true

/-- the outcome of `sync_jobs` on two job directories is that of the walk and then that of the
    document merge on the destination's document as it was: the walk does not touch the
    (excluded) document file and its backup -/
theorem syncJobDirs_err (o : Opts) (src dst : Entries) (hw : WFEntries src) (hp : DocPatOk o) :
    (syncJobDirs o src dst).err =
      match (walkDir o [] (.dir src) dst).err with
      | some e => some e
      | none => syncDocErr o.docSync (docOf Extracted.FN_JOB_DOCUMENT src) (docOf Extracted.FN_JOB_DOCUMENT dst)
          (isFile Extracted.FN_JOB_DOCUMENT dst) (isFile (Extracted.FN_JOB_DOCUMENT ++ "~") dst) := by
  unfold syncJobDirs
  dsimp only
  cases (walkDir o [] (.dir src) dst).err with
  | some e => rfl
  | none =>
    dsimp only
    rw [syncDoc_err]
    cases hds : o.docSync with
    | copy => rfl
    | noSync => rfl
    | _ =>
      have hx1 : excluded o Extracted.FN_JOB_DOCUMENT = true := by simp [excluded, hp.doc, hds, DocSync.isCopy]
      have hx2 : excluded o (Extracted.FN_JOB_DOCUMENT ++ "~") = true := by
        simp [excluded, hp.bak, hds, DocSync.isCopy]
      rw [(walk_excluded_top o [] src dst _ hw hx1).1, (walk_excluded_top o [] src dst _ hw hx1).2,
        (walk_excluded_top o [] src dst _ hw hx2).2]

theorem syncJobDirs_err_dry (o : Opts) (src dst : Entries) (hw : WFEntries src) (hp : DocPatOk o) :
    (syncJobDirs o src dst).err = (syncJobDirs o.asDry src dst).err := by
  rw [syncJobDirs_err o src dst hw hp, syncJobDirs_err o.asDry src dst hw ⟨hp.doc, hp.bak⟩,
    walkDir_err_dry o [] (.dir src) dst (by simpa [WFNode] using hw)]
  rfl

/-! ### project level -/

theorem jobStep_err (o : Opts) (id : Name) (sn : Node) (a : Acc) :
    (jobStep o (id, sn) a).2 =
      match sn, jobOf id a.d with
      | .dir sjob, some (some (.dir djob)) => if selected o id then (syncJobDirs o sjob djob).err else none
      | _, _ => none := by
  rcases syncJobs_cons_all o id sn a with ⟨hc, he⟩ | ⟨_, ws, hs, hws, _, hj, _, he⟩ | ⟨_, ws, _, hs, hws, hsel, hj, he⟩
  · rw [jobStep_of_ok he]
    cases sn with
    | file m => rfl
    | dir sjob =>
      cases hjo : jobOf id a.d with
      | none => rfl
      | some x =>
        obtain ⟨ws, hws, hx, _⟩ := ws_of_jobOf hjo
        cases x with
        | none => rfl
        | some dn =>
          cases dn with
          | file m => rfl
          | dir djob =>
            cases hsel : selected o id with
            | false => rfl
            | true =>
              rcases hc sjob ws rfl hws hsel with ⟨h, _⟩ | ⟨m, h⟩ <;> rw [hx] at h <;> cases h
  · rw [jobStep_of_ok he, hs, jobOf_of_ws hws, hj]
  · rw [jobStep_of_sync he, hs, jobOf_of_ws hws, hj, hsel]; rfl

theorem syncJobs_err_dry (o : Opts) (hp : DocPatOk o) (l : List (Name × Node)) (a a' : Acc) (hw : WFEntries l)
    (h : ∀ x ∈ l, jobOf x.1 a.d = jobOf x.1 a'.d) :
    (syncJobs o l a).err = (syncJobs o.asDry l a').err := by
  rw [syncJobs_eq, syncJobs_eq]
  refine foldE_err_congr (π := fun id s => jobOf id s.d) (π' := fun id s => jobOf id s.d)
    (fun k v n s h => jobStep_other o k v s h) (fun k v n s h => jobStep_other o.asDry k v s h)
    a a' hw.nodup (fun x _ s₁ s₂ hs => by rw [jobStep_err, jobStep_err, hs])
    (fun x _ s₁ s₂ hs => by rw [jobStep_err, jobStep_err, hs]) (fun x hx => ?_)
  rw [jobStep_err, jobStep_err, h x hx]
  split
  · next sjob djob hs _ =>
    have hwj : WFEntries sjob := by simpa [WFNode, hs] using hw.mem hx
    rw [asDry_selected, syncJobDirs_err_dry o sjob djob hwj hp]
  · rfl

/-! ### a fresh destination job cannot make the sync fail -/

theorem walkSubs_no_dirs (o : Opts) (sub : Path) (dst0 : Entries) (hd : ∀ n x, getE n dst0 ≠ some (.dir x))
    (l : Entries) (a : Acc) : (walkSubs o sub dst0 l a).err = none := by
  rw [walkSubs_eq, foldE_noop fun x _ => ?_]
  rcases subStep_cases o sub dst0 x.1 x.2 a with ⟨_, y, _, _, h1, _⟩ | ⟨_, he⟩
  · exact absurd h1 (hd _ y)
  · exact he

theorem walkDir_fresh_ok (o : Opts) (sub : Path) (ses des : Entries)
    (hf : ∀ n md, getE n des = some (.file md) → excluded o n = true)
    (hd : ∀ n x, getE n des ≠ some (.dir x)) :
    (walkDir o sub (.dir ses) des).err = none := by
  rw [walkDir_dir]
  cases he : err2 o sub ses des with
  | some e =>
    exfalso
    obtain ⟨n, ms, md, _, _, h3, _, h5, _⟩ := phase2_err o sub des ses _ e he
    rw [hf n md h3] at h5; cases h5
  | none =>
    simp only
    split
    · exact walkSubs_no_dirs o sub des hd ses _
    · rfl

theorem byKeyItems_fresh (ks : Option (String → Bool)) (root : String) (items : Doc) :
    ∀ st : ByKeySt, (keys items).Nodup → (∀ k, k ∈ keys items → lookupKV k st.dst = none) →
    st.typeErr = false →
    (byKeyItems ks root items st).typeErr = false ∧ (byKeyItems ks root items st).skipped = st.skipped := by
  induction items with
  | nil => intro st _ _ h; simp [byKeyItems, h]
  | cons hd tl ih =>
    intro st hnd hfree hte
    obtain ⟨k, v⟩ := hd
    have hnd' : (keys tl).Nodup := (List.nodup_cons.mp hnd).2
    have hk : k ∉ keys tl := (List.nodup_cons.mp hnd).1
    have h0 : lookupKV k st.dst = none := hfree k (by simp [keys])
    rw [byKeyItems_cons, hte]
    simp only [Bool.false_eq_true, if_false, byKeyStep, h0]
    refine ih ⟨setKV k v st.dst, st.skipped, true, st.typeErr⟩ hnd' ?_ hte
    intro k' hk'
    have : k' ≠ k := by
      intro e; subst e; exact hk hk'
    rw [lookupKV_setKV_other this]
    exact hfree k' (by simp [keys, List.mem_cons, hk'] )

theorem runDocSync_fresh (ds : DocSync) (s : Doc) (hnd : (keys s).Nodup) : (runDocSync ds s []).err = none := by
  cases ds with
  | byKey ks =>
    have := byKeyItems_fresh ks "" s ⟨[], [], false, false⟩ hnd (by intro k _; rfl) rfl
    simp only [runDocSync, this.1, this.2]
    cases ks <;> simp
  | update => simp [runDocSync]
  | noSync => simp [runDocSync]
  | copy => simp [runDocSync]

/-- … and the state point file name matches the state point pattern -/
structure TablesOk (o : Opts) : Prop extends DocPatOk o where
  sp : o.spPat Extracted.FN_STATE_POINT = true

theorem syncJobDirs_fresh_ok (o : Opts) (sjob : Entries) (spCid : Nat) (hw : WFEntries sjob) (ht : TablesOk o)
    (hdoc : (keys (docOf Extracted.FN_JOB_DOCUMENT sjob)).Nodup) :
    (syncJobDirs o sjob (initJob o.now spCid)).err = none := by
  -- a fresh job directory holds the state point file and nothing else
  have hg : ∀ n, getE n (initJob o.now spCid) =
      if Extracted.FN_STATE_POINT = n then some (.file ⟨spCid, 0, o.now, none⟩) else none := fun _ => rfl
  have hf : ∀ n md, getE n (initJob o.now spCid) = some (.file md) → excluded o n = true := by
    intro n md h
    rw [hg] at h
    split at h
    · next hn => rw [← hn]; simp [excluded, ht.sp]
    · cases h
  have hd : ∀ n x, getE n (initJob o.now spCid) ≠ some (.dir x) := by
    intro n x h
    rw [hg] at h
    split at h <;> cases h
  have hdoc0 : docOf Extracted.FN_JOB_DOCUMENT (initJob o.now spCid) = [] := by
    rw [docOf, hg, if_neg sp_ne_doc]
  rw [syncJobDirs_err o sjob _ hw ht.toDocPatOk, walkDir_fresh_ok o [] sjob _ hf hd, hdoc0]
  cases o.docSync with
  | copy => rfl
  | noSync => rfl
  | _ =>
    simp only [syncDocErr, mergeErr, List.isEmpty_nil, Bool.true_or, if_true]
    split
    · rfl
    · exact runDocSync_fresh _ _ hdoc

/-- `dry_run_same_outcome`: a dry run reports exactly what the real run from the same
    state would report (ok, or the same exception), at every entry point -/
theorem run_err_dry (o : Opts) (e : Entry) (w : World) (hw : WFEntries (wsOf w.src))
    (ht : TablesOk o)
    (hdoc : ∀ id sjob, getE id (wsOf w.src) = some (.dir sjob) →
      (keys (docOf Extracted.FN_JOB_DOCUMENT sjob)).Nodup) :
    (run o e w).err = (run o.asDry e w).err := by
  have hp : DocPatOk o := ht.toDocPatOk
  cases e with
  | project =>
    simp only [run, syncProjects, asDry_checkSchema, asDry_gate]
    by_cases hg : (o.checkSchema && o.gate) = true
    · simp only [hg, if_true]
    · simp only [hg, Bool.false_eq_true, if_false]
      have h1 := syncDoc_err o Extracted.FN_PROJECT_DOCUMENT w.src ⟨w.dst, []⟩
      have h2 := syncDoc_err o.asDry Extracted.FN_PROJECT_DOCUMENT w.src ⟨w.dst, []⟩
      simp only [asDry_docSync] at h2
      have he : (syncDoc o Extracted.FN_PROJECT_DOCUMENT w.src ⟨w.dst, []⟩).err =
          (syncDoc o.asDry Extracted.FN_PROJECT_DOCUMENT w.src ⟨w.dst, []⟩).err := by rw [h1, h2]
      rw [← he]
      cases (syncDoc o Extracted.FN_PROJECT_DOCUMENT w.src ⟨w.dst, []⟩).err with
      | some e => rfl
      | none =>
        simp only
        refine syncJobs_err_dry o hp _ _ _ hw (fun x _ => ?_)
        simp only [jobOf]
        rw [getE_WS_syncDoc, getE_WS_syncDoc]
  | job s d c =>
    simp only [run, syncJobEntry]
    cases hs : getE s (wsOf w.src) with
    | none => rfl
    | some sn =>
      cases sn with
      | file m => rfl
      | dir sjob =>
        have hwj : WFEntries sjob := hw.sub hs
        cases hws : getE WS w.dst with
        | none => rfl
        | some wsn =>
          cases wsn with
          | file m => rfl
          | dir ws =>
            dsimp only
            cases hj : getE d ws with
            | none =>
              dsimp only
              simp only [asDry_dry, if_true]
              by_cases hdry : o.dry = true
              · simp [hdry]
              · simp only [hdry, Bool.false_eq_true, if_false]
                exact syncJobDirs_fresh_ok o sjob c hwj ht (hdoc s sjob hs)
            | some dn =>
              cases dn with
              | file m => rfl
              | dir djob => exact syncJobDirs_err_dry o sjob djob hwj hp

end Signac.Sync
