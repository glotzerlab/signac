/-
  Proofs/ConcFinal — consequences of the invariant for reads and temp files (C12).
-/
import Signac.Proofs.ConcVisible
namespace Signac.Conc
variable {SP DV : Type} {hash : SP → JobId}

/-- actors only ever read published files -/
theorem next_read_file {a : Nat} {st : AState SP DV} {p : Path}
    (hn : next hash a st = some (.read p)) : ∃ i k, p = .file i k := by
  cases hph : st.phase with
  | fin => cases (nextOf a hph).symm.trans hn
  | proj n | ini n | save n => cases n <;> cases next_at a hph hn <;> exact ⟨_, _, rfl⟩
  | _ => cases next_at a hph hn <;> exact ⟨_, _, rfl⟩

theorem read_is_good {fs : FS SP DV} (hfs : FsInv hash fs) {a : Nat} {st : AState SP DV} {p : Path}
    {c : Content SP DV} (hn : next hash a st = some (.read p))
    (hr : (exec fs (.read p)).2 = .data c) : ∃ i k, p = .file i k ∧ GoodC hash i k c := by
  obtain ⟨i, k, rfl⟩ := next_read_file hn
  obtain ⟨_, e, hgood⟩ := hfs.fileT (exec_read_data hr)
  cases e
  exact ⟨i, k, rfl, hgood⟩

theorem files_valid {fs : FS SP DV} (hfs : FsInv hash fs) (i : JobId) :
    (∀ n, fs.get (.file i .sp) = some n → ∃ v, n = .file (.spc v) ∧ hash v = i) ∧
    (∀ n, fs.get (.file i .doc) = some n → ∃ d, n = .file (.docc d)) := by
  refine ⟨fun n hn => ?_, fun n hn => ?_⟩ <;> obtain ⟨c, rfl, hg⟩ := hfs.fileT hn
  · obtain ⟨v, rfl, hv⟩ := hg.sp_inv; exact ⟨v, rfl, hv⟩
  · obtain ⟨d, rfl⟩ := hg.doc_inv; exact ⟨d, rfl⟩

theorem tmp_owner {s : Sys SP DV} (h : SysInv hash s) {i : JobId} {k : Kind} {a : Nat}
    (hne : s.fs.get (.tmp i k a) ≠ none) : ∃ st, s.actors[a]? = some st ∧ tmpPhase i k st.phase :=
  have hst := List.getElem?_eq_getElem (h.owned i k a hne)
  ⟨_, hst, (h.actors a _ hst).own i k hne⟩

end Signac.Conc
