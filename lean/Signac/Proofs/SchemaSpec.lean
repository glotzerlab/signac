/-
  Specification-side vocabulary of C18 (constant key, bool/int clash, "same slot") and the composite
  lemmas that connect `detectSchema` / `reported` with the index lemmas.  Core only.
-/
import Signac.Proofs.SchemaDetect
import Signac.Proofs.SchemaFlatten
import Signac.Proofs.SchemaDiff
namespace Signac.Schema
open Signac

/-- the key is constant over the selection: the first job (in index order) holds a value under it
    and every other job holds a value in the same dict slot (Python hash/==, `_float` wrapper) -/
def ConstKey (k : String) (jobs : List Job) : Prop := ConstSpec (splitKey k) jobs

def isObj : JVal → Bool
  | .obj _ => true
  | _ => false

/-- a bool and an int that compare equal (`True == 1`, `False == 0`) -/
def boolIntClash (a b : JVal) : Bool :=
  match a, b with
  | .bool _, .int _ => pyEq a b
  | .int _, .bool _ => pyEq a b
  | _, _ => false

/-- no two selected jobs hold, under one key, a bool and an `==`-equal int (the class of F-6a) -/
def NoBoolIntClash (jobs : List Job) : Prop :=
  ∀ k, ∀ j1 ∈ jobs, ∀ j2 ∈ jobs, ∀ v1 v2,
    valueAt k j1 = some v1 → valueAt k j2 = some v2 → boolIntClash v1 v2 = false

/-- `r` is the stored key of the slot `v` falls into (`r = v` apart: on mappings with a repeated
    key, which no Python dict is, `slotEq` is not reflexive) -/
def SameSlot (r v : JVal) : Prop := r = v ∨ slotEq r v = true

/-- values in one slot have one type, unless they are a bool and the `==`-equal int -/
theorem slotEq_typeName {a b : JVal} (h : slotEq a b = true) (hc : boolIntClash a b = false) :
    pyTypeName a = pyTypeName b := by
  have he := ((Bool.and_eq_true _ _).mp h).2
  cases ha : numVal a with
  | none => exact (nonNum_of_pyEq he ha).2
  | some p =>
    cases hb : numVal b with
    | none => rw [pyEq_of_num ha, hb] at he; cases he
    | some q =>
      -- three kinds of number each: the same kind (`rfl`); a float against a non-float, where `slotEq`
      -- evaluates to `false` (`cases h`); bool against int, which `hc` excludes
      obtain ⟨_, rfl⟩ | ⟨_, rfl⟩ | ⟨_, _, _, rfl⟩ := num_cases ha <;>
      obtain ⟨_, rfl⟩ | ⟨_, rfl⟩ | ⟨_, _, _, rfl⟩ := num_cases hb <;>
      first | rfl | cases h | exact absurd he (Bool.eq_false_iff.mp hc)

theorem keyOf_eq_val {v r : JVal} (h : IKey.val r = keyOf v) : v = r ∧ isObj r = false := by
  cases v <;> cases h <;> exact ⟨rfl, rfl⟩

theorem keyOf_of_not_obj {v : JVal} (h : isObj v = false) : keyOf v = IKey.val v := by
  cases v <;> first | rfl | cases h

theorem mem_schema_keys {excl : Bool} {jobs : List Job} {k : String} :
    k ∈ (detectSchema excl jobs).map Prod.fst ↔
      (∃ j ∈ jobs, ∃ v, (k, v) ∈ flatten j.sp) ∧ ¬ (excl = true ∧ ConstKey k jobs) := by
  rw [detectSchema_keys, List.mem_filter, mem_dottedKeys, Bool.not_eq_true', ← Bool.not_eq_true,
    skipped, Bool.and_eq_true, buildIndex, buildFrom_const, ConstKey]

/-! ### the slot values of a key: what the jobs hold under it, one per dict slot -/

theorem slotValues_sound {jobs : List Job} {k : String} {r : JVal}
    (h : r ∈ slotValues (buildIndex k jobs)) : isObj r = false ∧ ∃ j ∈ jobs, valueAt k j = some r := by
  rcases buildFrom_keys_sound (mem_slotValues.mp h) with h0 | ⟨j, hj, v, hv, hr⟩
  · cases h0
  · obtain ⟨rfl, hno⟩ := keyOf_eq_val hr
    exact ⟨hno, j, hj, hv⟩

theorem slotValues_complete {jobs : List Job} {k : String} {j : Job} (hj : j ∈ jobs) {v : JVal}
    (hv : valueAt k j = some v) (hno : isObj v = false) :
    ∃ r ∈ slotValues (buildIndex k jobs), SameSlot r v := by
  obtain ⟨r, hr, hs⟩ := @buildFrom_keys_complete (splitKey k) jobs [] j v hj hv
  rw [keyOf_of_not_obj hno] at hs
  cases r with
  | dict => rcases hs with hs | hs <;> cases hs
  | val r => exact ⟨r, mem_slotValues.mpr hr, hs.imp IKey.val.inj id⟩

/-- without the bool/int clash the stored key of a slot has the type of every value of the slot -/
theorem slotValues_complete_typed {jobs : List Job}
    (hclash : NoBoolIntClash jobs) {k : String} {j : Job} (hj : j ∈ jobs) {v : JVal}
    (hv : valueAt k j = some v) (hno : isObj v = false) :
    ∃ r ∈ slotValues (buildIndex k jobs), SameSlot r v ∧ pyTypeName r = pyTypeName v := by
  obtain ⟨r, hr, hs⟩ := slotValues_complete hj hv hno
  refine ⟨r, hr, hs, ?_⟩
  rcases hs with hs | hs
  · rw [hs]
  · obtain ⟨_, j', hj', hv'⟩ := slotValues_sound hr
    exact slotEq_typeName hs (hclash k j' hj' j hj r v hv' hv)

/-- under a reported key and a type, the slot values of that type -/
theorem reported_detectSchema (excl : Bool) (jobs : List Job) (k t : String) :
    reported (detectSchema excl jobs) k t =
      if k ∈ (detectSchema excl jobs).map Prod.fst then
        (slotValues (buildIndex k jobs)).filter (fun v => pyTypeName v == t)
      else [] := by
  split
  · next hk =>
    rw [reported_alookup (alookup_detectSchema hk),
      collectByType_eq (slotValues_apart k jobs)]
  · next hk =>
    rw [reported_eq, alookup_none.mpr hk]
    rfl

theorem mem_reported {excl : Bool} {jobs : List Job} {k t : String} {r : JVal} :
    r ∈ reported (detectSchema excl jobs) k t ↔ k ∈ (detectSchema excl jobs).map Prod.fst ∧
      r ∈ slotValues (buildIndex k jobs) ∧ pyTypeName r = t := by
  rw [reported_detectSchema]
  split
  · next hk =>
    rw [List.mem_filter, beq_iff_eq]
    exact (and_iff_right hk).symm
  · next hk => exact ⟨fun h => (nomatch h), fun h => absurd h.1 hk⟩

/-! ### a decidable sufficient condition for `NoBoolIntClash` (used for non-vacuity) -/

mutual
  /-- no `bool` is reachable by walking mapping keys -/
  def noBoolVal : JVal → Bool
    | .obj kvs => noBoolKVs kvs
    | .bool _ => false
    | .null => true
    | .int _ => true
    | .flt _ _ _ => true
    | .str _ => true
    | .arr _ => true
  def noBoolKVs : KVs → Bool
    | [] => true
    | (_, v) :: rest => noBoolVal v && noBoolKVs rest
end

theorem noBoolKVs_lookup {kvs : KVs} (h : noBoolKVs kvs = true) {n : String} {w : JVal}
    (hl : lookupKV n kvs = some w) : noBoolVal w = true := by
  induction kvs with
  | nil => simp [lookupKV] at hl
  | cons hd tl ih =>
    obtain ⟨k, v⟩ := hd
    simp only [noBoolKVs, Bool.and_eq_true] at h
    simp only [lookupKV] at hl
    split at hl
    · cases hl; exact h.1
    · exact ih h.2 hl

theorem noBoolVal_getPath : ∀ (nodes : List String) (v w : JVal),
    noBoolVal v = true → getPath nodes v = some w → noBoolVal w = true :=
  getPath_preserves (Q := fun v => noBoolVal v = true) fun _ _ _ h hl => noBoolKVs_lookup h hl

theorem boolIntClash_of_noBool {a b : JVal} (ha : noBoolVal a = true) (hb : noBoolVal b = true) :
    boolIntClash a b = false := by
  cases a with
  | bool _ => cases ha
  | int _ => cases b <;> first | rfl | cases hb
  | _ => rfl

theorem noBoolIntClash_of_noBool {jobs : List Job}
    (h : jobs.all (fun j => noBoolKVs j.sp) = true) : NoBoolIntClash jobs := by
  intro k j1 hj1 j2 hj2 v1 v2 h1 h2
  rw [List.all_eq_true] at h
  exact boolIntClash_of_noBool (noBoolVal_getPath _ (.obj j1.sp) _ (h j1 hj1) h1)
    (noBoolVal_getPath _ (.obj j2.sp) _ (h j2 hj2) h2)

end Signac.Schema
