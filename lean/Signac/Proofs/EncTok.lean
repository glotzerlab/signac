/-
  Keyword and number tokens: the character classes of the reader and of the float-token check,
  the integer tokens `intChars` prints, and the continuations after which a token ends.
-/
import Signac.JsonParse
import Std.Data.String.ToInt
namespace Signac

/- Tables over string literals: the kernel unfolds `String.toList` of a literal much faster than
   the elaborator, hence `decide +kernel`. -/

/-- the characters that open, close or separate: none of them is an atom character -/
def structChars : List Char := ['"', '[', '{', ']', '}', ',']

theorem atomChar_props : ∀ c ∈ atomCharsB, isWs c = false ∧ c ∉ structChars := by decide +kernel

theorem kw_num_sub_atom :
    ∀ l ∈ [nullLit, trueLit, falseLit, floatTokCharsB], ∀ c ∈ l, c ∈ atomCharsB := by
  decide +kernel

theorem intTok_sub_floatTok : ∀ c ∈ intTokCharsB, c ∈ floatTokCharsB := by decide +kernel

theorem kw_has_non_float_char : ∀ kw ∈ [nullLit, trueLit, falseLit], ∃ c ∈ kw, c ∉ floatTokCharsB := by
  decide +kernel

theorem floatTok_sub_atom {c : Char} (h : c ∈ floatTokCharsB) : c ∈ atomCharsB :=
  kw_num_sub_atom _ (by simp) c h

theorem isAtomChar_iff {c : Char} : isAtomChar c = true ↔ c ∈ atomCharsB := by
  rw [isAtomChar, List.contains_eq_mem, decide_eq_true_eq]

/-- what may follow a keyword or number: nothing, or a character that ends the token -/
def RestOk (r : List Char) : Prop := ∀ c ∈ r.head?, isAtomChar c = false

theorem restOk_nil : RestOk [] := nofun

theorem restOk_cons {c : Char} (h : c ∉ atomCharsB) (r : List Char) : RestOk (c :: r) := by
  intro d hd
  cases hd
  exact Bool.eq_false_iff.mpr (fun h' => h (isAtomChar_iff.mp h'))

theorem restOk_struct {d : Char} (h : d ∈ structChars) (r : List Char) : RestOk (d :: r) :=
  restOk_cons (fun ha => (atomChar_props d ha).2 h) r

theorem span_tok {tok rest : List Char} (ht : ∀ c ∈ tok, c ∈ atomCharsB) (hr : RestOk rest) :
    (tok ++ rest).takeWhile isAtomChar = tok ∧ (tok ++ rest).dropWhile isAtomChar = rest := by
  have ht' : ∀ c ∈ tok, isAtomChar c = true := fun c hc => isAtomChar_iff.mpr (ht c hc)
  rw [List.takeWhile_append_of_pos ht', List.dropWhile_append_of_pos ht']
  cases rest with
  | nil => exact ⟨List.append_nil _, rfl⟩
  | cons d ds =>
    have hd : ¬ isAtomChar d = true := by rw [hr d rfl]; exact Bool.false_ne_true
    rw [List.takeWhile_cons_of_neg hd, List.dropWhile_cons_of_neg hd]
    exact ⟨List.append_nil _, rfl⟩

theorem isDigit_mem_intTokCharsB {c : Char} (h : c.isDigit = true) : c ∈ intTokCharsB := by
  have key : ∀ k : Fin 10, Char.ofNat (48 + k.val) ∈ intTokCharsB := by decide +kernel
  have h' : 48 ≤ c.toNat ∧ c.toNat ≤ 57 := Char.isDigit_iff_toNat.mp h
  have := key ⟨c.toNat - 48, by omega⟩
  rwa [show 48 + (c.toNat - 48) = c.toNat by omega, Char.ofNat_toNat] at this

theorem natRepr_mem (n : Nat) : ∀ c ∈ (Nat.repr n).toList, c ∈ intTokCharsB := by
  intro c hc
  rw [Nat.toList_repr] at hc
  exact isDigit_mem_intTokCharsB (Nat.isDigit_of_mem_toDigits (by decide) (by decide) hc)

theorem intChars_mem (i : Int) : ∀ c ∈ intChars i, c ∈ intTokCharsB := by
  intro c hc
  simp only [intChars, Int.toString_eq_repr, Int.repr_eq_if] at hc
  split at hc
  · exact natRepr_mem _ c hc
  · simp only [String.toList_append, List.mem_append] at hc
    rcases hc with hc | hc
    · have : c = '-' := by simpa using hc
      subst this; decide
    · exact natRepr_mem _ c hc

theorem intChars_ne_nil (i : Int) : intChars i ≠ [] := by
  simp only [intChars, Int.toString_eq_repr, Int.repr_eq_if]
  split
  · rw [Nat.toList_repr]; exact Nat.toDigits_ne_nil
  · simp

theorem toInt?_intChars (i : Int) : (String.ofList (intChars i)).toInt? = some i := by
  simp only [intChars, String.ofList_toList, Int.toString_eq_repr, Int.toInt?_repr]

end Signac
