/-
  `canon v` has strictly increasing keys in every object at every depth, and
  `canon` is the identity on such values (hence idempotent).  Core only.
-/
import Signac.Proofs.Canon
import Signac.Proofs.JValInd
namespace Signac

abbrev KeysLt (a b : String × JVal) : Prop := a.1 < b.1

mutual
  def SortedDeep : JVal → Prop
    | .arr xs => SortedDeepList xs
    | .obj kvs => kvs.Pairwise KeysLt ∧ SortedDeepObj kvs
    | .null => True
    | .bool _ => True
    | .int _ => True
    | .flt _ _ _ => True
    | .str _ => True
  def SortedDeepList : List JVal → Prop
    | [] => True
    | x :: xs => SortedDeep x ∧ SortedDeepList xs
  def SortedDeepObj : List (String × JVal) → Prop
    | [] => True
    | (_, v) :: r => SortedDeep v ∧ SortedDeepObj r
end

theorem sortedDeepList_forall {xs : List JVal} :
    SortedDeepList xs ↔ ∀ x ∈ xs, SortedDeep x := by
  induction xs with
  | nil => exact ⟨fun _ => nofun, fun _ => trivial⟩
  | cons x xs ih => rw [SortedDeepList, ih, List.forall_mem_cons]

theorem sortedDeepObj_forall {kvs : List (String × JVal)} :
    SortedDeepObj kvs ↔ ∀ kv ∈ kvs, SortedDeep kv.2 := by
  induction kvs with
  | nil => exact ⟨fun _ => nofun, fun _ => trivial⟩
  | cons kv kvs ih => rw [SortedDeepObj, ih, List.forall_mem_cons]

theorem insertKV_pairwise (k : String) (v : JVal) (l : List (String × JVal))
    (h : l.Pairwise KeysLt) : (insertKV k v l).Pairwise KeysLt := by
  induction l with
  | nil => simp [insertKV]
  | cons hd tl ih =>
    obtain ⟨k', v'⟩ := hd
    rw [List.pairwise_cons] at h
    rcases str_trichotomy k k' with hk | hk | hk
    · rw [insertKV_lt hk]
      refine List.pairwise_cons.mpr ⟨?_, List.pairwise_cons.mpr h⟩
      intro x hx
      rcases List.mem_cons.mp hx with hx | hx
      · subst hx; exact hk
      · exact String.lt_trans hk (h.1 x hx)
    · subst hk
      rw [insertKV_eq]
      exact List.pairwise_cons.mpr ⟨fun x hx => h.1 x hx, h.2⟩
    · rw [insertKV_gt hk]
      refine List.pairwise_cons.mpr ⟨?_, ih h.2⟩
      intro x hx
      rcases insertKV_mem hx with hx | hx
      · subst hx; exact hk
      · exact h.1 x hx

theorem canonObj_pairwise : (kvs : List (String × JVal)) → (canonObj kvs).Pairwise KeysLt
  | [] => List.Pairwise.nil
  | (k, _) :: r => insertKV_pairwise k _ _ (canonObj_pairwise r)

theorem canon_sorted : (v : JVal) → SortedDeep (canon v) := by
  intro v
  induction v using JVal.rec_mem with
  | arr xs ih => exact sortedDeepList_forall.mpr (forall_canonList ih)
  | obj kvs ih => exact ⟨canonObj_pairwise kvs, sortedDeepObj_forall.mpr (forall_canonObj ih)⟩
  | _ => trivial

theorem canonList_sorted : (xs : List JVal) → SortedDeepList (canonList xs) :=
  fun _ => sortedDeepList_forall.mpr (forall_canonList (fun x _ => canon_sorted x))

theorem canonObj_sorted : (kvs : List (String × JVal)) → SortedDeepObj (canonObj kvs) :=
  fun _ => sortedDeepObj_forall.mpr (forall_canonObj (fun kv _ => canon_sorted kv.2))

theorem insertKV_of_lt_all {k : String} {v : JVal} {l : List (String × JVal)}
    (h : ∀ x ∈ l, k < x.1) : insertKV k v l = (k, v) :: l := by
  cases l with
  | nil => rfl
  | cons hd tl =>
    obtain ⟨k', v'⟩ := hd
    exact insertKV_lt (h (k', v') (List.mem_cons_self)) v v' tl

theorem canonList_eq_self {xs : List JVal} (h : ∀ x ∈ xs, canon x = x) : canonList xs = xs := by
  rw [canonList_eq_map, List.map_congr_left h, List.map_id']

theorem canonObj_eq_self : {kvs : List (String × JVal)} → kvs.Pairwise KeysLt →
    (∀ kv ∈ kvs, canon kv.2 = kv.2) → canonObj kvs = kvs
  | [], _, _ => rfl
  | (k, v) :: r, hp, h => by
    rw [List.pairwise_cons] at hp
    rw [canonObj, h (k, v) List.mem_cons_self,
      canonObj_eq_self hp.2 (fun kv hkv => h kv (List.mem_cons_of_mem _ hkv))]
    exact insertKV_of_lt_all hp.1

theorem canon_of_sorted (v : JVal) : SortedDeep v → canon v = v := by
  induction v using JVal.rec_mem with
  | arr xs ih =>
    intro h
    rw [canon, canonList_eq_self (fun x hx => ih x hx (sortedDeepList_forall.mp h x hx))]
  | obj kvs ih =>
    intro h
    rw [canon, canonObj_eq_self h.1 (fun kv hkv => ih kv hkv (sortedDeepObj_forall.mp h.2 kv hkv))]
  | _ => exact fun _ => rfl

theorem canonList_of_sorted : (xs : List JVal) → SortedDeepList xs → canonList xs = xs :=
  fun _ h => canonList_eq_self
    (fun x hx => canon_of_sorted x (sortedDeepList_forall.mp h x hx))

theorem canonObj_of_sorted : (kvs : List (String × JVal)) → kvs.Pairwise KeysLt →
    SortedDeepObj kvs → canonObj kvs = kvs :=
  fun _ hp h => canonObj_eq_self hp
    (fun kv hkv => canon_of_sorted kv.2 (sortedDeepObj_forall.mp h kv hkv))

theorem canon_idem (v : JVal) : canon (canon v) = canon v :=
  canon_of_sorted _ (canon_sorted v)

end Signac
