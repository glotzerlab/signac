/-
  C16, the member list of an export: which file a name denotes and which files lie below a job's
  place when the places are prefix-free; `GoodExport`, what the importers assume of an export, and
  where such an export holds state point files (`readSp_*`).
-/
import Signac.ImportExport
import Signac.Proofs.IESort
namespace Signac.IE
open Signac

theorem pairwise_cases {α : Type} {R : α → α → Prop} {l : List α} (h : l.Pairwise R) {a b : α}
    (ha : a ∈ l) (hb : b ∈ l) : a = b ∨ R a b ∨ R b a := by
  induction h with
  | nil => cases ha
  | cons hx _ ih =>
    rcases List.mem_cons.mp ha with rfl | ha' <;> rcases List.mem_cons.mp hb with rfl | hb'
    · exact Or.inl rfl
    · exact Or.inr (Or.inl (hx _ hb'))
    · exact Or.inr (Or.inr (hx _ ha'))
    · exact ih ha' hb'

theorem pairwise_zip {α β : Type} {R : α → α → Prop} {S : β → β → Prop} {l₁ : List α} (h₁ : l₁.Pairwise R) :
    ∀ {l₂ : List β}, l₂.Pairwise S → (l₁.zip l₂).Pairwise (fun a b => R a.1 b.1 ∧ S a.2 b.2) := by
  induction h₁ with
  | nil => exact fun _ => List.Pairwise.nil
  | cons hx _ ih =>
    intro l₂ h₂
    cases h₂ with
    | nil => exact List.Pairwise.nil
    | cons hy h₂ =>
      exact List.pairwise_cons.mpr ⟨fun a ha =>
        ⟨hx a.1 (List.of_mem_zip (a := a.1) (b := a.2) ha).1, hy a.2 (List.of_mem_zip (a := a.1) (b := a.2) ha).2⟩,
        ih h₂⟩

theorem lookupFile_cons_self (p : Comps) (c : Content) (A : List (Comps × Content)) :
    lookupFile p ((p, c) :: A) = some c := by
  rw [lookupFile, if_pos rfl]

theorem lookupFile_cons_ne {p q : Comps} (h : q ≠ p) (c : Content) (A : List (Comps × Content)) :
    lookupFile p ((q, c) :: A) = lookupFile p A := by
  rw [lookupFile, if_neg h]

theorem lookupFile_append (p : Comps) (A B : List (Comps × Content)) :
    lookupFile p (A ++ B) = (lookupFile p A).or (lookupFile p B) := by
  induction A with
  | nil => rfl
  | cons x xs ih =>
    simp only [List.cons_append, lookupFile]
    split
    · rfl
    · exact ih

theorem lookupFile_none_iff (p : Comps) (A : List (Comps × Content)) :
    lookupFile p A = none ↔ ∀ fc ∈ A, fc.1 ≠ p := by
  induction A with
  | nil => simp [lookupFile]
  | cons x xs ih =>
    obtain ⟨q, c⟩ := x
    rw [lookupFile, List.forall_mem_cons]
    split
    · exact ⟨fun h => (nomatch h), fun h => absurd ‹q = p› h.1⟩
    · exact ih.trans ⟨fun h => ⟨‹_›, h⟩, fun h => h.2⟩

theorem lookupFile_mem {p : Comps} {c : Content} {A : List (Comps × Content)}
    (h : lookupFile p A = some c) : (p, c) ∈ A := by
  induction A with
  | nil => cases h
  | cons x xs ih =>
    simp only [lookupFile] at h
    split at h
    · cases h
      exact ‹x.1 = p› ▸ List.mem_cons_self
    · exact List.mem_cons_of_mem _ (ih h)

theorem filesUnder_append (d : Comps) (A B : List (Comps × Content)) :
    filesUnder d (A ++ B) = filesUnder d A ++ filesUnder d B := by
  simp only [filesUnder, List.filter_append, List.map_append]

theorem Incomp.symm {a b : Comps} (h : Incomp a b) : Incomp b a := ⟨h.2, h.1⟩

/-- `exportMembers P ds` is `members (P.zip ds)` by definition -/
def members (E : List (Job × Comps)) : List (Comps × Content) := E.flatMap exportBlock

/-- `x` lies in (or is) an exported job directory -/
def Under (E : List (Job × Comps)) (x : Comps) : Prop := ∃ e ∈ E, e.2 <+: x
/-- `x` is an exported job directory -/
def IsRoot (E : List (Job × Comps)) (x : Comps) : Prop := ∃ e ∈ E, e.2 = x

theorem IsRoot.under {E : List (Job × Comps)} {x : Comps} (h : IsRoot E x) : Under E x :=
  let ⟨e, he, hx⟩ := h
  ⟨e, he, hx ▸ List.prefix_refl _⟩

theorem members_path {E : List (Job × Comps)} {fc : Comps × Content} (h : fc ∈ members E) :
    ∃ e ∈ E, ∃ f c, (f, c) ∈ e.1.files ∧ fc = (e.2 ++ f, c) := by
  rcases List.mem_flatMap.mp h with ⟨e, he, hb⟩
  rcases List.mem_map.mp hb with ⟨⟨f, c⟩, hf, rfl⟩
  exact ⟨e, he, f, c, hf, rfl⟩

theorem mem_members {E : List (Job × Comps)} {e : Job × Comps} (he : e ∈ E) {fc : Comps × Content}
    (hf : fc ∈ e.1.files) : (e.2 ++ fc.1, fc.2) ∈ members E :=
  List.mem_flatMap.mpr ⟨e, he, List.mem_map.mpr ⟨fc, hf, rfl⟩⟩

theorem lookupFile_block (e : Job × Comps) (p : Comps) :
    lookupFile (e.2 ++ p) (exportBlock e) = lookupFile p e.1.files := by
  unfold exportBlock
  induction e.1.files with
  | nil => rfl
  | cons x xs ih => simp only [List.map_cons, lookupFile, List.append_cancel_left_eq, ih]

theorem filesUnder_block_self (e : Job × Comps) : filesUnder e.2 (exportBlock e) = e.1.files := by
  unfold filesUnder exportBlock
  induction e.1.files with
  | nil => rfl
  | cons x xs ih =>
    simp only [List.map_cons, List.filter_cons, isPrefixB, List.prefix_append, decide_true, if_true,
      List.drop_left, List.cons.injEq, true_and]
    exact ih

/-- nothing of a job placed beside `d` has a name below `d` -/
theorem not_prefix_member {d : Comps} {E : List (Job × Comps)} (h : ∀ e ∈ E, Incomp d e.2)
    {fc : Comps × Content} (hfc : fc ∈ members E) : ¬ d <+: fc.1 := by
  rcases members_path hfc with ⟨e, he, f, c, _, rfl⟩
  intro hp
  rcases List.prefix_or_prefix_of_prefix hp (List.prefix_append e.2 f) with h' | h'
  · exact (h e he).1 h'
  · exact (h e he).2 h'

theorem lookup_members_none (d p : Comps) (E : List (Job × Comps)) (h : ∀ e ∈ E, Incomp d e.2) :
    lookupFile (d ++ p) (members E) = none :=
  (lookupFile_none_iff _ _).mpr fun _ hfc heq =>
    not_prefix_member h hfc (heq ▸ List.prefix_append d p)

theorem filesUnder_members_none (d : Comps) (E : List (Job × Comps)) (h : ∀ e ∈ E, Incomp d e.2) :
    filesUnder d (members E) = [] := by
  rw [filesUnder, List.map_eq_nil_iff, List.filter_eq_nil_iff]
  intro fc hfc hp
  exact not_prefix_member h hfc (of_decide_eq_true hp)

/-- the member list around the block of one job: everything else is placed beside it -/
theorem members_split {E : List (Job × Comps)} (hpf : E.Pairwise (fun a b => Incomp a.2 b.2))
    {e : Job × Comps} (he : e ∈ E) :
    ∃ E₁ E₂, members E = members E₁ ++ (exportBlock e ++ members E₂)
      ∧ (∀ x ∈ E₁, Incomp e.2 x.2) ∧ (∀ x ∈ E₂, Incomp e.2 x.2) := by
  rcases List.append_of_mem he with ⟨E₁, E₂, rfl⟩
  have h := List.pairwise_append.mp hpf
  exact ⟨E₁, E₂, by simp only [members, List.flatMap_append, List.flatMap_cons],
    fun x hx => (h.2.2 x hx e List.mem_cons_self).symm, (List.pairwise_cons.mp h.2.1).1⟩

theorem lookup_members_root {E : List (Job × Comps)} (hpf : E.Pairwise (fun a b => Incomp a.2 b.2))
    {e : Job × Comps} (he : e ∈ E) (p : Comps) :
    lookupFile (e.2 ++ p) (members E) = lookupFile p e.1.files := by
  rcases members_split hpf he with ⟨E₁, E₂, h, h₁, h₂⟩
  rw [h, lookupFile_append, lookupFile_append, lookup_members_none _ _ _ h₁, lookupFile_block,
    lookup_members_none _ _ _ h₂, Option.none_or, Option.or_none]

theorem filesUnder_root {E : List (Job × Comps)} (hpf : E.Pairwise (fun a b => Incomp a.2 b.2))
    {e : Job × Comps} (he : e ∈ E) : filesUnder e.2 (members E) = e.1.files := by
  rcases members_split hpf he with ⟨E₁, E₂, h, h₁, h₂⟩
  rw [h, filesUnder_append, filesUnder_append, filesUnder_members_none _ _ h₁, filesUnder_block_self,
    filesUnder_members_none _ _ h₂, List.nil_append, List.append_nil]

/-- what the round trip needs of an export: distinct ids, injective and prefix-free places, every job
    has its state point file with the content that hashes to its id, files have names -/
structure GoodExport (hash : JVal → String) (E : List (Job × Comps)) : Prop where
  ids : E.Pairwise (fun a b => a.1.id ≠ b.1.id)
  pf : E.Pairwise (fun a b => Incomp a.2 b.2)
  sp : ∀ e ∈ E, ∃ v, lookupFile [fnSp] e.1.files = some (.sp v) ∧ hash v = e.1.id
  nonempty : ∀ e ∈ E, ∀ fc ∈ e.1.files, fc.1 ≠ []

/-- `NoNestedSp` of the jobs of `E` -/
def NoNestedE (E : List (Job × Comps)) : Prop :=
  ∀ e ∈ E, ∀ fc ∈ e.1.files, ∀ g, fc.1 = g ++ [fnSp] → g = []

section
variable {hash : JVal → String} {E : List (Job × Comps)} (G : GoodExport hash E)
include G

namespace GoodExport

theorem eq_of_prefix {a b : Job × Comps} (ha : a ∈ E) (hb : b ∈ E) (h : a.2 <+: b.2) : a = b := by
  rcases pairwise_cases G.pf ha hb with h' | h' | h'
  · exact h'
  · exact absurd h h'.1
  · exact absurd h h'.2

theorem eq_of_id {a b : Job × Comps} (ha : a ∈ E) (hb : b ∈ E) (h : a.1.id = b.1.id) : a = b := by
  rcases pairwise_cases G.ids ha hb with h' | h' | h'
  · exact h'
  · exact absurd h h'
  · exact absurd h.symm h'

theorem eq_of_under {a b : Job × Comps} (ha : a ∈ E) (hb : b ∈ E) {x : Comps}
    (h1 : a.2 <+: x) (h2 : b.2 <+: x) : a = b := by
  rcases List.prefix_or_prefix_of_prefix h1 h2 with h | h
  · exact G.eq_of_prefix ha hb h
  · exact (G.eq_of_prefix hb ha h).symm

end GoodExport

theorem readSp_root {e : Job × Comps} (he : e ∈ E) {v : JVal}
    (hv : lookupFile [fnSp] e.1.files = some (.sp v)) : readSp (members E) e.2 = .ok (some v) := by
  rw [readSp, lookup_members_root G.pf he, hv]

theorem readSp_none {x : Comps}
    (hx : ∀ e ∈ E, ∀ fc ∈ e.1.files, ∀ g, fc.1 = g ++ [fnSp] → x ≠ e.2 ++ g) :
    readSp (members E) x = .ok none := by
  have : lookupFile (x ++ [fnSp]) (members E) = none := by
    rw [lookupFile_none_iff]
    intro fc hfc heq
    rcases members_path hfc with ⟨e, he, f, c, hf, rfl⟩
    have hlast := List.dropLast_concat_getLast (G.nonempty e he (f, c) hf)
    have h := List.append_inj' (((List.append_assoc ..).trans (congrArg _ hlast)).trans heq) rfl
    exact hx e he (f, c) hf f.dropLast (h.2 ▸ hlast.symm) h.1.symm
  rw [readSp, this]

theorem readSp_outside {x : Comps} (hx : ¬ Under E x) : readSp (members E) x = .ok none :=
  readSp_none G fun e he _ _ _ _ h => hx ⟨e, he, h ▸ List.prefix_append _ _⟩

theorem readSp_nonroot (hnn : NoNestedE E) {x : Comps} (hx : ¬ IsRoot E x) :
    readSp (members E) x = .ok none :=
  readSp_none G fun e he fc hfc g hg h =>
    hx ⟨e, he, by rw [h, hnn e he fc hfc g hg, List.append_nil]⟩

theorem spfile_mem_members {e : Job × Comps} (he : e ∈ E) : ∃ c, (e.2 ++ [fnSp], c) ∈ members E :=
  let ⟨v, hv, _⟩ := G.sp e he
  ⟨.sp v, mem_members he (lookupFile_mem hv)⟩

end

end Signac.IE
