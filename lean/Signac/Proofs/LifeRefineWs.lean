/-
  The abstract operations of `Signac.Proofs.LifeRefine` (`specInit`, `specRekey`, `specMove`,
  `specClone`, `specRemove`, `specClear` on `AbsW JVal`) coincide with what `Signac.Ws.step`
  does to the job tables of the projects involved.

  `WsRel R A w`: for both projects of the `Ws` world, id by id, the abstract state `A` and the
  job table agree: same ids, same state points, and the payload corresponds to (document, files)
  through `R` — a parameter, because the `Ws` model keeps the document as a JSON value and the
  files as a name ↦ content list while the lifecycle model keeps a flat path ↦ bytes map; all the
  theorems need of `R` is that "no payload" and "only an empty document `{}`" correspond to
  (no document entries, no files).
  Model-to-model; handles, sharing groups and foreign entries of `Ws.World` have no counterpart
  in the lifecycle model and are not related.
-/
import Signac.Proofs.LifeRefine
import Signac.Proofs.WsOps
namespace Signac.Refine
open Signac Signac.Life

abbrev PayRel := Payload → List (String × JVal) → List (String × String) → Prop

def Rel1 (R : PayRel) : Option (JVal × Payload) → Option Ws.JobData → Prop
  | none, none => True
  | some (v, P), some jd => jd.sp = v ∧ R P jd.doc jd.files
  | _, _ => False

/-- abstract lifecycle state and `Ws` job tables agree on projects 0 and 1 -/
def WsRel (R : PayRel) (A : AbsW JVal) (w : Ws.World) : Prop :=
  ∀ q, q < 2 → ∀ id, Rel1 R (A (q, id)) (Ws.alookup id (w.jobs q))

def resMap : Ws.Res → Life.Res
  | .ok => .ok
  | .okId _ => .ok
  | .destExists => destExists
  | .runtimeError => .exc "RuntimeError"
  | .valueError => .exc "ValueError"
  | .keyError => .exc "KeyError"
  | .lookupError => .exc "LookupError"
  | .typeError => .exc "TypeError"
  | .recursionError => .exc "RecursionError"
  | .undefinedHandle => .exc "undefined"

variable {R : PayRel}

theorem rel1_none_left {b : Option Ws.JobData} (h : Rel1 R none b) : b = none := by
  cases b with
  | none => rfl
  | some _ => simp [Rel1] at h

theorem rel1_none_right {a : Option (JVal × Payload)} (h : Rel1 R a none) : a = none := by
  cases a with
  | none => rfl
  | some x => obtain ⟨v, P⟩ := x; simp [Rel1] at h

theorem rel1_some_right {a : Option (JVal × Payload)} {jd : Ws.JobData} (h : Rel1 R a (some jd)) :
    ∃ P, a = some (jd.sp, P) ∧ R P jd.doc jd.files := by
  cases a with
  | none => simp [Rel1] at h
  | some x => obtain ⟨v, P⟩ := x; exact ⟨P, by rw [← h.1], h.2⟩

theorem jobs_setJobs (w : Ws.World) {p q : Nat} (hp : p < 2) (hq : q < 2) (j : Ws.Jobs) :
    (w.setJobs p j).jobs q = if q = p then j else w.jobs q := by
  rcases p with _ | _ | p <;> rcases q with _ | _ | q <;> first | rfl | omega

theorem alookup_append_ne {β : Type} {i k : String} (h : i ≠ k) (v : β) (l : List (String × β)) :
    Ws.alookup i (l ++ [(k, v)]) = Ws.alookup i l := by
  rw [Ws.alookup_append_new]; cases Ws.alookup i l <;> simp [h]

theorem alookup_append_self {β : Type} {k : String} (v : β) (l : List (String × β))
    (h : Ws.alookup k l = none) : Ws.alookup k (l ++ [(k, v)]) = some v := by
  rw [Ws.alookup_append_new, h]; simp

theorem key_ne {p q : Nat} {i j : String} : ((q, i) : Key) = (p, j) ↔ q = p ∧ i = j := by simp

theorem aupd_comm (A : AbsW JVal) {a b : Key} (h : a ≠ b) (u v) :
    aupd (aupd A a u) b v = aupd (aupd A b v) a u := by
  funext k; simp only [aupd]
  split
  · split
    · exact absurd (‹k = a›.symm.trans ‹k = b›) h
    · rfl
  · rfl

theorem aupd_same (A : AbsW JVal) (k : Key) (a) : aupd A k a k = a := if_pos rfl
theorem aupd_other (A : AbsW JVal) {k k' : Key} (a) (h : k' ≠ k) : aupd A k a k' = A k' := if_neg h

/-- a world `w'` whose job tables are those of `w` except that project `p` has the table `j'`: the
    relation holds if it holds id by id in `p` and the abstract state is as before in the other project -/
theorem wsRel_setJobs {A A' : AbsW JVal} {w w' : Ws.World} (hrel : WsRel R A w) {p : Nat} {j' : Ws.Jobs}
    (hj : ∀ q, q < 2 → w'.jobs q = if q = p then j' else w.jobs q)
    (hin : ∀ i, Rel1 R (A' (p, i)) (Ws.alookup i j'))
    (hout : ∀ q i, q ≠ p → A' (q, i) = A (q, i)) : WsRel R A' w' := by
  intro q hq i
  rw [hj q hq]
  by_cases hqp : q = p
  · subst hqp; rw [if_pos rfl]; exact hin i
  · rw [if_neg hqp, hout q i hqp]; exact hrel q hq i

theorem wsRel_upd {A : AbsW JVal} {w w' : Ws.World} (hrel : WsRel R A w) {p : Nat} (hp : p < 2) (i0 : String)
    {a : Option (JVal × Payload)} {j' : Ws.Jobs}
    (hj : ∀ q, q < 2 → w'.jobs q = if q = p then j' else w.jobs q) (h0 : Rel1 R a (Ws.alookup i0 j'))
    (hne : ∀ i, i ≠ i0 → Ws.alookup i j' = Ws.alookup i (w.jobs p)) : WsRel R (aupd A (p, i0) a) w' := by
  refine wsRel_setJobs hrel hj (fun i => ?_) fun q i hqp => aupd_other _ _ fun h => hqp (congrArg Prod.fst h)
  by_cases hi : i = i0
  · subst hi; rw [aupd_same]; exact h0
  · rw [aupd_other _ _ fun h => hi (congrArg Prod.snd h), hne i hi]; exact hrel p hp i

/-- a related id is absent on both sides or present on both -/
theorem WsRel.at {A : AbsW JVal} {w : Ws.World} (hrel : WsRel R A w) {p : Nat} (hp : p < 2) (i : String) :
    (Ws.alookup i (w.jobs p) = none ∧ A (p, i) = none) ∨
      ∃ jd P, Ws.alookup i (w.jobs p) = some jd ∧ A (p, i) = some (jd.sp, P) ∧ R P jd.doc jd.files := by
  have h0 := hrel p hp i
  cases hl : Ws.alookup i (w.jobs p) with
  | none => rw [hl] at h0; exact .inl ⟨rfl, rel1_none_right h0⟩
  | some jd => rw [hl] at h0; obtain ⟨P, hA, hR⟩ := rel1_some_right h0; exact .inr ⟨jd, P, rfl, hA, hR⟩

section
variable (hash : JVal → String)

theorem ws_init {A : AbsW JVal} {w : Ws.World} (hrel : WsRel R A w) (h : String) (hd : Ws.Handle)
    (hh : Ws.alookup h w.handles = some hd) (hp : hd.proj < 2) (hR : R noPayload [] []) :
    WsRel R (specInit (hd.proj, hash hd.sp) hd.sp A).1 (Ws.step hash w (.init h)).1 ∧
      resMap (Ws.step hash w (.init h)).2 = (specInit (hd.proj, hash hd.sp) hd.sp A).2 := by
  simp only [Ws.step, hh, Ws.ensure]
  rcases hrel.at hp (hash hd.sp) with ⟨hl, hA⟩ | ⟨jd, P, hl, hA, _⟩ <;> simp only [specInit, hl, hA]
  · exact ⟨wsRel_upd hrel hp _ (fun q hq => jobs_setJobs w hp hq _)
      (by rw [alookup_append_self _ _ hl]; exact ⟨rfl, hR⟩) fun i hi => alookup_append_ne hi _ _, rfl⟩
  · exact ⟨hrel, rfl⟩

/-- re-key (`_StatePointDict._save`; reached from `spset`, `spdel`, `spnest`, `spassign`, `update`) -/
theorem ws_rekey {A : AbsW JVal} {w : Ws.World} (hrel : WsRel R A w) (hd : Ws.Handle) (newSp : JVal)
    (hp : hd.proj < 2) (hne : hash hd.sp ≠ hash newSp) :
    WsRel R (specRekey (hd.proj, hash hd.sp) (hd.proj, hash newSp) newSp A).1 (Ws.rekey hash w hd newSp).1 ∧
      resMap (Ws.rekey hash w hd newSp).2 =
        (specRekey (hd.proj, hash hd.sp) (hd.proj, hash newSp) newSp A).2 := by
  simp only [Ws.rekey, if_neg hne]
  rcases hrel.at hp (hash hd.sp) with ⟨hsrc, hA⟩ | ⟨jd, P, hsrc, hA, hRP⟩
  · simp only [specRekey, hsrc, hA]
    exact ⟨hrel, rfl⟩
  · rcases hrel.at hp (hash newSp) with ⟨hdst, hA'⟩ | ⟨jd', P', hdst, hA', _⟩
    · simp only [specRekey, hsrc, hdst, hA, hA', Option.isSome_none, Bool.false_eq_true, if_false]
      refine ⟨wsRel_setJobs hrel (fun q hq => jobs_setJobs w hp hq _) (fun i => ?_) fun q i hqp => ?_, rfl⟩
      · by_cases hi : i = hash hd.sp
        · subst hi
          rw [aupd_same, alookup_append_ne hne, Ws.alookup_aerase_self]
          trivial
        · rw [aupd_other _ _ fun h => hi (congrArg Prod.snd h)]
          by_cases hi2 : i = hash newSp
          · subst hi2
            rw [aupd_same, alookup_append_self _ _ (by rw [Ws.alookup_aerase_ne hi, hdst])]
            exact ⟨rfl, hRP⟩
          · rw [aupd_other _ _ fun h => hi2 (congrArg Prod.snd h), alookup_append_ne hi2,
              Ws.alookup_aerase_ne hi]
            exact hrel _ hp i
      · rw [aupd_other _ _ fun h => hqp (congrArg Prod.fst h), aupd_other _ _ fun h => hqp (congrArg Prod.fst h)]
    · simp only [specRekey, hsrc, hdst, hA, hA', Option.isSome_some, if_true]
      exact ⟨hrel, rfl⟩

theorem ws_remove {A : AbsW JVal} {w : Ws.World} (hrel : WsRel R A w) (h : String) (hd : Ws.Handle)
    (hh : Ws.alookup h w.handles = some hd) (hp : hd.proj < 2) :
    WsRel R (specRemove (hd.proj, hash hd.sp) A).1 (Ws.step hash w (.remove h)).1 ∧
      resMap (Ws.step hash w (.remove h)).2 = (specRemove (hd.proj, hash hd.sp) A).2 := by
  simp only [Ws.step, hh, specRemove]
  exact ⟨wsRel_upd hrel hp _ (fun q hq => jobs_setJobs w hp hq _) (by rw [Ws.alookup_aerase_self]; trivial)
    fun i hi => Ws.alookup_aerase_ne hi _, rfl⟩

theorem ws_clear {A : AbsW JVal} {w : Ws.World} (hrel : WsRel R A w) (h : String) (hd : Ws.Handle)
    (hh : Ws.alookup h w.handles = some hd) (hp : hd.proj < 2) (hR : R emptyDoc [] []) :
    WsRel R (specClear (hd.proj, hash hd.sp) A).1 (Ws.step hash w (.clear h)).1 ∧
      resMap (Ws.step hash w (.clear h)).2 = (specClear (hd.proj, hash hd.sp) A).2 := by
  simp only [Ws.step, hh]
  rcases hrel.at hp (hash hd.sp) with ⟨hl, hA⟩ | ⟨jd, P, hl, hA, _⟩
  · simp only [specClear, hl, hA]
    exact ⟨hrel, rfl⟩
  · simp only [specClear, hA, Ws.modJob, Ws.ensure, hl]
    exact ⟨wsRel_upd hrel hp _ (fun q hq => jobs_setJobs w hp hq _)
      (by rw [Ws.alookup_aset_self]; exact ⟨rfl, hR⟩) fun i hi => Ws.alookup_aset_ne hi _ _, rfl⟩

theorem ws_move {A : AbsW JVal} {w : Ws.World} (hrel : WsRel R A w) (h : String) (hd : Ws.Handle) (p : Nat)
    (hh : Ws.alookup h w.handles = some hd) (hp : hd.proj < 2) (hp' : p < 2) (hne : hd.proj ≠ p) :
    WsRel R (specMove (hd.proj, hash hd.sp) (p, hash hd.sp) A).1 (Ws.step hash w (.move h p)).1 ∧
      resMap (Ws.step hash w (.move h p)).2 = (specMove (hd.proj, hash hd.sp) (p, hash hd.sp) A).2 := by
  simp only [Ws.step, hh]
  rcases hrel.at hp (hash hd.sp) with ⟨hsrc, hA⟩ | ⟨jd, P, hsrc, hA, hRP⟩
  · simp only [specMove, hsrc, hA]
    exact ⟨hrel, rfl⟩
  · simp only [if_neg hne]
    rcases hrel.at hp' (hash hd.sp) with ⟨hdst, hA'⟩ | ⟨jd', P', hdst, hA', _⟩
    · simp only [specMove, hsrc, hdst, hA, hA', Option.isSome_none, Bool.false_eq_true, if_false]
      have hjobs : (w.setJobs hd.proj (Ws.aerase (hash hd.sp) (w.jobs hd.proj))).jobs p = w.jobs p := by
        rw [jobs_setJobs _ hp hp', if_neg (Ne.symm hne)]
      -- the job leaves the table of its project, then enters the table of `p`
      have hrel1 := wsRel_upd hrel hp (hash hd.sp) (a := none) (fun q hq => jobs_setJobs w hp hq _)
        (by rw [Ws.alookup_aerase_self]; trivial) fun i hi => Ws.alookup_aerase_ne hi _
      refine ⟨?_, rfl⟩
      rw [← aupd_comm _ fun h => hne (congrArg Prod.fst h)]
      exact wsRel_upd hrel1 hp' (hash hd.sp) (fun q hq => jobs_setJobs _ hp' hq _)
        (by rw [hjobs, alookup_append_self _ _ hdst]; exact ⟨rfl, hRP⟩)
        fun i hi => by rw [hjobs, alookup_append_ne hi]
    · simp only [specMove, hsrc, hdst, hA, hA', Option.isSome_some, if_true]
      exact ⟨hrel, rfl⟩

theorem ws_clone {A : AbsW JVal} {w : Ws.World} (hrel : WsRel R A w) (h h2 : String) (hd : Ws.Handle) (p : Nat)
    (hh : Ws.alookup h w.handles = some hd) (hp : hd.proj < 2) (hp' : p < 2) :
    WsRel R (specClone (hd.proj, hash hd.sp) (p, hash hd.sp) A).1 (Ws.step hash w (.clone h p h2)).1 ∧
      resMap (Ws.step hash w (.clone h p h2)).2 = (specClone (hd.proj, hash hd.sp) (p, hash hd.sp) A).2 := by
  simp only [Ws.step, hh]
  rcases hrel.at hp (hash hd.sp) with ⟨hsrc, hA⟩ | ⟨jd, P, hsrc, hA, hRP⟩
  · simp only [specClone, hsrc, hA]
    exact ⟨hrel, rfl⟩
  · rcases hrel.at hp' (hash hd.sp) with ⟨hdst, hA'⟩ | ⟨jd', P', hdst, hA', _⟩
    · simp only [specClone, hsrc, hdst, hA, hA', Option.isSome_none, Bool.false_eq_true, if_false]
      exact ⟨wsRel_upd hrel hp' _ (j' := w.jobs p ++ [(hash hd.sp, jd)]) (fun q hq => jobs_setJobs _ hp' hq _)
        (by rw [alookup_append_self _ _ hdst]; exact ⟨rfl, hRP⟩) fun i hi => alookup_append_ne hi _ _, rfl⟩
    · simp only [specClone, hsrc, hdst, hA, hA', Option.isSome_some, if_true]
      exact ⟨hrel, rfl⟩

end

/-- gluing a refinement statement to a `Ws` statement about the same abstract operation -/
theorem glue {C : Codec JVal} {p : Prog JVal} {w : Life.World JVal} {sp : AbsW JVal → AbsW JVal × Life.Res}
    (href : Refines C p w sp) {ws' : Ws.World} {r : Ws.Res}
    (h : WsRel R (sp (absW w)).1 ws' ∧ resMap r = (sp (absW w)).2) :
    Clean C (run C noEv p w).w ∧ WsRel R (absW (run C noEv p w).w) ws' ∧ (run C noEv p w).res = resMap r := by
  obtain ⟨hres, hclean, habs⟩ := href
  exact ⟨hclean, habs ▸ h.1, by rw [hres, h.2]⟩

end Signac.Refine
