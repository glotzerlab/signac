/-
  World-level facts: what every step of a run keeps (`Step`, `Grows`: handles keep their files, the
  ghost flag `hit` stays up, document files only appear); an operation outside blocks spelled out
  (`execOp_depth0`); the specification `specRun` (one plain dict per document) and the invariant
  `UInv` of unbuffered runs against it (`uinv_run`); `saved_on_disk`, `read_from_disk`.
-/
import Signac.Proofs.DocOps
import Batteries.Data.List.Basic
namespace Signac.Doc
open Signac

/-- the document a file cell stands for: no file = empty document -/
def content : Option JVal → JVal
  | none => .obj []
  | some v => v

/-- same document (`Sim`), an absent file being the empty document -/
def CSim (a b : Option JVal) : Prop := Sim (content a) (content b)

/-- no duplicate keys in any handle's value, file or buffer entry -/
structure WFWorld (w : World) : Prop where
  data : ∀ o, WF (w.data o)
  files : ∀ f v, w.files f = some v → WF v
  buf : ∀ f e, w.buf f = some e → WF e.contents

/-- the values a command stores are duplicate-free (`WFOp`) -/
def WFCmd : Cmd → Prop
  | .op _ d => WFOp d
  | _ => True

/-- a handle whose file does not exist holds the empty document -/
def Coherent (w : World) : Prop := ∀ o, w.files (w.fileOf o) = none → Sim (w.data o) (.obj [])

@[simp] theorem upd_same {α : Type} (f : Nat → α) (i : Nat) (v : α) : upd f i v i = v := if_pos rfl
theorem upd_other {α : Type} (f : Nat → α) {i j : Nat} (v : α) (h : j ≠ i) : upd f i v j = f j := if_neg h
@[simp] theorem upd_upd {α : Type} (f : Nat → α) (i : Nat) (a b : α) : upd (upd f i a) i b = upd f i b := by
  funext j; simp only [upd]; split <;> rfl
theorem upd_self {α : Type} (f : Nat → α) (i : Nat) : upd f i (f i) = f := by
  funext j; unfold upd; split
  · next h => rw [h]
  · rfl

theorem upd_forall {α : Type} {P : Nat → α → Prop} {f : Nat → α} {i : Nat} {v : α}
    (hv : P i v) (hf : ∀ j, j ≠ i → P j (f j)) (j : Nat) : P j (upd f i v j) := by
  unfold upd; split
  · next h => exact h ▸ hv
  · next h => exact hf j h

theorem run_nil (w : World) : run [] w = (w, []) := rfl
theorem run_cons (c : Cmd) (cs : List Cmd) (w : World) :
    run (c :: cs) w = ((run cs (execCmd w c).1).1, (execCmd w c).2 :: (run cs (execCmd w c).1).2) := rfl

/-- What every stretch of a run without `remove()` keeps: handles keep their files, the ghost flag
    stays up, document files only appear. -/
structure Grows (w w' : World) : Prop where
  fileOf : w'.fileOf = w.fileOf
  hit : w.hit = true → w'.hit = true
  files : ∀ f, w'.files f = none → w.files f = none

/-- ... and inside one operation the nesting depth of the blocks stays as well. -/
structure Step (w w' : World) : Prop extends Grows w w' where
  depth : w'.depth = w.depth

theorem Grows.trans {a b c : World} (h1 : Grows a b) (h2 : Grows b c) : Grows a c :=
  ⟨h2.fileOf.trans h1.fileOf, fun h => h2.hit (h1.hit h), fun f h => h1.files f (h2.files f h)⟩

theorem Grows.of_eq {w w' : World} (e1 : w'.fileOf = w.fileOf) (e2 : w'.hit = w.hit) (e3 : w'.files = w.files) :
    Grows w w' :=
  ⟨e1, fun h => e2 ▸ h, fun _ h => e3 ▸ h⟩

theorem Grows.after {w w' w'' : World} (h : Grows w' w'') (e1 : w'.fileOf = w.fileOf) (e2 : w'.hit = w.hit)
    (e3 : w'.files = w.files) : Grows w w'' :=
  (Grows.of_eq e1 e2 e3).trans h

theorem Grows.hit_false {w w' : World} (g : Grows w w') (h : w'.hit = false) : w.hit = false :=
  Bool.eq_false_iff.mpr fun hw => Bool.eq_false_iff.mp h (g.hit hw)

theorem Step.of_eq {w w' : World} (e1 : w'.fileOf = w.fileOf) (e2 : w'.hit = w.hit) (e3 : w'.files = w.files)
    (e4 : w'.depth = w.depth) : Step w w' :=
  ⟨.of_eq e1 e2 e3, e4⟩

theorem Step.refl (w : World) : Step w w := .of_eq rfl rfl rfl rfl

theorem Step.trans {a b c : World} (h1 : Step a b) (h2 : Step b c) : Step a c :=
  ⟨h1.toGrows.trans h2.toGrows, h2.depth.trans h1.depth⟩

theorem files_upd_some {files : Nat → Option JVal} {g f : Nat} {v : JVal}
    (h : upd files g (some v) f = none) : files f = none := by
  unfold upd at h; split at h
  · cases h
  · exact h

theorem step_loadU (w : World) (o : Nat) : Step w (loadU w o) :=
  ⟨⟨rfl, fun h => Bool.or_eq_true_iff.mpr (.inl h), fun _ => id⟩, rfl⟩

theorem step_saveU (w : World) (o : Nat) : Step w (saveU w o) :=
  ⟨⟨rfl, id, fun _ => files_upd_some⟩, rfl⟩

theorem step_setData (w : World) (o : Nat) (d : JVal) (b : Bool) : Step w (setData w o d b) :=
  ⟨⟨rfl, fun h => Bool.or_eq_true_iff.mpr (.inl h), fun _ => id⟩, rfl⟩

theorem step_mergeBlob (w : World) (o : Nat) (b : JVal) : Step w (mergeBlob w o b) :=
  ⟨⟨rfl, fun h => Bool.or_eq_true_iff.mpr (.inl h), fun _ => id⟩, rfl⟩

theorem touch_eq (w : World) (o : Nat) :
    touch w o = { w with order := if w.order.contains o then w.order else w.order ++ [o] } := by
  unfold touch; split <;> rfl

theorem step_touch (w : World) (o : Nat) : Step w (touch w o) :=
  touch_eq w o ▸ .of_eq rfl rfl rfl rfl

theorem touch_mem (w : World) (o : Nat) : o ∈ (touch w o).order := by
  rw [touch_eq]; dsimp only; split
  · next h => simpa using h
  · simp

theorem step_flushObj (w : World) (o : Nat) : Step w (flushObj w o) := by
  unfold flushObj; split
  · exact .refl w
  · split
    · exact ⟨⟨rfl, fun h => Bool.or_eq_true_iff.mpr (.inl h), fun _ => files_upd_some⟩, rfl⟩
    · exact .of_eq rfl rfl rfl rfl

theorem step_flushList (os : List Nat) (w : World) : Step w (flushList os w) := by
  induction os generalizing w with
  | nil => exact .refl w
  | cons o os ih => exact (step_flushObj w o).trans (ih _)

theorem step_flushAll (w : World) : Step w (flushAll w) :=
  (step_flushList w.order.reverse w).trans (.of_eq rfl rfl rfl rfl)

theorem step_maybeFlush (w : World) : Step w (maybeFlush w) := by
  unfold maybeFlush; split
  · exact step_flushAll w
  · exact .refl w

theorem step_bufInit (w : World) (o : Nat) : Step w (bufInit w o) := by
  unfold bufInit; split
  · exact .refl w
  · exact (step_loadU w o).trans (.of_eq rfl rfl rfl rfl)

theorem loadB_eq (w : World) (o : Nat) :
    loadB w o = match (touch (bufInit w o) o).buf (w.fileOf o) with
      | none => touch (bufInit w o) o
      | some e => mergeBlob (maybeFlush (touch (bufInit w o) o)) o e.contents := rfl

/-- the second part of a buffered load: a flush if the buffer is over capacity, then the merge -/
theorem step_loadB_tail (w : World) (o : Nat) : Step (touch (bufInit w o) o) (loadB w o) := by
  rw [loadB_eq]
  cases (touch (bufInit w o) o).buf (w.fileOf o) with
  | none => exact .refl _
  | some e => exact (step_maybeFlush _).trans (step_mergeBlob _ o _)

theorem step_loadB (w : World) (o : Nat) : Step w (loadB w o) :=
  ((step_bufInit w o).trans (step_touch _ o)).trans (step_loadB_tail w o)

theorem loadB_depth (w : World) (o : Nat) : (loadB w o).depth = w.depth := (step_loadB w o).depth
theorem loadB_fileOf (w : World) (o : Nat) : (loadB w o).fileOf = w.fileOf := (step_loadB w o).fileOf

theorem step_bufStore (w : World) (o : Nat) : Step w (bufStore w o) := by
  unfold bufStore; split <;> exact .of_eq rfl rfl rfl rfl

theorem step_saveB (w : World) (o : Nat) : Step w (saveB w o) :=
  ((step_touch w o).trans (step_bufStore _ o)).trans (step_maybeFlush _)

theorem saveB_depth (w : World) (o : Nat) : (saveB w o).depth = w.depth := (step_saveB w o).depth
theorem saveB_fileOf (w : World) (o : Nat) : (saveB w o).fileOf = w.fileOf := (step_saveB w o).fileOf

theorem step_load (w : World) (o : Nat) : Step w (load w o) := by
  unfold load; split
  · exact step_loadU w o
  · exact step_loadB w o

theorem step_save (w : World) (o : Nat) : Step w (save w o) := by
  unfold save; split
  · exact step_saveU w o
  · exact step_saveB w o

theorem step_execOp (w : World) (o : Nat) (op : DictOp) : Step w (execOp w o op).1 := by
  unfold execOp; split
  · dsimp only; split
    · exact ((step_load w o).trans (step_setData _ o _ _)).trans (step_save _ o)
    · exact (step_load w o).trans (step_setData _ o _ _)
  · exact (step_setData w o _ _).trans (step_save _ o)

theorem grows_setCap (w : World) (c : Nat) : Grows w (setCap w c) := by
  unfold setCap; dsimp only; split
  · exact (step_flushAll { w with cap := c }).toGrows.after rfl rfl rfl
  · exact .of_eq rfl rfl rfl

theorem grows_exitFlush (w : World) : Grows w (exitFlush w) := by
  unfold exitFlush; dsimp only; split
  · exact (step_flushAll { w with depth := w.depth - 1 }).toGrows.after rfl rfl rfl
  · exact .of_eq rfl rfl rfl

theorem grows_popCap (w : World) : Grows w (popCap w) := by
  unfold popCap; split
  · exact .of_eq rfl rfl rfl
  · exact .of_eq rfl rfl rfl
  · exact (grows_setCap { w with capStack := _ } _).after rfl rfl rfl

theorem grows_execCmd {w : World} {c : Cmd} (hc : ∀ g, c ≠ .rm g) : Grows w (execCmd w c).1 := by
  cases c with
  | op o d => exact (step_execOp w o d).toGrows
  | enter cap =>
    cases cap with
    | none => exact .of_eq rfl rfl rfl
    | some c =>
      exact (grows_setCap { w with depth := w.depth + 1, capStack := some w.cap :: w.capStack } c).after
        rfl rfl rfl
  | exit =>
    simp only [execCmd]; split
    · exact .of_eq rfl rfl rfl
    · exact (grows_exitFlush w).trans (grows_popCap _)
  | rm g => exact absurd rfl (hc g)
  | _ => exact .of_eq rfl rfl rfl

theorem hit_execCmd {w : World} (c : Cmd) (h : w.hit = true) : (execCmd w c).1.hit = true := by
  cases c with
  | rm f => exact h
  | _ => exact (grows_execCmd (by intro g e; cases e)).hit h

theorem execCmd_fileOf (w : World) (c : Cmd) : (execCmd w c).1.fileOf = w.fileOf := by
  cases c with
  | rm f => rfl
  | _ => exact (grows_execCmd (by intro g e; cases e)).fileOf

theorem grows_run (cs : List Cmd) {w : World} (hc : ∀ c ∈ cs, ∀ g, c ≠ .rm g) : Grows w (run cs w).1 := by
  induction cs generalizing w with
  | nil => exact .of_eq rfl rfl rfl
  | cons c cs ih =>
    rw [run_cons]
    exact (grows_execCmd (hc c List.mem_cons_self)).trans (ih fun c' h' => hc c' (List.mem_cons_of_mem _ h'))

theorem hit_run (cs : List Cmd) {w : World} (h : w.hit = true) : (run cs w).1.hit = true := by
  induction cs generalizing w with
  | nil => exact h
  | cons c cs ih => rw [run_cons]; exact ih (hit_execCmd c h)

theorem hit_false_of_run {cs : List Cmd} {w : World} (h : (run cs w).1.hit = false) : w.hit = false :=
  Bool.eq_false_iff.mpr fun hw => Bool.eq_false_iff.mp h (hit_run cs hw)

theorem loadedFrom_sim {d : JVal} {f : Option JVal} (hd : WF d) (hf : ∀ v, f = some v → WF v)
    (hh : loadHit d f = false) (hc : f = none → Sim d (.obj [])) : Sim (loadedFrom d f) (content f) := by
  cases f with
  | none => exact hc rfl
  | some v => exact merge_sim hd (hf v rfl) hh

theorem wf_loadedFrom {d : JVal} {f : Option JVal} (hd : WF d) (hf : ∀ v, f = some v → WF v) :
    WF (loadedFrom d f) := by
  cases f with
  | none => exact hd
  | some v => exact wf_merge hd (hf v rfl)

/-! the specification: one plain dict per document -/
def specCmd (fileOf : Nat → Nat) (S : Nat → JVal) : Cmd → (Nat → JVal) × Out
  | .op o d => (upd S (fileOf o) (plainOp d (S (fileOf o))).val, (plainOp d (S (fileOf o))).out)
  | .file f => (S, .val (S f))
  | .rm f => (upd S f (.obj []), .none)
  | .hit => (S, .val (.bool false))
  | .enter _ => (S, .none)
  | .exit => (S, .none)
  | .reopen _ => (S, .none)

def specRun (fileOf : Nat → Nat) : List Cmd → (Nat → JVal) → (Nat → JVal) × List Out
  | [], S => (S, [])
  | c :: cs, S => ((specRun fileOf cs (specCmd fileOf S c).1).1,
                   (specCmd fileOf S c).2 :: (specRun fileOf cs (specCmd fileOf S c).1).2)

theorem specRun_cons (fileOf : Nat → Nat) (c : Cmd) (cs : List Cmd) (S : Nat → JVal) :
    specRun fileOf (c :: cs) S = ((specRun fileOf cs (specCmd fileOf S c).1).1,
      (specCmd fileOf S c).2 :: (specRun fileOf cs (specCmd fileOf S c).1).2) := rfl

/-- outputs agree: same kind, values `Sim`; an absent file reads as the empty document -/
def OutSimF (a b : Out) : Prop := OutSim a b ∨ (a = .none ∧ ∃ s, b = .val s ∧ Sim (.obj []) s)

def Cmd.isBlock : Cmd → Bool
  | .enter _ => true
  | .exit => true
  | _ => false

/-- invariant of an unbuffered run against its specification -/
structure UInv (w : World) (S : Nat → JVal) : Prop where
  depth : w.depth = 0
  wf : WFWorld w
  coh : Coherent w
  sim : ∀ f, Sim (content (w.files f)) (S f)

/-- the in-memory value an operation acts on (after the load, if the operation loads) -/
def opData (w : World) (o : Nat) (op : DictOp) : JVal :=
  if op.loads then loadedFrom (w.data o) (w.files (w.fileOf o)) else w.data o

/-- ghost: does the operation's load meet `None` over a dict / list? -/
def opLoadHit (w : World) (o : Nat) (op : DictOp) : Bool :=
  op.loads && loadHit (w.data o) (w.files (w.fileOf o))

theorem noload_saved (op : DictOp) (d : JVal) (h : op.loads = false) : (memOp op d).saved = true := by
  cases op <;> first | rfl | cases h

/-- an operation outside buffered blocks, spelled out -/
theorem execOp_depth0 {w : World} (h : w.depth = 0) (o : Nat) (op : DictOp) :
    execOp w o op =
      ({ w with
          files := if (memOp op (opData w o op)).saved then
                     upd w.files (w.fileOf o) (some (memOp op (opData w o op)).val) else w.files,
          data := upd w.data o (memOp op (opData w o op)).val,
          hit := w.hit || (opLoadHit w o op || opHit op (opData w o op)) },
       (memOp op (opData w o op)).out) := by
  unfold execOp opData opLoadHit
  cases hl : op.loads with
  | true =>
    simp only [if_true, load, save, h, loadU, saveU, setData, upd_same, upd_upd, Bool.true_and, Bool.or_assoc]
    split <;> simp_all
  | false =>
    have := noload_saved op (w.data o) hl
    simp [save, h, saveU, setData, this]

theorem wf_opData {w : World} (hw : WFWorld w) (o : Nat) (op : DictOp) : WF (opData w o op) := by
  unfold opData; split
  · exact wf_loadedFrom (hw.data o) (hw.files _)
  · exact hw.data o

/-- an operation that is not followed by a save has loaded, and leaves what it loaded -/
theorem unsaved_val {w : World} {o : Nat} {op : DictOp} (hop : WFOp op)
    (hs : (memOp op (opData w o op)).saved = false) :
    (memOp op (opData w o op)).val = loadedFrom (w.data o) (w.files (w.fileOf o)) := by
  rw [memOp_unsaved hop _ hs]
  cases hl : op.loads with
  | true => exact if_pos hl
  | false => rw [noload_saved op _ hl] at hs; cases hs

theorem wfWorld_execOp0 {w : World} (hd : w.depth = 0) (hw : WFWorld w) (o : Nat) (op : DictOp)
    (hop : WFOp op) : WFWorld (execOp w o op).1 := by
  rw [execOp_depth0 hd]
  have hwr : WF (memOp op (opData w o op)).val := wf_memOp op (wf_opData hw o op) hop
  refine ⟨upd_forall hwr fun j _ => hw.data j, fun f' v hv => ?_, hw.buf⟩
  dsimp only at hv
  split at hv
  · exact upd_forall (P := fun _ x => ∀ v, x = some v → WF v) (fun v hv => by cases hv; exact hwr)
      (fun j _ => hw.files j) f' v hv
  · exact hw.files f' v hv

/-- what the operation does to its in-memory value is what a plain dict does to the document -/
theorem opData_res {w : World} {S : Nat → JVal} (I : UInv w S) (o : Nat) (op : DictOp) (hop : WFOp op)
    (h1 : opLoadHit w o op = false) (h2 : opHit op (opData w o op) = false) :
    ResSim (memOp op (opData w o op)) (plainOp op (S (w.fileOf o))) := by
  have hw := wf_opData I.wf o op
  cases hl : op.loads with
  | true =>
    refine memOp_plain_sim op ?_ hw hop h2
    rw [opData, if_pos hl]
    rw [opLoadHit, hl] at h1
    exact (loadedFrom_sim (I.wf.data o) (I.wf.files _) h1 (I.coh o)).trans (I.sim _)
  | false =>
    -- `clear` and `reset` do not look at the value they replace
    cases op <;> cases hl
    · exact ⟨.none, Sim.refl _, rfl⟩
    · exact ⟨.none, merge_sim hw hop h2, rfl⟩

theorem uinv_op {w : World} {S : Nat → JVal} (I : UInv w S) (o : Nat) (op : DictOp) (hop : WFOp op)
    (hh : (execOp w o op).1.hit = false) :
    UInv (execOp w o op).1 (specCmd w.fileOf S (.op o op)).1 ∧
    OutSim (execOp w o op).2 (specCmd w.fileOf S (.op o op)).2 := by
  have hwf := wfWorld_execOp0 I.depth I.wf o op hop
  rw [execOp_depth0 I.depth] at hh hwf ⊢
  simp only [Bool.or_eq_false_iff] at hh
  have hr := opData_res I o op hop hh.2.1 hh.2.2
  refine ⟨⟨I.depth, hwf, ?_, ?_⟩, hr.out⟩
  · intro o' hn
    dsimp only at hn ⊢
    by_cases hs : (memOp op (opData w o op)).saved = true
    · rw [if_pos hs] at hn
      have hf' : w.fileOf o' ≠ w.fileOf o := fun e => by rw [e, upd_same] at hn; cases hn
      rw [upd_other _ _ hf'] at hn
      rw [upd_other _ _ fun e => hf' (congrArg w.fileOf e)]; exact I.coh o' hn
    · rw [if_neg hs] at hn
      refine upd_forall (P := fun j x => w.files (w.fileOf j) = none → Sim x (.obj [])) (fun hn => ?_)
        (fun j _ => I.coh j) o' hn
      rw [unsaved_val hop (by simpa using hs), hn]; exact I.coh o hn
  · intro f'
    dsimp only [specCmd]
    by_cases hs : (memOp op (opData w o op)).saved = true
    · rw [if_pos hs]
      by_cases hf' : f' = w.fileOf o
      · subst hf'; rw [upd_same, upd_same]; exact hr.val
      · rw [upd_other _ _ hf', upd_other _ _ hf']; exact I.sim f'
    · rw [if_neg hs]
      have hs' : (plainOp op (S (w.fileOf o))).saved = false := by rw [← hr.saved]; simpa using hs
      rw [(regular_plainOp hop).unsaved hs', upd_self]; exact I.sim f'

/-- `remove()` and re-keying leave fresh handles on document `f`; the files may change with them -/
theorem uinv_fresh {w : World} {S : Nat → JVal} (I : UInv w S) (f : Nat) {files : Nat → Option JVal}
    {S' : Nat → JVal} (hwf : ∀ g v, files g = some v → WF v)
    (hcoh : ∀ o, w.fileOf o ≠ f → files (w.fileOf o) = none → w.files (w.fileOf o) = none)
    (hsim : ∀ g, Sim (content (files g)) (S' g)) :
    UInv { w with files := files, data := fun o => if w.fileOf o = f then .obj [] else w.data o } S' := by
  refine ⟨I.depth, ⟨fun o => ?_, hwf, I.wf.buf⟩, fun o hn => ?_, hsim⟩ <;> dsimp only at * <;> split
  · exact wf_empty
  · exact I.wf.data o
  · exact Sim.refl _
  · next hne => exact I.coh o (hcoh o hne hn)

theorem uinv_cmd {w : World} {S : Nat → JVal} (I : UInv w S) (c : Cmd) (hb : c.isBlock = false)
    (hc : WFCmd c) (hh : (execCmd w c).1.hit = false) :
    UInv (execCmd w c).1 (specCmd w.fileOf S c).1 ∧ OutSimF (execCmd w c).2 (specCmd w.fileOf S c).2 := by
  cases c with
  | op o d =>
    exact (uinv_op I o d hc hh).imp_right Or.inl
  | enter cap => cases hb
  | exit => cases hb
  | file f =>
    refine ⟨I, ?_⟩
    show OutSimF (match w.files f with | none => Out.none | some v => Out.val v) (Out.val (S f))
    have := I.sim f
    cases hf : w.files f with
    | none => rw [hf] at this; exact Or.inr ⟨rfl, _, rfl, this⟩
    | some v => rw [hf] at this; exact Or.inl (.val this)
  | hit =>
    refine ⟨I, Or.inl ?_⟩
    show OutSim (Out.val (.bool w.hit)) (Out.val (.bool false))
    rw [show w.hit = false from hh]; exact .val (Sim.refl _)
  | reopen f => exact ⟨uinv_fresh I f I.wf.files (fun _ _ h => h) I.sim, Or.inl .none⟩
  | rm f =>
    refine ⟨uinv_fresh I f ?_ (fun o hne hn => upd_other w.files none hne ▸ hn) fun f' => ?_, Or.inl .none⟩
    · exact upd_forall (P := fun _ x => ∀ v, x = some v → WF v) (fun _ hv => nomatch hv) fun j _ => I.wf.files j
    · show Sim (content (upd w.files f none f')) (upd S f (.obj []) f')
      by_cases hf' : f' = f
      · subst hf'; rw [upd_same, upd_same]; exact Sim.refl _
      · rw [upd_other _ _ hf', upd_other _ _ hf']; exact I.sim f'

theorem uinv_run (cs : List Cmd) : ∀ (w : World) (S : Nat → JVal), UInv w S →
    (∀ c ∈ cs, c.isBlock = false ∧ WFCmd c) → (run cs w).1.hit = false →
    UInv (run cs w).1 (specRun w.fileOf cs S).1 ∧
    List.Forall₂ OutSimF (run cs w).2 (specRun w.fileOf cs S).2 := by
  induction cs with
  | nil => intro w S I _ _; exact ⟨I, .nil⟩
  | cons c cs ih =>
    intro w S I hc hh
    rw [run_cons] at hh ⊢
    rw [specRun_cons]
    have hc0 := hc c List.mem_cons_self
    obtain ⟨I', ho⟩ := uinv_cmd I c hc0.1 hc0.2 (hit_false_of_run hh)
    have := ih (execCmd w c).1 _ I' (fun c' h' => hc c' (List.mem_cons_of_mem _ h')) hh
    rw [execCmd_fileOf] at this
    exact ⟨this.1, .cons ho this.2⟩

/-- a read through any handle whose file exists returns what is on disk -/
theorem read_from_disk {w : World} (hd : w.depth = 0) (hw : WFWorld w) (o' : Nat) {v : JVal}
    (hv : w.files (w.fileOf o') = some v) (hh : (execOp w o' .read).1.hit = false) :
    ∃ x, (execOp w o' .read).2 = .val x ∧ Sim x v := by
  rw [execOp_depth0 hd] at hh ⊢
  simp only [Bool.or_eq_false_iff] at hh
  refine ⟨opData w o' .read, rfl, ?_⟩
  have hl : loadHit (w.data o') (some v) = false := hv ▸ hh.2.1
  show Sim (loadedFrom (w.data o') (w.files (w.fileOf o'))) v
  rw [hv]
  exact merge_sim (hw.data o') (hw.files _ v hv) hl

theorem saved_on_disk {w : World} (hd : w.depth = 0) (o : Nat) (op : DictOp)
    (hs : (memOp op (opData w o op)).saved = true) :
    (execOp w o op).1.files (w.fileOf o) = some ((execOp w o op).1.data o) := by
  rw [execOp_depth0 hd]
  show (if _ then upd w.files (w.fileOf o) _ else w.files) (w.fileOf o) = some (upd w.data o _ o)
  rw [if_pos hs, upd_same, upd_same]

end Signac.Doc
