/-
  Helper lemmas for C06 (and the finding F-6b): when `doc` is not among the root keys of a filter
  (with `_root_keys` descending into `$not`), no atom of the filter looks into the job document,
  so indexing state points only is enough.  Core only.
-/
import Signac.Query
import Signac.Proofs.JValInd
namespace Signac.Query
open Signac

theorem takeWhile_append_stop {α : Type} (p : α → Bool) (a : List α) (x : α) (s : List α)
    (hx : p x = false) : List.takeWhile p (a ++ x :: s) = List.takeWhile p a := by
  induction a with
  | nil => simp [List.takeWhile, hx]
  | cons y ys ih =>
    simp only [List.cons_append, List.takeWhile]
    cases p y with
    | true => simp only [ih]
    | false => rfl

theorem headNode_append_dot (a s : List Char) : headNode (a ++ '.' :: s) = headNode a :=
  takeWhile_append_stop _ a '.' s (by decide)

theorem rootOf_dot (key k : String) : rootOf (key ++ "." ++ k) = rootOf key := by
  simp only [rootOf, String.toList_append]
  have : (".": String).toList = ['.'] := rfl
  rw [this, List.append_assoc, List.singleton_append, headNode_append_dot]

/-! ### `flatten`: every entry is replaced by the leaves below it -/

theorem flatten_eq_flatMap (l : List (String × JVal)) :
    flatten l = l.flatMap fun a => flattenVal a.1 a.2 := by
  induction l with
  | nil => rfl
  | cons a rest ih => rw [flatten, ih, List.flatMap_cons]

theorem flattenKVs_eq_flatMap (key : String) (kvs : List (String × JVal)) :
    flattenKVs key kvs = kvs.flatMap fun p => flattenVal (key ++ "." ++ p.1) p.2 := by
  induction kvs with
  | nil => rfl
  | cons p rest ih => rw [flattenKVs, ih, List.flatMap_cons]

/-- only a non-empty mapping is flattened further; every other value is a leaf -/
theorem flattenVal_cases (key : String) (v : JVal) :
    flattenVal key v = [(key, v)] ∨ ∃ kvs, kvs ≠ [] ∧ flattenVal key v = flattenKVs key kvs ∧ v = .obj kvs := by
  cases v with
  | obj kvs =>
    cases kvs with
    | nil => exact Or.inl rfl
    | cons p rest => exact Or.inr ⟨p :: rest, List.cons_ne_nil _ _, rfl, rfl⟩
  | _ => exact Or.inl rfl

theorem flattenVal_ne_nil : ∀ (v : JVal) (k : String), flattenVal k v ≠ [] := by
  intro v
  induction v using JVal.rec_mem with
  | obj kvs ih =>
    intro k
    rcases flattenVal_cases k (.obj kvs) with h | ⟨kvs', hne, h, e⟩
    · rw [h]; exact List.cons_ne_nil _ _
    · cases e
      obtain ⟨p, hp⟩ := List.exists_mem_of_ne_nil _ hne
      rw [h, flattenKVs_eq_flatMap]
      exact fun hnil => ih p hp _ (List.flatMap_eq_nil_iff.mp hnil p hp)
  | _ => exact fun _ => List.cons_ne_nil _ _

theorem flatten_cons_ne_nil (kv : String × JVal) (rest : List (String × JVal)) :
    flatten (kv :: rest) ≠ [] := fun h =>
  flattenVal_ne_nil kv.2 kv.1 (List.append_eq_nil_iff.mp (by rw [flatten] at h; exact h)).1

theorem flattenVal_root : ∀ (v : JVal) (key : String) (kv : String × JVal),
    kv ∈ flattenVal key v → rootOf kv.1 = rootOf key := by
  intro v
  induction v using JVal.rec_mem with
  | obj kvs ih =>
    intro key kv hkv
    rcases flattenVal_cases key (.obj kvs) with h | ⟨kvs', _, h, e⟩
    · rw [h] at hkv; rw [List.mem_singleton.mp hkv]
    · cases e
      rw [h, flattenKVs_eq_flatMap] at hkv
      obtain ⟨p, hp, hkv⟩ := List.mem_flatMap.mp hkv
      rw [ih p hp _ kv hkv, rootOf_dot]
  | _ => exact fun key kv hkv => by rw [List.mem_singleton.mp hkv]

theorem flatten_root (atoms : List (String × JVal)) (kv : String × JVal)
    (h : kv ∈ flatten atoms) : ∃ a ∈ atoms, rootOf kv.1 = rootOf a.1 := by
  rw [flatten_eq_flatMap] at h
  obtain ⟨a, ha, h⟩ := List.mem_flatMap.mp h
  exact ⟨a, ha, flattenVal_root a.2 a.1 kv h⟩

theorem splitDot_head : ∀ cs : List Char, ∃ t, splitDot cs = headNode cs :: t
  | [] => ⟨[], rfl⟩
  | c :: cs => by
    obtain ⟨t, ht⟩ := splitDot_head cs
    by_cases hc : c = '.'
    · subst hc
      exact ⟨splitDot cs, by simp [splitDot, headNode, List.takeWhile]⟩
    · refine ⟨t, ?_⟩
      have : (c != '.') = true := by simp [hc]
      simp only [splitDot, if_neg hc, ht, headNode, List.takeWhile, this]

/-- the first component the index path of a key starts with -/
def firstNode : KeyKind → Option String
  | .plain (n :: _) => some n
  | .op (n :: _) _ => some n
  | _ => none

theorem dropLastNodes_head (h : List Char) : ∀ (x : List Char) (t : List (List Char)),
    dropLastNodes (h :: x :: t) = h :: dropLastNodes (x :: t) := by
  intro x t; rfl

/-- the index path of an analysed key is never empty, and it starts with the key's root or `""` -/
theorem analyseKey_first (key : String) :
    (∃ n, firstNode (analyseKey key) = some n ∧ (n = rootOf key ∨ n = "")) ∨ analyseKey key = .bad := by
  unfold analyseKey
  simp only
  obtain ⟨t, ht⟩ := splitDot_head key.toList
  by_cases h0 : countDollar key.toList = 0
  · rw [if_pos h0]
    left
    exact ⟨rootOf key, by simp [nodesOf, ht, firstNode, rootOf], Or.inl rfl⟩
  · rw [if_neg h0]
    by_cases h1 : countDollar key.toList > 1
    · rw [if_pos h1]; right; rfl
    · rw [if_neg h1]
      cases hl : lastNode (splitDot key.toList) with
      | nil => right; rfl
      | cons c rest =>
        by_cases hc : c = '$'
        · subst hc
          left
          simp only
          rw [ht]
          cases t with
          | nil => exact ⟨"", by simp [dropLastNodes, firstNode], Or.inr rfl⟩
          | cons x t' =>
            refine ⟨rootOf key, ?_, Or.inl rfl⟩
            simp [dropLastNodes, firstNode, rootOf]
        · right
          have : ∀ (r : List Char), (match c :: r with
              | '$' :: rest => KeyKind.op
                  (if (dropLastNodes (splitDot key.toList)).isEmpty then [""]
                   else (dropLastNodes (splitDot key.toList)).map String.ofList) (String.ofList ('$' :: rest))
              | _ => KeyKind.bad) = KeyKind.bad := by
            intro r
            split
            · rename_i heq; simp only [List.cons.injEq] at heq; exact absurd heq.1 hc
            · rfl
          exact this rest

/-- what holds of a mapping and passes to the values under its keys holds of whatever a path reaches -/
theorem getPath_preserves {Q : JVal → Prop}
    (hQ : ∀ kvs n w, Q (.obj kvs) → lookupKV n kvs = some w → Q w) {nodes : List String} :
    ∀ {d w : JVal}, Q d → getPath nodes d = some w → Q w := by
  induction nodes with
  | nil => intro d w hd h; cases h; exact hd
  | cons n ns ih =>
    intro d w hd h
    cases d with
    | obj kvs =>
      simp only [getPath] at h
      cases hl : lookupKV n kvs with
      | none => rw [hl] at h; cases h
      | some x => rw [hl] at h; exact ih (hQ kvs n x hd hl) h
    | _ => cases h

theorem getPath_sp_only {n : String} (ns : List String) (hn : n ≠ "doc") (s x : JVal) :
    getPath (n :: ns) (.obj [("sp", s)]) = getPath (n :: ns) (.obj [("sp", s), ("doc", x)]) := by
  simp only [getPath, lookupKV]
  by_cases h : n = "sp"
  · simp [h]
  · simp [h, hn]

/-- an atom's verdict depends on the document only through the value under its index path -/
theorem evalAtom_congr {P : Params} {d d' : JVal} {k : String} {v : JVal}
    (h : ∀ nodes, (analyseKey k = .plain nodes ∨ ∃ op, analyseKey k = .op nodes op) →
      getPath nodes d = getPath nodes d') :
    evalAtom P d k v = evalAtom P d' k v := by
  unfold evalAtom
  cases hk : analyseKey k with
  | bad => rfl
  | plain nodes => simp only [h nodes (Or.inl hk)]
  | op nodes op => simp only [h nodes (Or.inr ⟨op, hk⟩)]

theorem evalAtom_doc_free {P : Params} {k : String} (hk : rootOf k ≠ "doc") (v s x : JVal) :
    evalAtom P (.obj [("sp", s)]) k v = evalAtom P (.obj [("sp", s), ("doc", x)]) k v := by
  apply evalAtom_congr
  intro nodes hn
  rcases analyseKey_first k with ⟨n, hf, hroot⟩ | hbad
  · have hne : n ≠ "doc" := by
      rcases hroot with rfl | rfl
      · exact hk
      · decide
    rcases hn with hn | ⟨op, hn⟩
    · rw [hn] at hf
      cases nodes with
      | nil => simp [firstNode] at hf
      | cons m ms =>
        simp only [firstNode, Option.some.injEq] at hf
        subst hf
        exact getPath_sp_only ms hne s x
    · rw [hn] at hf
      cases nodes with
      | nil => simp [firstNode] at hf
      | cons m ms =>
        simp only [firstNode, Option.some.injEq] at hf
        subst hf
        exact getPath_sp_only ms hne s x
  · rcases hn with hn | ⟨op, hn⟩ <;> rw [hbad] at hn <;> cases hn

theorem evalAtoms_congr {P : Params} {d d' : JVal} (l : List (String × JVal))
    (h : ∀ kv ∈ l, evalAtom P d kv.1 kv.2 = evalAtom P d' kv.1 kv.2) :
    evalAtoms P d l = evalAtoms P d' l := by
  induction l with
  | nil => rfl
  | cons kv rest ih =>
    obtain ⟨k, v⟩ := kv
    rw [evalAtoms, evalAtoms, h (k, v) List.mem_cons_self,
      ih (fun kv hkv => h kv (List.mem_cons_of_mem _ hkv))]

mutual
  /-- a filter that does not mention `doc` among its root keys (at any depth, `$not` included)
      evaluates the same with and without the job document -/
  theorem evalRef_doc_free {P : Params} (s x : JVal) : ∀ f : Flt, ¬ "doc" ∈ rootKeys f →
      evalRef P (.obj [("sp", s)]) f = evalRef P (.obj [("sp", s), ("doc", x)]) f
    | .mk atoms n a o, h => by
      simp only [rootKeys, List.mem_append, not_or] at h
      obtain ⟨⟨⟨h1, h2⟩, h3⟩, h4⟩ := h
      have e1 : evalAtoms P (.obj [("sp", s)]) (flatten atoms)
          = evalAtoms P (.obj [("sp", s), ("doc", x)]) (flatten atoms) := by
        apply evalAtoms_congr
        intro kv hkv
        obtain ⟨a', ha', hr⟩ := flatten_root atoms kv hkv
        apply evalAtom_doc_free
        rw [hr]
        intro hd
        exact h1 (List.mem_map.mpr ⟨a', ha', hd⟩)
      simp only [evalRef, e1, evalNot_doc_free s x n h2, evalAllOpt_doc_free s x a h3,
        evalAnyOpt_doc_free s x o h4]
  theorem evalNot_doc_free {P : Params} (s x : JVal) : ∀ n : Option Flt, ¬ "doc" ∈ rootKeysOpt n →
      evalNot P (.obj [("sp", s)]) n = evalNot P (.obj [("sp", s), ("doc", x)]) n
    | none, _ => rfl
    | some f, h => by simp only [evalNot, evalRef_doc_free s x f (by simpa [rootKeysOpt] using h)]
  theorem evalAllOpt_doc_free {P : Params} (s x : JVal) : ∀ a : Option (List Flt),
      ¬ "doc" ∈ rootKeysOptList a →
      evalAllOpt P (.obj [("sp", s)]) a = evalAllOpt P (.obj [("sp", s), ("doc", x)]) a
    | none, _ => rfl
    | some [], _ => rfl
    | some (f :: fs), h => by
      simp only [evalAllOpt]
      exact evalAll_doc_free s x (f :: fs) (by simpa [rootKeysOptList] using h)
  theorem evalAll_doc_free {P : Params} (s x : JVal) : ∀ fs : List Flt, ¬ "doc" ∈ rootKeysList fs →
      evalAll P (.obj [("sp", s)]) fs = evalAll P (.obj [("sp", s), ("doc", x)]) fs
    | [], _ => rfl
    | f :: fs, h => by
      simp only [rootKeysList, List.mem_append, not_or] at h
      simp only [evalAll, evalRef_doc_free s x f h.1, evalAll_doc_free s x fs h.2]
  theorem evalAnyOpt_doc_free {P : Params} (s x : JVal) : ∀ o : Option (List Flt),
      ¬ "doc" ∈ rootKeysOptList o →
      evalAnyOpt P (.obj [("sp", s)]) o = evalAnyOpt P (.obj [("sp", s), ("doc", x)]) o
    | none, _ => rfl
    | some [], _ => rfl
    | some (f :: fs), h => by
      simp only [evalAnyOpt]
      exact evalAny_doc_free s x (f :: fs) (by simpa [rootKeysOptList] using h)
  theorem evalAny_doc_free {P : Params} (s x : JVal) : ∀ fs : List Flt, ¬ "doc" ∈ rootKeysList fs →
      evalAny P (.obj [("sp", s)]) fs = evalAny P (.obj [("sp", s), ("doc", x)]) fs
    | [], _ => rfl
    | f :: fs, h => by
      simp only [rootKeysList, List.mem_append, not_or] at h
      simp only [evalAny, evalRef_doc_free s x f h.1, evalAny_doc_free s x fs h.2]
end

/-- what the code indexes is enough: the verdict on the indexed document is the verdict on the
    job's full data -/
theorem evalRef_indexed (P : Params) (j : Job) (f : Flt) :
    evalRef P (indexedDoc (includeDoc f) j) f = evalRef P (fullDoc j) f := by
  cases hi : includeDoc f with
  | true => rfl
  | false =>
    cases hd : j.doc with
    | none => simp only [indexedDoc, fullDoc, hd]
    | some x =>
      simp only [indexedDoc, fullDoc, hd]
      apply evalRef_doc_free
      simpa [includeDoc] using hi

end Signac.Query
