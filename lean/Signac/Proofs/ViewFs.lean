/-
  Proofs/ViewFs — the finite-map file system of Signac.LinkedView: what `vget` sees after
  `verase` / `vput`, `unlinkOrRmdir`, `mkdirP`, `makeLink`, and after removing a list of paths.
-/
import Signac.LinkedView
namespace Signac.LV

/-- `vget` and `linkTarget` are `List.lookup`, written with `if key = p` -/
theorem lookup_of_ite {β : Type} {f : List (Path × β) → Path → Option β} (hnil : ∀ p, f [] p = none)
    (hcons : ∀ x l p, f (x :: l) p = if x.1 = p then some x.2 else f l p) (l : List (Path × β))
    (p : Path) : f l p = l.lookup p := by
  induction l with
  | nil => exact hnil p
  | cons x xs ih =>
    rw [hcons, List.lookup_cons, ih]
    by_cases h : x.1 = p
    · rw [if_pos h, h, beq_self_eq_true]
    · rw [if_neg h, beq_false_of_ne (Ne.symm h)]

theorem vget_eq_lookup (v : View) (p : Path) : vget v p = v.lookup p :=
  lookup_of_ite (fun _ => rfl) (fun _ _ _ => rfl) v p

theorem linkTarget_eq_lookup (L : List (Path × String)) (p : Path) : linkTarget L p = L.lookup p :=
  lookup_of_ite (fun _ => rfl) (fun _ _ _ => rfl) L p

theorem vget_erase (v : View) (p q : Path) :
    vget (verase v p) q = if q = p then none else vget v q := by
  induction v with
  | nil => simp [verase, vget]
  | cons x xs ih =>
    simp only [verase, List.filter_cons, vget] at ih ⊢
    grind [vget]

theorem vget_put (v : View) (p q : Path) (e : Entry) :
    vget (vput v p e) q = if q = p then some e else vget v q := by
  rw [vput, vget, vget_erase]
  by_cases h : q = p
  · rw [if_pos h.symm, if_pos h]
  · rw [if_neg (Ne.symm h), if_neg h, if_neg h]

theorem vget_isSome_iff (v : View) (p : Path) : (vget v p).isSome ↔ ∃ x ∈ v, x.1 = p := by
  rw [vget_eq_lookup, List.lookup_isSome_iff]
  exact exists_congr fun x => and_congr_right fun _ => by rw [beq_iff_eq, eq_comm]

theorem hasChild_iff (v : View) (p : Path) :
    hasChild v p = true ↔ ∃ q, properPrefix p q = true ∧ (vget v q).isSome := by
  simp only [hasChild, List.any_eq_true, vget_isSome_iff]
  exact ⟨fun ⟨x, hx, hp⟩ => ⟨x.1, hp, x, hx, rfl⟩, fun ⟨_, hp, x, hx, e⟩ => ⟨x, hx, e ▸ hp⟩⟩

theorem properPrefix_iff (p q : Path) : properPrefix p q = true ↔ p <+: q ∧ p.length < q.length := by
  simp [properPrefix, List.isPrefixOf_iff_prefix]

theorem properPrefix_cons (a b : String) (p q : Path) :
    properPrefix (a :: p) (b :: q) = true ↔ a = b ∧ properPrefix p q = true := by
  simp [properPrefix, and_assoc]

theorem properPrefix_irrefl (p : Path) : properPrefix p p = false := by
  simp [properPrefix]

theorem properPrefix_of_prefix_of_proper {p q r : Path} (h1 : p <+: q) (h2 : properPrefix q r = true) :
    properPrefix p r = true := by
  rw [properPrefix_iff] at *
  exact ⟨h1.trans h2.1, Nat.lt_of_le_of_lt h1.length_le h2.2⟩

theorem properPrefix_of_proper_of_prefix {p q r : Path} (h1 : properPrefix p q = true) (h2 : q <+: r) :
    properPrefix p r = true := by
  rw [properPrefix_iff] at *
  exact ⟨h1.1.trans h2, Nat.lt_of_lt_of_le h1.2 h2.length_le⟩

theorem properPrefix_trans {p q r : Path} (h1 : properPrefix p q = true) (h2 : properPrefix q r = true) :
    properPrefix p r = true :=
  properPrefix_of_prefix_of_proper ((properPrefix_iff p q).mp h1).1 h2

theorem prefix_cases {p q : Path} (h : p <+: q) : p = q ∨ properPrefix p q = true := by
  by_cases hl : p.length < q.length
  · exact Or.inr ((properPrefix_iff p q).mpr ⟨h, hl⟩)
  · exact Or.inl (h.eq_of_length (Nat.le_antisymm h.length_le (Nat.not_lt.mp hl)))

theorem prefix_dropLast_iff {p q : Path} (hp : p ≠ []) :
    q <+: p.dropLast ↔ properPrefix q p = true := by
  have hlen : p.dropLast.length + 1 = p.length := by
    rw [List.length_dropLast]; exact Nat.sub_add_cancel (List.length_pos_iff.mpr hp)
  rw [properPrefix_iff]
  constructor
  · exact fun h => ⟨h.trans (List.dropLast_prefix p), hlen ▸ Nat.lt_succ_of_le h.length_le⟩
  · exact fun ⟨h1, h2⟩ => List.prefix_of_prefix_length_le h1 (List.dropLast_prefix p)
      (Nat.le_of_lt_succ (by rw [Nat.succ_eq_add_one, hlen]; exact h2))

theorem unlinkOrRmdir_ok {v : View} {p : Path} (hp : (vget v p).isSome)
    (hc : ∀ q, properPrefix p q = true → vget v q = none) :
    unlinkOrRmdir p v = .ok (verase v p) := by
  have : hasChild v p = false := by
    cases h : hasChild v p
    · rfl
    · obtain ⟨q, hq, hs⟩ := (hasChild_iff v p).mp h
      rw [hc q hq] at hs; cases hs
  obtain ⟨e, he⟩ := Option.isSome_iff_exists.mp hp
  cases e <;> simp [unlinkOrRmdir, he, this]

/-- Removing a list of paths that exist, is closed under "an existing path below" and never
    lists a path before one below it: every `unlink`/`rmdir` finds its path, and finds it empty. -/
theorem runSteps_remove (ps : List Path) (rest : List Step) (v : View)
    (hnd : ps.Nodup)
    (hpres : ∀ p ∈ ps, (vget v p).isSome)
    (hclosed : ∀ p ∈ ps, ∀ q, properPrefix p q = true → (vget v q).isSome → q ∈ ps)
    (hord : ps.Pairwise (fun a b => properPrefix a b = false)) :
    ∃ v', runSteps (ps.map Step.remove ++ rest) v = runSteps rest v' ∧
      ∀ q, vget v' q = if q ∈ ps then none else vget v q := by
  induction ps generalizing v with
  | nil => exact ⟨v, rfl, by simp⟩
  | cons p ps ih =>
    obtain ⟨hp, hnd⟩ := List.nodup_cons.mp hnd
    obtain ⟨hpp, hord⟩ := List.pairwise_cons.mp hord
    have hc : ∀ q, properPrefix p q = true → vget v q = none := by
      intro q hq
      cases h : vget v q with
      | none => rfl
      | some e =>
        rcases List.mem_cons.mp (hclosed p List.mem_cons_self q hq (by simp [h])) with e | hm
        · rw [e, properPrefix_irrefl] at hq; cases hq
        · rw [hpp q hm] at hq; cases hq
    obtain ⟨v', hrun, hget⟩ := ih (verase v p) hnd
      (fun p' hp' => by
        rw [vget_erase, if_neg (fun e : p' = p => hp (e ▸ hp'))]
        exact hpres p' (List.mem_cons_of_mem _ hp'))
      (fun p' hp' q hq hs => by
        rw [vget_erase] at hs
        split at hs
        · cases hs
        · next hqp =>
          exact (List.mem_cons.mp (hclosed p' (List.mem_cons_of_mem _ hp') q hq hs)).resolve_left hqp)
      hord
    refine ⟨v', ?_, fun q => ?_⟩
    · simp only [List.map_cons, List.cons_append, runSteps, runStep,
        unlinkOrRmdir_ok (hpres p List.mem_cons_self) hc]
      exact hrun
    · rw [hget q, vget_erase]
      by_cases hqp : q = p <;> simp [hqp]

theorem longer_prefix_cons (pre : Path) (c : String) (cs : List String) (q : Path) :
    (pre.length < q.length ∧ q <+: pre ++ c :: cs) ↔
      (q = pre ++ [c] ∨ ((pre ++ [c]).length < q.length ∧ q <+: pre ++ c :: cs)) := by
  have hp1 : pre ++ [c] <+: pre ++ c :: cs := List.append_cons pre c cs ▸ List.prefix_append _ cs
  have hlen : (pre ++ [c]).length = pre.length + 1 := List.length_append
  constructor
  · rintro ⟨hl, hq⟩
    by_cases hl' : (pre ++ [c]).length < q.length
    · exact Or.inr ⟨hl', hq⟩
    · have e : q.length = (pre ++ [c]).length := Nat.le_antisymm (Nat.not_lt.mp hl') (hlen ▸ hl)
      exact Or.inl ((List.prefix_of_prefix_length_le hq hp1 (Nat.le_of_eq e)).eq_of_length e)
  · rintro (e | ⟨hl, hq⟩)
    · exact ⟨by rw [e, hlen]; exact Nat.lt_succ_self _, e ▸ hp1⟩
    · exact ⟨Nat.lt_trans (Nat.lt_succ_self _) (by rw [hlen] at hl; exact hl), hq⟩

/-- `makedirs`: the missing directories strictly between `pre` and `pre ++ cs` appear; it fails
    only on a link in the way. -/
theorem mkdirP_ok (cs : List String) (pre : Path) (v : View)
    (h : ∀ q, pre.length < q.length → q <+: pre ++ cs → vget v q = none ∨ vget v q = some .dir) :
    ∃ v', mkdirP pre cs v = .ok v' ∧
      ∀ q, vget v' q = if pre.length < q.length ∧ q <+: pre ++ cs then some .dir else vget v q := by
  induction cs generalizing pre v with
  | nil =>
    refine ⟨v, rfl, fun q => (if_neg fun ⟨h1, h2⟩ => ?_).symm⟩
    rw [List.append_nil] at h2
    exact Nat.not_le_of_lt h1 h2.length_le
  | cons c cs ih =>
    have hcs : (pre ++ [c]) ++ cs = pre ++ c :: cs := (List.append_cons pre c cs).symm
    have key := longer_prefix_cons pre c cs
    -- one level: afterwards `pre ++ [c]` is a directory
    obtain ⟨v1, hrun1, hget1⟩ : ∃ v1, mkdirP pre (c :: cs) v = mkdirP (pre ++ [c]) cs v1 ∧
        ∀ q, vget v1 q = if q = pre ++ [c] then some .dir else vget v q := by
      obtain ⟨h1, h2⟩ := (key _).mpr (Or.inl rfl)
      rcases h (pre ++ [c]) h1 h2 with h0 | h0
      · exact ⟨vput v (pre ++ [c]) .dir, by simp only [mkdirP, h0], fun q => vget_put ..⟩
      · refine ⟨v, by simp only [mkdirP, h0], fun q => ?_⟩
        split
        · next e => rw [e, h0]
        · rfl
    obtain ⟨v', hrun, hget⟩ := ih (pre ++ [c]) v1 (fun q hl hq => by
      obtain ⟨h1, h2⟩ := (key q).mpr (Or.inr ⟨hl, hcs ▸ hq⟩)
      rw [hget1, if_neg (fun e => by rw [e] at hl; exact Nat.lt_irrefl _ hl)]
      exact h q h1 h2)
    refine ⟨v', hrun1.trans hrun, fun q => ?_⟩
    rw [hget, hget1, hcs]
    by_cases e : q = pre ++ [c]
    · rw [if_pos e, ite_self, if_pos ((key q).mpr (Or.inl e))]
    · simp only [key q, e, false_or, if_false]

theorem makeLink_ok {p : Path} {t : String} {v : View} (hne : p ≠ [])
    (hpre : ∀ q, q ≠ [] → properPrefix q p = true → vget v q = none ∨ vget v q = some .dir)
    (hfree : vget v p = none) :
    ∃ v', makeLink p t v = .ok v' ∧
      ∀ q, vget v' q = if q = p then some (.link t)
                       else if q ≠ [] ∧ properPrefix q p = true then some .dir else vget v q := by
  have hmid : ∀ q : Path, ((([] : Path).length < q.length ∧ q <+: [] ++ p.dropLast)) ↔
      (q ≠ [] ∧ properPrefix q p = true) := fun q => by
    rw [List.nil_append, prefix_dropLast_iff hne, List.length_nil, List.length_pos_iff]
  obtain ⟨v1, hrun, hget⟩ := mkdirP_ok p.dropLast [] v (fun q h1 h2 =>
    have := (hmid q).mp ⟨h1, h2⟩
    hpre q this.1 this.2)
  have hp1 : vget v1 p = none := by
    rw [hget, if_neg, hfree]
    rw [hmid, properPrefix_irrefl]
    simp
  refine ⟨vput v1 p (.link t), by simp [makeLink, hrun, hp1, hne], fun q => ?_⟩
  rw [vget_put, hget]
  simp only [hmid]

end Signac.LV
