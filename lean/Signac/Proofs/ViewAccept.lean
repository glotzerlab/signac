/-
  Proofs/ViewAccept — from the acceptance checks of `create_linked_view` to `Valid`.

  The link paths are normalised (`normpath(join(path, "job"))`) before the checks and a normalised
  path generated for two jobs is refused (the code as first examined checked raw strings: finding F-17e).  Hence
      createLinks jobs spec = .ok L → Valid L            (`valid_of_ok`)
  without side condition:
    nodup       the duplicate check on the normalised paths,
    noConflict  the leaf/node check,
    leafEnd     the raw path ends in the component "job", which survives `normpath`,
    plain       a normalised relative path has no "" or "." component; an absolute one starts with
                the component "" and is refused by the escape check.
-/
import Signac.Proofs.ViewChecks
namespace Signac.LV

theorem splitOnSep_ne_nil (cs : List Char) : splitOnSep cs ≠ [] := by
  induction cs with
  | nil => simp [splitOnSep]
  | cons c rest ih =>
    simp only [splitOnSep]
    split
    · simp
    · split <;> simp

theorem splitOnSep_append_sep (a b : List Char) :
    splitOnSep (a ++ sepChar :: b) = splitOnSep a ++ splitOnSep b := by
  induction a with
  | nil => simp [splitOnSep]
  | cons c rest ih =>
    simp only [List.cons_append, splitOnSep]
    split
    · simp [ih]
    · rw [ih]
      cases h : splitOnSep rest with
      | nil => exact absurd h (splitOnSep_ne_nil rest)
      | cons w ws => simp

theorem splitOnSep_no_sep {a : List Char} (h : sepChar ∉ a) : splitOnSep a = [a] := by
  induction a with
  | nil => simp [splitOnSep]
  | cons c rest ih =>
    simp only [List.mem_cons, not_or] at h
    simp only [splitOnSep]
    rw [if_neg (fun e => h.1 e.symm), ih h.2]

theorem splitOnSep_comp_no_sep (cs : List Char) : ∀ w ∈ splitOnSep cs, sepChar ∉ w := by
  induction cs with
  | nil => simp [splitOnSep]
  | cons c rest ih =>
    simp only [splitOnSep]
    split
    · intro w hw
      simp only [List.mem_cons] at hw
      rcases hw with rfl | hw
      · simp
      · exact ih w hw
    · rename_i hc
      cases h : splitOnSep rest with
      | nil => exact absurd h (splitOnSep_ne_nil rest)
      | cons w ws =>
        rw [h] at ih
        intro u hu
        simp only [List.mem_cons] at hu
        rcases hu with rfl | hu
        · simp only [List.mem_cons, not_or]
          exact ⟨fun e => hc e.symm, ih w List.mem_cons_self⟩
        · exact ih u (List.mem_cons_of_mem _ hu)

/-- `'/'.join` on character lists -/
def joinChars : List (List Char) → List Char
  | [] => []
  | [x] => x
  | x :: y :: rest => x ++ sepChar :: joinChars (y :: rest)

theorem joinChars_splitOnSep (cs : List Char) : joinChars (splitOnSep cs) = cs := by
  induction cs with
  | nil => simp [splitOnSep, joinChars]
  | cons c rest ih =>
    simp only [splitOnSep]
    split
    · rename_i hc
      cases h : splitOnSep rest with
      | nil => exact absurd h (splitOnSep_ne_nil rest)
      | cons w ws =>
        rw [h] at ih
        simp [joinChars, ih, hc]
    · cases h : splitOnSep rest with
      | nil => exact absurd h (splitOnSep_ne_nil rest)
      | cons w ws =>
        rw [h] at ih
        cases ws with
        | nil => simp only [joinChars] at ih ⊢; rw [ih]
        | cons y ys => simp only [joinChars, List.cons_append] at ih ⊢; rw [ih]

theorem splitOnSep_joinChars {ws : List (List Char)} (hne : ws ≠ [])
    (h : ∀ w ∈ ws, sepChar ∉ w) : splitOnSep (joinChars ws) = ws := by
  induction ws with
  | nil => exact absurd rfl hne
  | cons x rest ih =>
    cases rest with
    | nil => simp only [joinChars]; exact splitOnSep_no_sep (h x List.mem_cons_self)
    | cons y ys =>
      simp only [joinChars]
      rw [splitOnSep_append_sep, splitOnSep_no_sep (h x List.mem_cons_self),
        ih (by simp) (fun w hw => h w (List.mem_cons_of_mem _ hw))]
      rfl

theorem splitSep_injective {p q : String} (h : splitSep p = splitSep q) : p = q := by
  simp only [splitSep] at h
  have h' : splitOnSep p.toList = splitOnSep q.toList :=
    (List.map_inj_right (fun _ _ e => String.ofList_injective e)).mp h
  have := congrArg joinChars h'
  rw [joinChars_splitOnSep, joinChars_splitOnSep] at this
  exact String.toList_injective this

theorem splitSep_ne_nil (p : String) : splitSep p ≠ [] := by
  simp [splitSep, splitOnSep_ne_nil]

theorem splitSep_snoc_leaf {s : String} {a : List Char} (h : s.toList = a ++ sepChar :: leaf.toList) :
    splitSep s = (splitOnSep a).map String.ofList ++ [leaf] := by
  -- `decide +kernel`, here and in Properties/C17: the kernel evaluates the string functions of the
  -- model far faster than the elaborator does (evaluation by the kernel, no extra axiom)
  have hl : splitOnSep leaf.toList = [leaf.toList] := by decide +kernel
  rw [splitSep, h, splitOnSep_append_sep, hl, List.map_append, List.map_singleton,
    String.ofList_toList]

/-- the raw link path `join(path, "job")` ends in the component "job" (whatever the path string):
    `join` puts exactly one separator in front of it, or nothing when the path string is empty -/
theorem rawKey_shape (p : String) : ∃ X, splitSep (osJoin2 p leaf) = X ++ [leaf] := by
  have hj : osJoin2 p leaf = if p.isEmpty || endsWithSep p then p ++ leaf else p ++ "/" ++ leaf :=
    if_neg (by decide +kernel)
  by_cases h0 : p.isEmpty = true
  · rw [String.isEmpty_iff.mp h0]; exact ⟨[], by decide +kernel⟩
  · by_cases he : endsWithSep p = true
    · rw [hj, he, Bool.or_true, if_pos rfl]
      rw [endsWithSep, beq_iff_eq] at he
      obtain ⟨a, ha⟩ := List.getLast?_eq_some_iff.mp he
      exact ⟨_, splitSep_snoc_leaf (a := a) (by rw [String.toList_append, ha, List.append_assoc]; rfl)⟩
    · rw [hj, Bool.eq_false_iff.mpr h0, Bool.eq_false_iff.mpr he, if_neg (by decide)]
      exact ⟨_, splitSep_snoc_leaf (a := p.toList) (by
        rw [String.toList_append, String.toList_append, List.append_assoc]; rfl)⟩

/-- one round of the component loop: the stack is kept, popped, or an ordinary name or ".." is
    pushed -/
theorem normComps_cons (acc : List String) (c : String) :
    ∃ acc', (∀ cs, normComps acc (c :: cs) = normComps acc' cs) ∧
      ∀ x ∈ acc', x ∈ acc ∨ (x = c ∧ c ≠ "" ∧ c ≠ ".") := by
  by_cases h1 : (c = "" || c = ".") = true
  · exact ⟨acc, fun cs => by simp only [normComps, h1, if_true], fun x hx => Or.inl hx⟩
  · have push : ∀ x ∈ c :: acc, x ∈ acc ∨ (x = c ∧ c ≠ "" ∧ c ≠ ".") := fun x hx =>
      (List.mem_cons.mp hx).elim (fun e => Or.inr ⟨e, by simpa using h1⟩) Or.inl
    by_cases h2 : (c != "..") = true
    · exact ⟨c :: acc, fun cs => by simp only [normComps, h1, h2, if_true, if_false, Bool.false_eq_true], push⟩
    · cases acc with
      | nil => exact ⟨[c], fun cs => by simp only [normComps, h1, h2, if_false, Bool.false_eq_true], push⟩
      | cons a acc' =>
        by_cases h3 : a = ".."
        · exact ⟨c :: a :: acc', fun cs => by simp only [normComps, h1, h2, h3, if_true, if_false, Bool.false_eq_true], push⟩
        · exact ⟨acc', fun cs => by simp only [normComps, h1, h2, h3, if_false, Bool.false_eq_true],
            fun x hx => Or.inl (List.mem_cons_of_mem _ hx)⟩

theorem normComps_mem (acc cs : List String) :
    ∀ c ∈ normComps acc cs, c ∈ acc ∨ (c ∈ cs ∧ c ≠ "" ∧ c ≠ ".") := by
  induction cs generalizing acc with
  | nil => intro c hc; exact Or.inl (by simpa [normComps] using hc)
  | cons d rest ih =>
    intro c hc
    obtain ⟨acc', h1, h2⟩ := normComps_cons acc d
    rw [h1] at hc
    rcases ih acc' c hc with h | h
    · exact (h2 c h).imp_right fun ⟨e, h⟩ => ⟨e ▸ List.mem_cons_self, e ▸ h⟩
    · exact Or.inr ⟨List.mem_cons_of_mem _ h.1, h.2⟩

theorem normComps_append (acc xs ys : List String) :
    normComps acc (xs ++ ys) = normComps (normComps acc xs).reverse ys := by
  induction xs generalizing acc with
  | nil => simp [normComps]
  | cons c rest ih =>
    obtain ⟨acc', h1, _⟩ := normComps_cons acc c
    rw [List.cons_append, h1, h1, ih]

theorem normComps_leaf (acc X : List String) :
    normComps acc (X ++ [leaf]) = normComps acc X ++ [leaf] := by
  rw [normComps_append]
  have h1 : (leaf = "" || leaf = ".") = false := by decide +kernel
  have h2 : (leaf != "..") = true := by decide +kernel
  simp [normComps, h1, h2]

theorem normComps_nil_plain {cs : List String} {c : String} (h : c ∈ normComps [] cs) :
    c ∈ cs ∧ c ≠ "" ∧ c ≠ "." :=
  (normComps_mem [] cs c h).resolve_left List.not_mem_nil

theorem sep_toList : ("/" : String).toList = [sepChar] := by decide +kernel

theorem joinWith_sep_toList (cs : List String) :
    (joinWith "/" cs).toList = joinChars (cs.map String.toList) := by
  induction cs with
  | nil => simp [joinWith, joinChars]
  | cons x rest ih =>
    cases rest with
    | nil => simp [joinWith, joinChars]
    | cons y ys =>
      simp only [joinWith, String.toList_append, sep_toList, List.map_cons, joinChars] at ih ⊢
      rw [ih]
      simp

theorem splitSep_joinWith {cs : List String} (hne : cs ≠ []) (h : ∀ c ∈ cs, hasSep c = false) :
    splitSep (joinWith "/" cs) = cs := by
  simp only [splitSep, joinWith_sep_toList]
  rw [splitOnSep_joinChars (by simpa using hne)]
  · simp
  · intro w hw
    obtain ⟨c, hc, rfl⟩ := List.mem_map.mp hw
    simpa [hasSep] using h c hc

theorem splitSep_comp_no_sep (s : String) : ∀ c ∈ splitSep s, hasSep c = false := by
  intro c hc
  simp only [splitSep, List.mem_map] at hc
  obtain ⟨w, hw, rfl⟩ := hc
  have := splitOnSep_comp_no_sep s.toList w hw
  simpa [hasSep, String.toList_ofList] using this

/-- **Relative paths**: the link path is the list of normalised components. -/
theorem linkKey_rel {p : String} (h : startsWithSep (osJoin2 p leaf) = false) :
    linkKey p = normComps [] (splitSep (osJoin2 p leaf)) := by
  obtain ⟨X, hX⟩ := rawKey_shape p
  have hne : normComps [] (splitSep (osJoin2 p leaf)) ≠ [] := by
    rw [hX, normComps_leaf]; simp
  have hsplit := splitSep_joinWith hne
    (fun c hc => splitSep_comp_no_sep _ c (normComps_nil_plain hc).1)
  have hr : (joinWith "/" (normComps [] (splitSep (osJoin2 p leaf)))).isEmpty = false := by
    cases he : (joinWith "/" (normComps [] (splitSep (osJoin2 p leaf)))).isEmpty with
    | false => rfl
    | true =>
      -- it splits back into the normalised components, but "" splits into the component ""
      exfalso
      rw [String.isEmpty_iff.mp he] at hsplit
      have h0 : splitSep "" = [""] := by decide +kernel
      rw [h0] at hsplit
      exact (normComps_nil_plain (c := "") (by rw [← hsplit]; simp)).2.1 rfl
  simp only [linkKey, normpath, h, Bool.false_eq_true, if_false, hr]
  exact hsplit

theorem leadSlashes_toList (cs : List Char) : ∃ t, (leadSlashes cs).toList = sepChar :: t := by
  unfold leadSlashes
  split
  · exact ⟨[], by decide +kernel⟩
  · exact ⟨[sepChar], by decide +kernel⟩
  · exact ⟨[], by decide +kernel⟩

/-- **Absolute paths** keep their leading separator: the link path starts with the component "". -/
theorem linkKey_abs {p : String} (h : startsWithSep (osJoin2 p leaf) = true) :
    (linkKey p).head? = some "" := by
  obtain ⟨t, ht⟩ := leadSlashes_toList (osJoin2 p leaf).toList
  simp only [linkKey, normpath, h, if_true, splitSep, String.toList_append, ht, List.cons_append,
    splitOnSep, if_true, List.map_cons, List.head?_cons]

theorem escapes_of_head {k : Path} (h : k.head? = some "") : escapes k = true := by
  simp [escapes, h]

/-- shape of an accepted link path: normalised components, the last one "job" -/
theorem linkKey_shape {p : String} (he : escapes (linkKey p) = false) :
    ∃ Y, linkKey p = Y ++ [leaf] ∧ ∀ c ∈ linkKey p, c ≠ "" ∧ c ≠ "." := by
  cases hs : startsWithSep (osJoin2 p leaf) with
  | true =>
    rw [escapes_of_head (linkKey_abs hs)] at he
    cases he
  | false =>
    obtain ⟨X, hX⟩ := rawKey_shape p
    refine ⟨normComps [] X, by rw [linkKey_rel hs, hX, normComps_leaf], ?_⟩
    intro c hc
    rw [linkKey_rel hs] at hc
    exact (normComps_nil_plain hc).2

theorem keysOf_ok {jobs : List Job} {spec : PathSpec} {L : List (Path × String)}
    (h : createLinks jobs spec = .ok L) :
    ∃ ps, pathStrings jobs spec = some (.ok ps) ∧ keysOf L = ps.map linkKey := by
  obtain ⟨_, ps, h2, _, h4, _, _, _, h7⟩ := createLinks_ok h
  refine ⟨ps, h2, ?_⟩
  rw [h7, keysOf]
  exact List.map_fst_zip (by simp [h4])

/-- **Every accepted link set is valid.** -/
theorem valid_of_ok {jobs : List Job} {spec : PathSpec} {L : List (Path × String)}
    (h : createLinks jobs spec = .ok L) : Valid L := by
  obtain ⟨_, ps, h2, _, _, hnd, hesc, hstr, _⟩ := createLinks_ok h
  obtain ⟨ps', h2', hk⟩ := keysOf_ok h
  cases h2.symm.trans h2'
  rw [← hk] at hnd hesc hstr
  have hshape : ∀ k ∈ keysOf L, ∃ Y, k = Y ++ [leaf] ∧ ∀ c ∈ k, c ≠ "" ∧ c ≠ "." := by
    intro k hk'
    obtain ⟨p, _, rfl⟩ := List.mem_map.mp (hk ▸ hk')
    exact linkKey_shape (hesc _ hk')
  refine ⟨hnd, fun p hp q hq => ?_, fun p hp => ?_, fun p hp => (hshape p hp).elim fun _ h => h.2⟩
  · -- the leaf/node check speaks of non-empty paths only
    obtain ⟨Y, hY, _⟩ := hshape p hp
    exact hstr p hp q hq (by rw [hY]; simp)
  · obtain ⟨Y, hY, _⟩ := hshape p hp
    rw [hY]; simp

-- for the evaluations (`decide +kernel`) of concrete inputs in Properties/C17
deriving instance DecidableEq for LinkRes

end Signac.LV
