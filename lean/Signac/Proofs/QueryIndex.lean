/-
  C06, layer 1: the value index (`build_index` into a `_TypedSetDefaultDict`) groups jobs into
  slots, each with a stored key that shares the slot with the value of every member.  Whatever is
  read off the stored keys — a lookup, an operator — is therefore read off the jobs' own values,
  as long as it cannot tell keys of one slot apart.

  `slotEq` is an equivalence on keys all of whose mappings have distinct keys (`Full.okKey`).
-/
import Signac.Proofs.QueryValFull
import Signac.Proofs.QueryLogic
namespace Signac.Query
open Signac

theorem insert_mem_cases {k : IKey} {i : JobId} {idx : Index} {r : IKey} {ids : List JobId} :
    (r, ids) ∈ Index.insert k i idx →
      (r, ids) ∈ idx
      ∨ (∃ ids0, (r, ids0) ∈ idx ∧ ids = ids0 ++ [i] ∧ slotEq r k = true)
      ∨ (r = k ∧ ids = [i] ∧ ∀ g ∈ idx, slotEq g.1 k = false) := by
  induction idx with
  | nil =>
    intro h
    simp only [Index.insert, List.mem_singleton, Prod.mk.injEq] at h
    exact Or.inr (Or.inr ⟨h.1, h.2, by simp⟩)
  | cons g rest ih =>
    obtain ⟨r0, ids0⟩ := g
    intro h
    simp only [Index.insert] at h
    by_cases hs : slotEq r0 k = true
    · rw [if_pos hs] at h
      rcases List.mem_cons.mp h with h | h
      · simp only [Prod.mk.injEq] at h
        exact Or.inr (Or.inl ⟨ids0, by rw [h.1]; exact List.mem_cons_self, h.2, by rw [h.1]; exact hs⟩)
      · exact Or.inl (List.mem_cons_of_mem _ h)
    · rw [if_neg hs] at h
      rcases List.mem_cons.mp h with h | h
      · exact Or.inl (by rw [h]; exact List.mem_cons_self)
      · rcases ih h with h' | ⟨ids1, h1, h2, h3⟩ | ⟨h1, h2, h3⟩
        · exact Or.inl (List.mem_cons_of_mem _ h')
        · exact Or.inr (Or.inl ⟨ids1, List.mem_cons_of_mem _ h1, h2, h3⟩)
        · refine Or.inr (Or.inr ⟨h1, h2, ?_⟩)
          intro g hg
          rcases List.mem_cons.mp hg with rfl | hg
          · simpa using hs
          · exact h3 g hg

theorem insert_has {k : IKey} {i : JobId} (idx : Index) :
    ∃ r ids, (r, ids) ∈ Index.insert k i idx ∧ i ∈ ids := by
  induction idx with
  | nil => exact ⟨k, [i], by simp [Index.insert], by simp⟩
  | cons g rest ih =>
    obtain ⟨r0, ids0⟩ := g
    simp only [Index.insert]
    by_cases hs : slotEq r0 k = true
    · rw [if_pos hs]; exact ⟨r0, ids0 ++ [i], List.mem_cons_self, by simp⟩
    · rw [if_neg hs]
      obtain ⟨r, ids, h1, h2⟩ := ih
      exact ⟨r, ids, List.mem_cons_of_mem _ h1, h2⟩

theorem insert_keeps {k : IKey} {i : JobId} {idx : Index} {r : IKey} {ids : List JobId} :
    (r, ids) ∈ idx → ∃ ids', (r, ids') ∈ Index.insert k i idx ∧ ∀ j ∈ ids, j ∈ ids' := by
  induction idx with
  | nil => nofun
  | cons g rest ih =>
    obtain ⟨r0, ids0⟩ := g
    intro h
    simp only [Index.insert]
    by_cases hs : slotEq r0 k = true
    · rw [if_pos hs]
      rcases List.mem_cons.mp h with h | h
      · simp only [Prod.mk.injEq] at h
        exact ⟨ids0 ++ [i], by rw [h.1]; exact List.mem_cons_self, fun j hj => by rw [h.2] at hj; simp [hj]⟩
      · exact ⟨ids, List.mem_cons_of_mem _ h, fun j hj => hj⟩
    · rw [if_neg hs]
      rcases List.mem_cons.mp h with h | h
      · exact ⟨ids, by rw [h]; exact List.mem_cons_self, fun j hj => hj⟩
      · obtain ⟨ids', h1, h2⟩ := ih h
        exact ⟨ids', List.mem_cons_of_mem _ h1, h2⟩

theorem insert_pairwise {k : IKey} {i : JobId} {idx : Index} :
    idx.Pairwise (fun g g' => slotEq g.1 g'.1 = false) →
    (Index.insert k i idx).Pairwise (fun g g' => slotEq g.1 g'.1 = false) := by
  induction idx with
  | nil => intro _; simp [Index.insert]
  | cons g rest ih =>
    obtain ⟨r0, ids0⟩ := g
    intro h
    simp only [Index.insert]
    rw [List.pairwise_cons] at h
    by_cases hs : slotEq r0 k = true
    · rw [if_pos hs, List.pairwise_cons]
      exact ⟨h.1, h.2⟩
    · rw [if_neg hs, List.pairwise_cons]
      refine ⟨?_, ih h.2⟩
      intro g hg
      obtain ⟨r, ids⟩ := g
      rcases insert_mem_cases hg with h' | ⟨ids1, h1, _, _⟩ | ⟨h1, _, _⟩
      · exact h.1 _ h'
      · exact h.1 (r, ids1) h1
      · simp only at h1 ⊢; rw [h1]; simpa using hs

/-! ### the index built from a corpus -/

/-- What `buildIndexFrom` keeps true of the slot list after the documents `seen`.  `rep` and `memb`
    together let a fact about a stored key be moved to the value of any member (`idx_exists_iff`). -/
structure IdxInv (nodes : List String) (seen : List (JobId × JVal)) (idx : Index) : Prop where
  /-- every member of a slot holds a value sharing the slot with the stored key -/
  memb : ∀ r ids, (r, ids) ∈ idx → ∀ j ∈ ids,
    ∃ d w, (j, d) ∈ seen ∧ getPath nodes d = some w ∧ slotEq r (toIKey w) = true
  /-- every job holding a value is in some slot -/
  cover : ∀ j d w, (j, d) ∈ seen → getPath nodes d = some w → ∃ r ids, (r, ids) ∈ idx ∧ j ∈ ids
  /-- every stored key is the value of some job -/
  rep : ∀ r ids, (r, ids) ∈ idx → ∃ j d w, (j, d) ∈ seen ∧ getPath nodes d = some w ∧ r = toIKey w
  /-- stored keys are pairwise in different slots -/
  distinct : idx.Pairwise (fun g g' => slotEq g.1 g'.1 = false)

theorem IdxInv.nil (nodes : List String) : IdxInv nodes [] [] :=
  ⟨by simp, by simp, by simp, List.Pairwise.nil⟩

theorem IdxInv.skip {nodes : List String} {seen : List (JobId × JVal)} {idx : Index}
    (h : IdxInv nodes seen idx) {i : JobId} {d : JVal} (hd : getPath nodes d = none) :
    IdxInv nodes (seen ++ [(i, d)]) idx := by
  refine ⟨?_, ?_, ?_, h.distinct⟩
  · intro r ids hg j hj
    obtain ⟨d', w, h1, h2, h3⟩ := h.memb r ids hg j hj
    exact ⟨d', w, List.mem_append_left _ h1, h2, h3⟩
  · intro j d' w hj hw
    rcases List.mem_append.mp hj with hj | hj
    · exact h.cover j d' w hj hw
    · simp only [List.mem_singleton, Prod.mk.injEq] at hj
      rw [hj.2, hd] at hw; cases hw
  · intro r ids hg
    obtain ⟨j, d', w, h1, h2, h3⟩ := h.rep r ids hg
    exact ⟨j, d', w, List.mem_append_left _ h1, h2, h3⟩

theorem IdxInv.add {nodes : List String} {seen : List (JobId × JVal)} {idx : Index}
    (h : IdxInv nodes seen idx) {i : JobId} {d w : JVal} (hd : getPath nodes d = some w)
    (hf : slotEq (toIKey w) (toIKey w) = true) :
    IdxInv nodes (seen ++ [(i, d)]) (Index.insert (toIKey w) i idx) := by
  refine ⟨?_, ?_, ?_, insert_pairwise h.distinct⟩
  · intro r ids hg j hj
    rcases insert_mem_cases hg with h' | ⟨ids0, h1, h2, h3⟩ | ⟨h1, h2, _⟩
    · obtain ⟨d', w', a, b, c⟩ := h.memb r ids h' j hj
      exact ⟨d', w', List.mem_append_left _ a, b, c⟩
    · rw [h2] at hj
      rcases List.mem_append.mp hj with hj | hj
      · obtain ⟨d', w', a, b, c⟩ := h.memb r ids0 h1 j hj
        exact ⟨d', w', List.mem_append_left _ a, b, c⟩
      · simp only [List.mem_singleton] at hj
        exact ⟨d, w, by rw [hj]; simp, hd, h3⟩
    · rw [h2] at hj
      simp only [List.mem_singleton] at hj
      exact ⟨d, w, by rw [hj]; simp, hd, by rw [h1]; exact hf⟩
  · intro j d' w' hj hw
    rcases List.mem_append.mp hj with hj | hj
    · obtain ⟨r, ids, a, b⟩ := h.cover j d' w' hj hw
      obtain ⟨ids', a', b'⟩ := insert_keeps (k := toIKey w) (i := i) a
      exact ⟨r, ids', a', b' j b⟩
    · simp only [List.mem_singleton, Prod.mk.injEq] at hj
      obtain ⟨r, ids, a, b⟩ := insert_has (k := toIKey w) (i := i) idx
      exact ⟨r, ids, a, by rw [hj.1]; exact b⟩
  · intro r ids hg
    rcases insert_mem_cases hg with h' | ⟨ids0, h1, _, _⟩ | ⟨h1, _, _⟩
    · obtain ⟨j, d', w', a, b, c⟩ := h.rep r ids h'
      exact ⟨j, d', w', List.mem_append_left _ a, b, c⟩
    · obtain ⟨j, d', w', a, b, c⟩ := h.rep r ids0 h1
      exact ⟨j, d', w', List.mem_append_left _ a, b, c⟩
    · exact ⟨i, d, w, by simp, hd, h1⟩

theorem buildIndexFrom_inv {nodes : List String} (rest : List (JobId × JVal)) :
    ∀ (seen : List (JobId × JVal)) (idx : Index),
    (∀ j d w, (j, d) ∈ rest → getPath nodes d = some w → slotEq (toIKey w) (toIKey w) = true) →
    IdxInv nodes seen idx → IdxInv nodes (seen ++ rest) (buildIndexFrom nodes rest idx) := by
  induction rest with
  | nil => intro seen idx _ h; simpa [buildIndexFrom] using h
  | cons p rest ih =>
    obtain ⟨i, d⟩ := p
    intro seen idx hf h
    have hf' := fun j d' w hj hw => hf j d' w (List.mem_cons_of_mem _ hj) hw
    have e : seen ++ (i, d) :: rest = (seen ++ [(i, d)]) ++ rest := by simp
    rw [e]
    cases hd : getPath nodes d with
    | none =>
      simp only [buildIndexFrom, hd]
      exact ih _ idx hf' (h.skip hd)
    | some w =>
      simp only [buildIndexFrom, hd]
      exact ih _ _ hf' (h.add hd (hf i d w List.mem_cons_self hd))

/-! ### reading the index -/

theorem matchGroups_spec {h : IKey → Except Err Bool} {idx : Index} :
    (∀ r ids, (r, ids) ∈ idx → ∃ b, h r = .ok b) →
    ∃ m, matchGroups h idx = .ok m ∧
      ∀ i, i ∈ m ↔ ∃ r ids, (r, ids) ∈ idx ∧ i ∈ ids ∧ h r = .ok true := by
  induction idx with
  | nil => exact fun _ => ⟨[], rfl, by simp⟩
  | cons g rest ih =>
    obtain ⟨r0, ids0⟩ := g
    intro hok
    obtain ⟨b, hb⟩ := hok r0 ids0 List.mem_cons_self
    obtain ⟨m, hm, hsel⟩ := ih (fun r ids hg => hok r ids (List.mem_cons_of_mem _ hg))
    refine ⟨if b then ids0 ++ m else m, by simp only [matchGroups, hb, hm], ?_⟩
    intro i
    cases b with
    | true =>
      simp only [if_true, List.mem_append, hsel i, List.mem_cons]
      constructor
      · rintro (hi | ⟨r, ids, hg, hi, hr⟩)
        · exact ⟨r0, ids0, Or.inl rfl, hi, hb⟩
        · exact ⟨r, ids, Or.inr hg, hi, hr⟩
      · rintro ⟨r, ids, hg | hg, hi, hr⟩
        · simp only [Prod.mk.injEq] at hg; rw [hg.2] at hi; exact Or.inl hi
        · exact Or.inr ⟨r, ids, hg, hi, hr⟩
    | false =>
      simp only [Bool.false_eq_true, if_false, hsel i, List.mem_cons]
      constructor
      · rintro ⟨r, ids, hg, hi, hr⟩; exact ⟨r, ids, Or.inr hg, hi, hr⟩
      · rintro ⟨r, ids, hg | hg, hi, hr⟩
        · simp only [Prod.mk.injEq] at hg; rw [hg.1, hb] at hr; cases hr
        · exact ⟨r, ids, hg, hi, hr⟩

theorem mem_members {idx : Index} {i : JobId} :
    i ∈ idx.members ↔ ∃ r ids, (r, ids) ∈ idx ∧ i ∈ ids := by
  simp only [Index.members, List.mem_flatMap]
  constructor
  · rintro ⟨⟨r, ids⟩, hg, hi⟩; exact ⟨r, ids, hg, hi⟩
  · rintro ⟨r, ids, hg, hi⟩; exact ⟨(r, ids), hg, hi⟩

theorem idx_member {nodes : List String} {docs : List (JobId × JVal)} (hu : UniqueIds docs)
    {idx : Index} (inv : IdxInv nodes docs idx) {r : IKey} {ids : List JobId} (hg : (r, ids) ∈ idx)
    {i : JobId} (hi : i ∈ ids) {d w : JVal} (hd : (i, d) ∈ docs) (hw : getPath nodes d = some w) :
    slotEq r (toIKey w) = true := by
  obtain ⟨d', w', h1, h2, h3⟩ := inv.memb r ids hg i hi
  have : d' = d := hu i d' d h1 hd
  subst this
  rw [hw] at h2
  cases h2
  exact h3

/-- a property that two jobs' values sharing a slot cannot be told apart by -/
def SlotInvariant (docs : List (JobId × JVal)) (nodes : List String) (q : IKey → Prop) : Prop :=
  ∀ i d w j d' w', (i, d) ∈ docs → (j, d') ∈ docs → getPath nodes d = some w →
    getPath nodes d' = some w' → slotEq (toIKey w) (toIKey w') = true → (q (toIKey w) ↔ q (toIKey w'))

/-- The one way the index is read.  A job sits in a slot whose stored key has the slot-invariant
    property `q` iff the job's own value has it: the stored key is some job's value, and it shares
    the slot with the value of every member. -/
theorem idx_exists_iff {nodes : List String} {docs : List (JobId × JVal)} (hu : UniqueIds docs)
    {idx : Index} (inv : IdxInv nodes docs idx) {q : IKey → Prop} (hq : SlotInvariant docs nodes q)
    (i : JobId) :
    (∃ r ids, (r, ids) ∈ idx ∧ i ∈ ids ∧ q r) ↔
      ∃ d w, (i, d) ∈ docs ∧ getPath nodes d = some w ∧ q (toIKey w) := by
  have key : ∀ r ids, (r, ids) ∈ idx → i ∈ ids → ∀ d w, (i, d) ∈ docs → getPath nodes d = some w →
      (q r ↔ q (toIKey w)) := by
    intro r ids hg hi d w hd hw
    have hs := idx_member hu inv hg hi hd hw
    obtain ⟨j, d0, w0, a, b, rfl⟩ := inv.rep r ids hg
    exact hq j d0 w0 i d w a hd b hw hs
  constructor
  · rintro ⟨r, ids, hg, hi, hr⟩
    obtain ⟨d, w, hd, hw, _⟩ := inv.memb r ids hg i hi
    exact ⟨d, w, hd, hw, (key r ids hg hi d w hd hw).mp hr⟩
  · rintro ⟨d, w, hd, hw, hr⟩
    obtain ⟨r, ids, hg, hi⟩ := inv.cover i d w hd hw
    exact ⟨r, ids, hg, hi, (key r ids hg hi d w hd hw).mpr hr⟩

/-! ### well-formed keys: `slotEq` is an equivalence -/

namespace Full

def okKey : IKey → Bool
  | .val v => keysOK v
  | .dict => true

theorem okKey_of_slotEq {a c : IKey} (h : okKey a = true) (hs : slotEq a c = true) : okKey c = true := by
  cases a with
  | dict => cases c with
    | dict => rfl
    | val _ => cases hs
  | val v => cases c with
    | dict => rfl
    | val w =>
      simp only [slotEq, Bool.and_eq_true] at hs
      exact keysOK_of_pyEq v h w hs.1

theorem slotEq_refl {k : IKey} (h : okKey k = true) : slotEq k k = true := by
  cases k with
  | dict => rfl
  | val v => simp only [slotEq, Bool.and_eq_true, beq_self_eq_true, and_true]; exact pyEq_refl_wf v h

theorem slotEq_symm {a : IKey} (h : okKey a = true) {c : IKey} (hc : okKey c = true) :
    slotEq a c = slotEq c a := by
  cases a with
  | dict => cases c <;> rfl
  | val v =>
    cases c with
    | dict => rfl
    | val w =>
      simp only [slotEq]
      rw [pyEq_symm_wf v w h hc, BEq.comm (a := slotTag v)]

theorem slotEq_eucl {a b : IKey} (h : okKey a = true) (hab : slotEq a b = true)
    (c : IKey) : slotEq a c = slotEq b c := by
  cases a with
  | dict => cases b with
    | dict => rfl
    | val _ => cases hab
  | val v =>
    cases b with
    | dict => cases hab
    | val w =>
      simp only [slotEq, Bool.and_eq_true, beq_iff_eq] at hab
      cases c with
      | dict => rfl
      | val u =>
        simp only [slotEq]
        rw [pyEq_eucl_wf v h w u hab.1, hab.2]

theorem slotEq_right {a b : IKey} (ha : okKey a = true) (hb : okKey b = true)
    {c : IKey} (h1 : slotEq a c = true) (h2 : slotEq b c = true) : slotEq a b = true := by
  rw [slotEq_eucl ha h1 b, ← slotEq_symm hb (okKey_of_slotEq ha h1)]
  exact h2

def OkAt (nodes : List String) (docs : List (JobId × JVal)) : Prop :=
  ∀ j d w, (j, d) ∈ docs → getPath nodes d = some w → okKey (toIKey w) = true

theorem buildIndex_inv {nodes : List String} {docs : List (JobId × JVal)} (hf : OkAt nodes docs) :
    IdxInv nodes docs (buildIndex docs nodes) := by
  have := buildIndexFrom_inv docs [] [] (fun j d w hd hw => slotEq_refl (hf j d w hd hw)) (IdxInv.nil nodes)
  simpa [buildIndex] using this

theorem idx_ok_reps {nodes : List String} {docs : List (JobId × JVal)} (hok : OkAt nodes docs)
    {idx : Index} (inv : IdxInv nodes docs idx) : ∀ r ids, (r, ids) ∈ idx → okKey r = true := by
  intro r ids hg
  obtain ⟨j, d, w, h1, h2, h3⟩ := inv.rep r ids hg
  rw [h3]; exact hok j d w h1 h2

/-- `index.get(key)` returns the members of every slot whose stored key matches: with pairwise
    distinct stored keys there is at most one -/
theorem get_spec {key : IKey} {idx : Index} :
    idx.Pairwise (fun g g' => slotEq g.1 g'.1 = false) →
    (∀ r ids, (r, ids) ∈ idx → okKey r = true) →
    ∀ i, i ∈ Index.get key idx ↔ ∃ r ids, (r, ids) ∈ idx ∧ i ∈ ids ∧ slotEq r key = true := by
  induction idx with
  | nil => intro _ _ i; simp [Index.get]
  | cons g rest ih =>
    obtain ⟨r0, ids0⟩ := g
    intro hp hok i
    rw [List.pairwise_cons] at hp
    simp only [Index.get]
    by_cases hs : slotEq r0 key = true
    · rw [if_pos hs]
      constructor
      · intro hi; exact ⟨r0, ids0, List.mem_cons_self, hi, hs⟩
      · rintro ⟨r, ids, hg, hi, hr⟩
        rcases List.mem_cons.mp hg with hg | hg
        · simp only [Prod.mk.injEq] at hg; rw [hg.2] at hi; exact hi
        · -- a second matching slot would share the slot of the first
          have h1 : slotEq r0 r = true :=
            slotEq_right (hok r0 ids0 List.mem_cons_self) (hok r ids (List.mem_cons_of_mem _ hg)) hs hr
          have h2 : slotEq r0 r = false := hp.1 (r, ids) hg
          rw [h1] at h2; cases h2
    · rw [if_neg hs, ih hp.2 (fun r ids hg => hok r ids (List.mem_cons_of_mem _ hg)) i]
      constructor
      · rintro ⟨r, ids, hg, hi, hr⟩; exact ⟨r, ids, List.mem_cons_of_mem _ hg, hi, hr⟩
      · rintro ⟨r, ids, hg, hi, hr⟩
        rcases List.mem_cons.mp hg with hg | hg
        · simp only [Prod.mk.injEq] at hg; rw [hg.1] at hr; exact absurd hr hs
        · exact ⟨r, ids, hg, hi, hr⟩

theorem slotInvariant_slotEq {nodes : List String} {docs : List (JobId × JVal)}
    (hok : OkAt nodes docs) (key : IKey) :
    SlotInvariant docs nodes (fun r => slotEq r key = true) := by
  intro i d w j d' w' hd _ hw _ hs
  show slotEq (toIKey w) key = true ↔ slotEq (toIKey w') key = true
  rw [slotEq_eucl (hok i d w hd hw) hs key]

theorem get_mem_iff {nodes : List String} {docs : List (JobId × JVal)} (hu : UniqueIds docs)
    (hok : OkAt nodes docs) (key : IKey) (i : JobId) :
    i ∈ Index.get key (buildIndex docs nodes) ↔
      ∃ d w, (i, d) ∈ docs ∧ getPath nodes d = some w ∧ slotEq (toIKey w) key = true := by
  have inv := buildIndex_inv hok
  rw [get_spec inv.distinct (idx_ok_reps hok inv) i]
  exact idx_exists_iff hu inv (slotInvariant_slotEq hok key) i

end Full

end Signac.Query
