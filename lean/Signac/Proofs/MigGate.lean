/- Helper lemmas for C20: the version gate as seen through Project() / get_project /
   init_project (the functions of Signac.Discovery). -/
import Signac.Proofs.DiscJob
import Signac.Proofs.MigChain
namespace Signac.Disc
open Signac

section refused
variable {t : Tree} {p : Path} {v : Option Nat} (hc : t.cfg p = some v) (hv : v.getD 1 ≠ Mig.SCHEMA)
include hc hv

theorem openProject_wrongVersion : openProject t p = (.error .incompatible, []) :=
  openProject_refused hc fun h => hv ((Mig.gate_ok_iff _).mp h)

theorem getProject_refused (hk : t.kind p ≠ .absent) (s : Bool) :
    getProject t p s = (.error .incompatible, []) := by
  have hp : isProject t p = true := by rw [isProject, hc]; rfl
  cases s
  · rw [getProject_nosearch hk, if_pos hp, openProject_wrongVersion hc hv]
  · rw [getProject_search hk, getProjectFrom_found (findProject_self hp), openProject_wrongVersion hc hv]

theorem initProject_refused (hk : t.kind p ≠ .absent) :
    initProject t p = (.error .incompatible, []) := by
  rw [initProject_existing t p (by rw [isProject, hc]; rfl) hk, openProject_wrongVersion hc hv]

end refused

section legacy
variable {t : Tree} {p : Path} {v : Nat} (hr : t.rc p = some v) (hv : v ≠ Mig.SCHEMA)

include hr hv

theorem olderErr_legacy : olderErr t p = some .incompatible := by
  rw [olderErr, hr, Mig.raiseIfOlder, if_neg hv]

theorem openProject_legacy (hc : t.cfg p = none) : openProject t p = (.error .incompatible, []) := by
  rw [openProject_noConfig hc, olderErr_legacy hr hv]; rfl

theorem initProject_legacy (hc : t.cfg p = none) : initProject t p = (.error .incompatible, []) := by
  rw [initProject, getProject_nosearch_of_not_project (by rw [isProject, hc]; rfl)]
  simp only [olderErr_legacy hr hv]

theorem getProject_search_legacy (hk : t.kind p ≠ .absent)
    (hnone : ∀ r, r <:+ p → isProject t r = false) :
    getProject t p true = (.error .incompatible, []) := by
  rw [getProject_search hk, getProjectFrom_notFound ((findProject_none t p).mpr hnone),
    findOlder_self (olderErr_legacy hr hv)]
  rfl

end legacy

theorem getProject_ne_ok_of_noConfig {t : Tree} {p : Path} (hc : t.cfg p = none) (s : Bool) :
    (getProject t p s).1 ≠ .ok p := fun h => by
  have := (getProject_ok_anc t p p s h).2
  rw [isProject, hc] at this; cases this

end Signac.Disc
