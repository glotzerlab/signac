/-
  Idempotence of the directory walk of the sync model.  A destination directory in which none of
  the three loops of `_sync_job_workspaces` finds anything to do (`WalkQuiet`) is returned
  unchanged; a copy of the source directory is quiet, and so is the result of a successful real
  walk.  Core only.
-/
import Signac.Proofs.SyncDry
namespace Signac.Sync

/-! ### when a loop does nothing -/

/-- None of the three loops of `_sync_job_workspaces` finds anything to do in `D`.  The third
    conjunct speaks of the walk of the children itself and of every common sub-directory, excluded
    or not: the third loop does not look at the exclusion table. -/
def WalkQuiet (o : Opts) (sub : Path) (ses D : Entries) : Prop :=
  (∀ n sn, (n, sn) ∈ ses → getE n D = none → leftOnlyNode o n sn = none) ∧
  (∀ n ms md, (n, Node.file ms) ∈ ses → getE n D = some (.file md) →
    differs o.deep ms md = true → excluded o n = false → verdict o (sub ++ [n]) ms md = some false) ∧
  (o.recursive = true → ∀ n sch dch, (n, Node.dir sch) ∈ ses → getE n D = some (.dir dch) →
    (walkDir o (sub ++ [n]) (.dir sch) dch).d = dch ∧ (walkDir o (sub ++ [n]) (.dir sch) dch).err = none)

theorem phase1_noop {o : Opts} {sub : Path} {ses D : Entries} (h : WalkQuiet o sub ses D) (a : Acc) :
    phase1 o D ses a = a := by
  rw [phase1_eq, foldE_noop fun x hx => ?_]
  unfold step1
  split
  · next c hd hc => rw [h.1 x.1 x.2 hx hd] at hc; cases hc
  · rfl

theorem phase2_noop {o : Opts} {sub : Path} {ses D : Entries} (h : WalkQuiet o sub ses D) (a : Acc) :
    phase2 o sub D ses a = (a, none) := by
  rw [phase2_eq]
  refine foldE_noop fun x hx => ?_
  -- a conflict in `ses` has verdict "keep": neither the raising nor the overwriting iteration occurs
  rcases phase2_cons_all o sub D x.1 x.2 a with ⟨ms, md, hsk, hmd, hd, hx', hv, _⟩ | he | ⟨ms, md, hsk, hmd, hd, hx', hv, _⟩
  · rw [h.2.1 x.1 ms md (hsk ▸ hx) hmd hd hx'] at hv; cases hv
  · exact he []
  · rw [h.2.1 x.1 ms md (hsk ▸ hx) hmd hd hx'] at hv; cases hv

theorem walkSubs_noop (o : Opts) (sub : Path) (dst0 : Entries) (l : Entries)
    (h : ∀ n ses dch, (n, Node.dir ses) ∈ l → getE n dst0 = some (.dir dch) →
      (walkDir o (sub ++ [n]) (.dir ses) dch).d = dch ∧ (walkDir o (sub ++ [n]) (.dir ses) dch).err = none) :
    ∀ a : Acc, a.d = dst0 → (walkSubs o sub dst0 l a).d = dst0 ∧ (walkSubs o sub dst0 l a).err = none := by
  induction l with
  | nil => intro a ha; exact ⟨ha, rfl⟩
  | cons hd tl ih =>
    intro a ha
    obtain ⟨k, sk⟩ := hd
    have ih' := ih (fun n ses dch hm => h n ses dch (List.mem_cons_of_mem _ hm))
    by_cases hc : ∃ ses x dch, sk = .dir ses ∧ getE k dst0 = some (.dir x) ∧ getE k a.d = some (.dir dch)
    · obtain ⟨ses, x, dch, hsk, h1, h2⟩ := hc
      subst hsk
      rw [ha, h1] at h2
      cases h2
      have hch := h k ses x List.mem_cons_self h1
      rw [walkSubs_cons_common o sub dst0 k ses x x tl a h1 (by rw [ha]; exact h1)]
      simp only [hch.2]
      apply ih'
      simp only [subAcc, hch.1, ha]
      exact setE_getE h1
    · rw [walkSubs_cons_skip o sub dst0 k sk tl a hc]; exact ih' a ha

theorem WalkQuiet.noop {o : Opts} {sub : Path} {ses D : Entries} (h : WalkQuiet o sub ses D) :
    (walkDir o sub (.dir ses) D).d = D ∧ (walkDir o sub (.dir ses) D).err = none := by
  rw [walkDir_dir, err2, acc2, phase1_noop h, phase2_noop h]
  by_cases hr : o.recursive = true
  · simp only [hr, if_true]
    exact walkSubs_noop o sub D ses (h.2.2 hr) ⟨D, []⟩ rfl
  · simp [hr]

/-- quietness only looks at the names that are not excluded, and at directories -/
theorem WalkQuiet.of_agree {o : Opts} {sub : Path} {ses D D' : Entries} (h : WalkQuiet o sub ses D)
    (hag : ∀ n, excluded o n = false → getE n D' = getE n D)
    (hdir : ∀ n x, getE n D' = some (.dir x) → getE n D = some (.dir x)) : WalkQuiet o sub ses D' := by
  refine ⟨fun n sn hm hD => ?_, fun n ms md hm hD hdf hx => ?_, fun hr n sch dch hm hD => ?_⟩
  · cases hx : excluded o n with
    | true => simp [leftOnlyNode, hx]
    | false => exact h.1 n sn hm (hag n hx ▸ hD)
  · exact h.2.1 n ms md hm (hag n hx ▸ hD) hdf hx
  · exact h.2.2 hr n sch dch hm (hdir n dch hD)

/-! ### listings -/

theorem dir_induction {P : Entries → Prop}
    (step : ∀ ses, (∀ n sch, getE n ses = some (.dir sch) → P sch) → P ses) (ses : Entries) : P ses := by
  suffices h : ∀ c : Node, ∀ es, c = .dir es → P es from h _ ses rfl
  intro c
  induction c using Node.rec_mem with
  | file m => exact fun _ h => nomatch h
  | dir es ih =>
    rintro _ ⟨⟩
    exact step es fun n sch h => ih (n, .dir sch) (mem_of_getE h) sch rfl

theorem getE_of_mem {n : Name} {sn : Node} {es : Entries} (hnd : (names es).Nodup) (h : (n, sn) ∈ es) :
    getE n es = some sn := by
  induction es with
  | nil => cases h
  | cons hd tl ih =>
    obtain ⟨k, v⟩ := hd
    have hk : k ∉ names tl := (List.nodup_cons.mp hnd).1
    rcases List.mem_cons.mp h with he | hm
    · cases he; simp [getE]
    · have : k ≠ n := fun e => hk (e ▸ List.mem_map_of_mem (f := Prod.fst) hm)
      simp [getE, this, ih (List.nodup_cons.mp hnd).2 hm]

theorem differs_touch (deep : Bool) (now : Nat) (ms : FMeta) : differs deep ms (touch now ms) = false := by
  unfold differs sameSig touch
  by_cases h : ms.mtime = now <;> simp [h]

/-! ### a copy is quiet -/

/-- `D` holds a copy (fresh mtimes) of every entry of `ses` that `ignTop` does not leave out, and
    nothing else.  If everything a copy leaves out is excluded from the walk as well, and the walk
    has nothing to do in the copied sub-directories, it has nothing to do in `D`. -/
theorem WalkQuiet.of_copy {o : Opts} {ignTop ign : Name → Bool} {sub : Path} {ses D : Entries}
    (hD : ∀ k, getE k D = if ignTop k then none else (getE k ses).map (copyNode o.now ign))
    (hign : ∀ n, ignTop n = true → excluded o n = true) (hnd : (names ses).Nodup)
    (hsub : ∀ n sch, getE n ses = some (.dir sch) →
      WalkQuiet o (sub ++ [n]) sch (copyEntries o.now ign sch)) : WalkQuiet o sub ses D := by
  refine ⟨fun n sn hm h => ?_, fun n ms md hm h hdiff _ => ?_, fun _ n sch dch hm h => ?_⟩ <;>
    rw [hD, getE_of_mem hnd hm] at h <;> cases hi : ignTop n <;>
    simp only [hi, Bool.false_eq_true, if_false, if_true, Option.map, copyNode, reduceCtorEq,
      Option.some.injEq, Node.file.injEq, Node.dir.injEq] at h
  · simp [leftOnlyNode, hign n hi]
  · rw [← h, differs_touch] at hdiff; cases hdiff
  · exact h ▸ (hsub n sch (getE_of_mem hnd hm)).noop

theorem copy_quiet (o : Opts) (ign : Name → Bool) (hign : ∀ n, ign n = true → excluded o n = true)
    (sch : Entries) : ∀ sub, WFEntries sch → WalkQuiet o sub sch (copyEntries o.now ign sch) := by
  induction sch using dir_induction with
  | step sch ih =>
    intro sub hw
    exact .of_copy (getE_copyEntries o.now ign · sch) hign hw.nodup fun n s hs => ih n s hs _ (hw.sub hs)

/-! ### the result of a walk is quiet -/

/-- after a successful real walk each of the three loops finds nothing to do: what is still
    missing was skipped on purpose; written files are equal now and kept files are kept again;
    copied directories are copies, common ones are results of their own walk -/
theorem walk_quiet (o : Opts) (hdry : o.dry = false) (ses : Entries) : ∀ (sub : Path) (des : Entries),
    WFEntries ses → (walkDir o sub (.dir ses) des).err = none →
    WalkQuiet o sub ses (walkDir o sub (.dir ses) des).d := by
  induction ses using dir_induction with
  | step ses ih =>
  intro sub des hw hok
  have hnd := hw.nodup
  refine ⟨fun n sn hm hD => ?_, fun n ms md' hm hD hdiff hx => ?_, fun hrec n sch dch' hm hD => ?_⟩ <;>
    have hs := getE_of_mem hnd hm
  · cases hd : getE n des with
    | none =>
      rw [walkDir_get_leftonly o sub ses des n sn hnd hs hd, hdry] at hD
      simpa using hD
    | some dn =>
      exfalso
      cases sn with
      | file ms =>
        cases dn with
        | file md =>
          rcases walkDir_get_file_cases o sub ses des n ms md hnd hs hd with h' | h' <;> rw [h'] at hD <;> cases hD
        | dir x =>
          rw [walkDir_get_clash o sub ses des n _ _ hnd hs hd (Or.inl ⟨ms, x, rfl, rfl⟩)] at hD; cases hD
      | dir sch =>
        cases dn with
        | file md =>
          rw [walkDir_get_clash o sub ses des n _ _ hnd hs hd (Or.inr ⟨sch, md, rfl, rfl⟩)] at hD; cases hD
        | dir dch =>
          rcases walkDir_get_common o sub ses des n sch dch hnd hs hd with ⟨h', _⟩ | ⟨_, h', _⟩ <;>
            rw [h'] at hD <;> cases hD
  · cases hd : getE n des with
    | none =>
      rw [walkDir_get_leftonly o sub ses des n _ hnd hs hd, hdry] at hD
      simp only [Bool.false_eq_true, if_false, leftOnlyNode, hx] at hD
      cases hD
      rw [differs_touch] at hdiff; cases hdiff
    | some dn =>
      cases dn with
      | dir x =>
        rw [walkDir_get_clash o sub ses des n _ _ hnd hs hd (Or.inl ⟨ms, x, rfl, rfl⟩)] at hD; cases hD
      | file md =>
        by_cases hk : differs o.deep ms md = true ∧ excluded o n = false ∧ verdict o (sub ++ [n]) ms md = some true
        · rw [walkDir_get_file_overwritten o sub ses des n ms md hnd hs hd hk.1 hk.2.1 hk.2.2 hok hdry] at hD
          cases hD
          rw [differs_touch] at hdiff; cases hdiff
        · rw [walkDir_get_file_kept o sub ses des n ms md hnd hs hd hk] at hD
          cases hD
          have hv := phase2_ok_verdict o sub des ses _ (walkDir_err_none o sub ses des hok) n ms md'
            ⟨hs, hd, hdiff, hx⟩
          cases hvv : verdict o (sub ++ [n]) ms md' with
          | none => exact absurd hvv hv
          | some b =>
            cases b with
            | false => rfl
            | true => exact absurd ⟨hdiff, hx, hvv⟩ hk
  · cases hd : getE n des with
    | none =>
      rw [walkDir_get_leftonly o sub ses des n _ hnd hs hd, hdry] at hD
      simp only [Bool.false_eq_true, if_false, leftOnlyNode] at hD
      cases hx : excluded o n with
      | true => simp [hx] at hD
      | false =>
        simp only [hx, Bool.false_eq_true, if_false, hrec, if_true, Option.some.injEq, Node.dir.injEq] at hD
        exact hD ▸ (copy_quiet o (excluded o) (fun _ h => h) sch (sub ++ [n]) (hw.sub hs)).noop
    | some dn =>
      cases dn with
      | file md =>
        rw [walkDir_get_clash o sub ses des n _ _ hnd hs hd (Or.inr ⟨sch, md, rfl, rfl⟩)] at hD; cases hD
      | dir dch =>
        obtain ⟨h', h2⟩ := walkDir_get_common_ok o sub ses des n sch dch hnd hs hd hrec hok
        rw [h'] at hD
        cases hD
        exact (ih n sch hs (sub ++ [n]) dch (hw.sub hs) h2).noop

/-- the file part of `sync_idempotent` -/
theorem walk_idempotent (o : Opts) (hdry : o.dry = false) (ses : Entries) (sub : Path) (des : Entries)
    (hw : WFEntries ses) (hok : (walkDir o sub (.dir ses) des).err = none) :
    (walkDir o sub (.dir ses) (walkDir o sub (.dir ses) des).d).d = (walkDir o sub (.dir ses) des).d ∧
    (walkDir o sub (.dir ses) (walkDir o sub (.dir ses) des).d).err = none :=
  (walk_quiet o hdry ses sub des hw hok).noop

end Signac.Sync
