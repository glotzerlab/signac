/-
  Loops that thread a state and stop at the first error.  The loops of the directory walk and
  the loop over the jobs of the sync model have this shape (the loop of `ByKey` does not: it tests
  for the error at the head of the next iteration); what such a loop preserves, which
  errors it can end with, and what it does to the part of the state that belongs to one key of a
  duplicate-free list is proved here once, for an arbitrary loop body.  Core only, no imports.
-/
namespace Signac.Sync

variable {α β κ σ σ' ε γ : Type}

/-- run the body `f` over `l`; the first error ends the loop with the state reached -/
def foldE (f : α → σ → σ × Option ε) : List α → σ → σ × Option ε
  | [], s => (s, none)
  | x :: tl, s =>
    match (f x s).2 with
    | none => foldE f tl (f x s).1
    | some e => ((f x s).1, some e)

theorem foldE_cons_ok {f : α → σ → σ × Option ε} {x : α} {s : σ} (h : (f x s).2 = none) (tl : List α) :
    foldE f (x :: tl) s = foldE f tl (f x s).1 := by
  simp only [foldE, h]

theorem foldE_cons_err {f : α → σ → σ × Option ε} {x : α} {s : σ} {e : ε} (h : (f x s).2 = some e)
    (tl : List α) : foldE f (x :: tl) s = ((f x s).1, some e) := by
  simp only [foldE, h]

theorem foldE_inv {I : σ → Prop} {f : α → σ → σ × Option ε} {l : List α} {s : σ}
    (hf : ∀ x ∈ l, ∀ s, I s → I (f x s).1) (h : I s) : I (foldE f l s).1 := by
  induction l generalizing s with
  | nil => exact h
  | cons x tl ih =>
    have h1 := hf x List.mem_cons_self s h
    cases he : (f x s).2 with
    | none =>
      rw [foldE_cons_ok he]
      exact ih (fun y hy => hf y (List.mem_cons_of_mem _ hy)) h1
    | some e => rw [foldE_cons_err he]; exact h1

theorem foldE_noop {f : α → σ → σ × Option ε} {l : List α} {s : σ} (h : ∀ x ∈ l, f x s = (s, none)) :
    foldE f l s = (s, none) := by
  induction l with
  | nil => rfl
  | cons x tl ih =>
    have hx := h x List.mem_cons_self
    rw [foldE_cons_ok (by rw [hx]), hx]
    exact ih fun y hy => h y (List.mem_cons_of_mem _ hy)

theorem foldE_err {f : α → σ → σ × Option ε} {e : ε} {l : List α} {s : σ}
    (h : (foldE f l s).2 = some e) : ∃ x ∈ l, ∃ s', (f x s').2 = some e := by
  induction l generalizing s with
  | nil => cases h
  | cons x tl ih =>
    cases he : (f x s).2 with
    | none =>
      rw [foldE_cons_ok he] at h
      obtain ⟨y, hy, h'⟩ := ih h
      exact ⟨y, List.mem_cons_of_mem _ hy, h'⟩
    | some e' =>
      rw [foldE_cons_err he] at h
      exact ⟨x, List.mem_cons_self, s, he.trans h⟩

theorem foldE_fails {f : α → σ → σ × Option ε} {x : α} (hx : ∀ s, (f x s).2 ≠ none) {l : List α} {s : σ}
    (hm : x ∈ l) : (foldE f l s).2 ≠ none := by
  induction l generalizing s with
  | nil => cases hm
  | cons y tl ih =>
    cases he : (f y s).2 with
    | none =>
      rw [foldE_cons_ok he]
      rcases List.mem_cons.mp hm with rfl | hm'
      · exact absurd he (hx s)
      · exact ih hm'
    | some e => rw [foldE_cons_err he]; exact Option.some_ne_none e

/-- two loops whose bodies fail alike, whatever the states, end with the same error -/
theorem foldE_err_indep {f : α → σ → σ × Option ε} {f' : α → σ' → σ' × Option ε}
    (h : ∀ x s s', (f x s).2 = (f' x s').2) (l : List α) (s : σ) (s' : σ') :
    (foldE f l s).2 = (foldE f' l s').2 := by
  induction l generalizing s s' with
  | nil => rfl
  | cons x tl ih =>
    cases he : (f x s).2 with
    | some e => rw [foldE_cons_err he, foldE_cons_err (h x s s' ▸ he)]
    | none => rw [foldE_cons_ok he, foldE_cons_ok (h x s s' ▸ he)]; exact ih _ _

/-! ### loops over a list of (key, value) pairs with distinct keys

`π` is the part of the state that belongs to the key `n`; the iterations for other keys leave it
alone (`hloc`). -/

theorem foldE_proj_not_mem {f : κ × β → σ → σ × Option ε} {π : σ → γ} {n : κ}
    (hloc : ∀ k v s, k ≠ n → π (f (k, v) s).1 = π s) {l : List (κ × β)} (s : σ)
    (h : n ∉ l.map Prod.fst) : π (foldE f l s).1 = π s :=
  foldE_inv (I := fun s' => π s' = π s)
    (fun x hx s' hs' => (hloc x.1 x.2 s' (fun e => h (e ▸ List.mem_map_of_mem hx))).trans hs') rfl

/-- the loop stopped before it came to `(n, v)`, or the part of `n` is what the iteration for
    `(n, v)` made of it, in a state whose part of `n` was still the initial one; in a loop that
    succeeded, that iteration succeeded -/
theorem foldE_proj_mem {f : κ × β → σ → σ × Option ε} {π : σ → γ} {n : κ} {v : β}
    (hloc : ∀ k v s, k ≠ n → π (f (k, v) s).1 = π s) {l : List (κ × β)} (s : σ)
    (hnd : (l.map Prod.fst).Nodup) (hm : (n, v) ∈ l) :
    (π (foldE f l s).1 = π s ∧ (foldE f l s).2 ≠ none) ∨
    ∃ s', π s' = π s ∧ π (foldE f l s).1 = π (f (n, v) s').1 ∧
      ((foldE f l s).2 = none → (f (n, v) s').2 = none) := by
  induction l generalizing s with
  | nil => cases hm
  | cons x tl ih =>
    have hk : x.1 ∉ tl.map Prod.fst := (List.nodup_cons.mp hnd).1
    have hx : (n, v) ∈ tl → π (f x s).1 = π s :=
      fun hm' => hloc x.1 x.2 s (fun e => hk (e ▸ List.mem_map_of_mem hm'))
    cases he : (f x s).2 with
    | some e =>
      rw [foldE_cons_err he]
      rcases List.mem_cons.mp hm with rfl | hm'
      · exact Or.inr ⟨s, rfl, rfl, fun h => absurd h (Option.some_ne_none e)⟩
      · exact Or.inl ⟨hx hm', Option.some_ne_none e⟩
    | none =>
      rw [foldE_cons_ok he]
      rcases List.mem_cons.mp hm with rfl | hm'
      · exact Or.inr ⟨s, rfl, foldE_proj_not_mem hloc _ hk, fun _ => he⟩
      · rcases ih (f x s).1 (List.nodup_cons.mp hnd).2 hm' with ⟨h2, h3⟩ | ⟨s', h2, h3⟩
        · exact Or.inl ⟨h2.trans (hx hm'), h3⟩
        · exact Or.inr ⟨s', h2.trans (hx hm'), h3⟩

/-- two loops over the same list end with the same error if their iterations do so when run on
    the initial states, provided the error of an iteration depends only on the part of the state
    that belongs to its key (`hd`, `hd'`) -/
theorem foldE_err_congr {f : κ × β → σ → σ × Option ε} {f' : κ × β → σ' → σ' × Option ε}
    {π : κ → σ → γ} {π' : κ → σ' → γ}
    (hloc : ∀ k v n s, k ≠ n → π n (f (k, v) s).1 = π n s)
    (hloc' : ∀ k v n s, k ≠ n → π' n (f' (k, v) s).1 = π' n s)
    {l : List (κ × β)} (s : σ) (s' : σ') (hnd : (l.map Prod.fst).Nodup)
    (hd : ∀ x ∈ l, ∀ s₁ s₂, π x.1 s₁ = π x.1 s₂ → (f x s₁).2 = (f x s₂).2)
    (hd' : ∀ x ∈ l, ∀ s₁ s₂, π' x.1 s₁ = π' x.1 s₂ → (f' x s₁).2 = (f' x s₂).2)
    (h0 : ∀ x ∈ l, (f x s).2 = (f' x s').2) :
    (foldE f l s).2 = (foldE f' l s').2 := by
  induction l generalizing s s' with
  | nil => rfl
  | cons x tl ih =>
    have hk : x.1 ∉ tl.map Prod.fst := (List.nodup_cons.mp hnd).1
    have he := h0 x List.mem_cons_self
    cases h : (f x s).2 with
    | some e => rw [foldE_cons_err h, foldE_cons_err (he ▸ h)]
    | none =>
      rw [foldE_cons_ok h, foldE_cons_ok (he ▸ h)]
      refine ih _ _ (List.nodup_cons.mp hnd).2
        (fun y hy => hd y (List.mem_cons_of_mem _ hy)) (fun y hy => hd' y (List.mem_cons_of_mem _ hy)) ?_
      intro y hy
      have hxy : x.1 ≠ y.1 := fun e => hk (e ▸ List.mem_map_of_mem hy)
      rw [hd y (List.mem_cons_of_mem _ hy) _ s (hloc x.1 x.2 y.1 s hxy),
        hd' y (List.mem_cons_of_mem _ hy) _ s' (hloc' x.1 x.2 y.1 s' hxy)]
      exact h0 y (List.mem_cons_of_mem _ hy)

end Signac.Sync
