/- Helper lemmas for the string-typed discovery layer (Signac/DiscoveryS.lean): refinement of the
   numeric model under `Denotes`, refusal of every string that `int()` does not read as the
   supported version, and what an accepted project's config looks like.  Defines `NearestS`,
   `refusal`, `Accepted` of the C19 / C20 statements.  Property theorems: end of
   Signac/Properties/C20.lean (and C19.lean). -/
import Signac.DiscoveryS
import Signac.Proofs.MigGate
import Signac.Proofs.PyIntLemmas
namespace Signac.DiscS
open Signac Signac.Disc Signac.PyInt

/-! ### denotation, pointwise -/

theorem CfgDen.isSome_eq {c : Option (Option String)} {d : Option (Option Nat)} (h : CfgDen c d) :
    c.isSome = d.isSome := by
  rcases c with _ | _ | s <;> rcases d with _ | _ | n <;> simp_all [CfgDen]

theorem CfgDen.unique {c : Option (Option String)} {d d' : Option (Option Nat)}
    (h : CfgDen c d) (h' : CfgDen c d') : d = d' := by
  rcases c with _ | _ | s <;> rcases d with _ | _ | n <;> rcases d' with _ | _ | n' <;>
    simp_all [CfgDen]

theorem RcDen.unique {c : Option (Option String)} {d d' : Option Nat}
    (h : RcDen c d) (h' : RcDen c d') : d = d' := by
  rcases c with _ | _ | s <;> rcases d with _ | n <;> rcases d' with _ | n' <;>
    simp_all [RcDen]

theorem CfgDen.gate {v : Option String} {w : Option Nat} (h : CfgDen (some v) (some w)) :
    gateStr (v.getD "1") =
      (match Mig.gate (w.getD 1) with | .ok => .ok | .incompatible => .incompatible) := by
  rcases v with _ | s <;> rcases w with _ | n
  · exact gateStr_of_declared "1" 1 (by decide)
  · simp [CfgDen] at h
  · simp [CfgDen] at h
  · simp only [CfgDen] at h
    exact gateStr_of_declared s n h

theorem legacyVersion_of_den {v : Option String} {n : Nat} (h : RcDen (some v) (some n)) :
    legacyVersion v = some (Int.ofNat n) := by
  rcases v with _ | s
  · simp only [RcDen] at h; subst h; rfl
  · simp only [RcDen] at h
    exact (declared_eq_some s n).mp h

/-! ### refinement: under `Denotes` every function is the numeric one -/

section refine
variable {ts : TreeS} {t : Tree}

theorem isProjectS_eq (h : Denotes ts t) (p : Path) : isProjectS ts p = isProject t p :=
  (h.cfg p).isSome_eq

theorem hasWorkspaceS_eq (h : Denotes ts t) (p : Path) : hasWorkspaceS ts p = hasWorkspace t p := by
  simp only [hasWorkspaceS, hasWorkspace, h.kind]

theorem findProjectS_eq (h : Denotes ts t) : ∀ p, findProjectS ts p = findProject t p
  | [] => by simp only [findProjectS, findProject, isProjectS_eq h]
  | c :: rest => by
    simp only [findProjectS, findProject, isProjectS_eq h, findProjectS_eq h rest]

theorem olderErrS_eq (h : Denotes ts t) (p : Path) :
    olderErrS ts p = (olderErr t p).map ErrS.base := by
  have hr := h.rc p
  unfold olderErrS olderErr Mig.raiseIfOlder
  rcases hs : ts.rcS p with _ | v <;> rcases hn : t.rc p with _ | n <;> rw [hs, hn] at hr
  · rfl
  · simp [RcDen] at hr
  · rcases v with _ | s <;> simp [RcDen] at hr
  · simp only [legacyVersion_of_den hr]
    by_cases e : n = Mig.SCHEMA
    · subst e; simp
    · have : ¬ ((n : Int) = (Mig.SCHEMA : Int)) := fun h' => e (Int.ofNat.inj h')
      simp [e, this]

theorem findOlderS_eq (h : Denotes ts t) : ∀ p, findOlderS ts p = (findOlder t p).map ErrS.base
  | [] => by simp only [findOlderS, findOlder, olderErrS_eq h]
  | c :: rest => by
    simp only [findOlderS, findOlder, olderErrS_eq h, findOlderS_eq h rest]
    cases olderErr t (c :: rest) <;> rfl

theorem locateConfigDirS_eq (h : Denotes ts t) (p : Path) :
    locateConfigDirS ts p = liftE (locateConfigDir t p) := by
  unfold locateConfigDirS locateConfigDir
  rw [findProjectS_eq h, findOlderS_eq h]
  cases findProject t p with
  | some q => rfl
  | none => cases findOlder t p <;> rfl

theorem openProjectS_eq (h : Denotes ts t) (p : Path) :
    openProjectS ts p = liftR (openProject t p) := by
  have hc := h.cfg p
  unfold openProjectS openProject
  rw [olderErrS_eq h, hasWorkspaceS_eq h]
  rcases hs : ts.cfgS p with _ | v <;> rcases hn : t.cfg p with _ | w <;> rw [hs, hn] at hc
  · cases olderErr t p <;> rfl
  · simp [CfgDen] at hc
  · rcases v with _ | s <;> simp [CfgDen] at hc
  · simp only [hc.gate]
    cases Mig.gate (w.getD 1) with
    | ok => by_cases hw : hasWorkspace t p = true <;> simp [hw, liftR, liftE]
    | incompatible => simp [liftR, liftE]

theorem getProjectFromS_eq (h : Denotes ts t) (p : Path) :
    getProjectFromS ts p = liftR (getProjectFrom t p) := by
  unfold getProjectFromS getProjectFrom
  rw [locateConfigDirS_eq h]
  rcases locateConfigDir t p with e | _ | q
  · rfl
  · rfl
  · exact openProjectS_eq h q

theorem getProjectS_eq (h : Denotes ts t) (p : Path) (s : Bool) :
    getProjectS ts p s = liftR (getProject t p s) := by
  unfold getProjectS getProject
  rw [h.kind, isProjectS_eq h, getProjectFromS_eq h, apply_ite liftR, apply_ite liftR]
  rfl

theorem getJobS_eq (h : Denotes ts t) (p : Path) : getJobS ts p = liftR (getJob t p) := by
  unfold getJobS getJob
  simp only [h.kind, getProjectFromS_eq h, apply_ite liftR]
  cases lastJob p with
  | none => rfl
  | some jp =>
    simp only [apply_ite liftR]
    rcases getProjectFrom t jp.2.tail with ⟨_ | _, _⟩ <;> rfl

theorem mkdirPS_eq (h : Denotes ts t) : ∀ p, mkdirPS ts p = mkdirP t p
  | [] => rfl
  | c :: rest => by simp only [mkdirPS, mkdirP, h.kind, mkdirPS_eq h rest]

theorem denotes_afterInit (h : Denotes ts t) (p : Path) :
    Denotes (afterInitS ts p) (afterInit t p) where
  kind := fun x => by simp only [afterInitS, afterInit, h.kind]
  cfg := fun x => by
    simp only [afterInitS, afterInit]
    split
    · simp only [CfgDen]; exact declared_toString _
    · exact h.cfg x
  rc := h.rc

theorem initProjectS_eq (h : Denotes ts t) (p : Path) :
    initProjectS ts p = liftR (initProject t p) := by
  unfold initProjectS initProject
  rw [getProjectS_eq h, olderErrS_eq h, mkdirPS_eq h, getProjectS_eq (denotes_afterInit h p)]
  rcases getProject t p false with ⟨(_ | _ | _) | q, s⟩ <;> try rfl
  cases olderErr t p <;> rfl

end refine

/-! ### which string trees denote a numeric tree -/

theorem declared_eq_getD {s : String} (h : (declared s).isSome = true) :
    declared s = some ((declared s).getD 0) := by
  obtain ⟨n, hn⟩ := Option.isSome_iff_exists.mp h; rw [hn]; rfl

theorem denotes_toTree (ts : TreeS) (h : IntLiterals ts) : Denotes ts ts.toTree where
  kind := fun _ => rfl
  cfg := fun p => by
    show CfgDen (ts.cfgS p) ((ts.cfgS p).map _)
    rcases hc : ts.cfgS p with _ | _ | s
    · trivial
    · trivial
    · exact declared_eq_getD (h.1 p s hc)
  rc := fun p => by
    show RcDen (ts.rcS p) ((ts.rcS p).map _)
    rcases hc : ts.rcS p with _ | _ | s
    · trivial
    · rfl
    · exact declared_eq_getD (h.2 p s hc)

theorem intLiterals_of_denotes {ts : TreeS} {t : Tree} (h : Denotes ts t) : IntLiterals ts := by
  refine ⟨fun p s hc => ?_, fun p s hc => ?_⟩
  · have := h.cfg p
    rw [hc] at this
    generalize t.cfg p = d at this
    rcases d with _ | _ | n
    · exact this.elim
    · exact this.elim
    · exact Option.isSome_iff_exists.mpr ⟨n, this⟩
  · have := h.rc p
    rw [hc] at this
    generalize t.rc p = d at this
    rcases d with _ | n
    · exact this.elim
    · exact Option.isSome_iff_exists.mpr ⟨n, this⟩

theorem denotes_ofTree (t : Tree) : Denotes (ofTree t) t where
  kind := fun _ => rfl
  cfg := fun p => by
    show CfgDen ((t.cfg p).map _) (t.cfg p)
    rcases t.cfg p with _ | _ | n
    · trivial
    · trivial
    · exact declared_toString n
  rc := fun p => by
    show RcDen ((t.rc p).map _) (t.rc p)
    rcases t.rc p with _ | n
    · trivial
    · exact declared_toString n

theorem denotes_unique {ts : TreeS} {t t' : Tree} (h : Denotes ts t) (h' : Denotes ts t') : t = t' := by
  have hk : t.kind = t'.kind := funext fun p => by rw [← h.kind, ← h'.kind]
  have hc : t.cfg = t'.cfg := funext fun p => (h.cfg p).unique (h'.cfg p)
  have hr : t.rc = t'.rc := funext fun p => (h.rc p).unique (h'.rc p)
  cases t; cases t'; simp_all

/-! ### every string tree: the upward search -/

/-- `q` is the nearest project at or above `p` -/
def NearestS (ts : TreeS) (p q : Path) : Prop :=
  q <:+ p ∧ isProjectS ts q = true ∧ ∀ r, r <:+ p → isProjectS ts r = true → r <:+ q

theorem isProject_toTree (ts : TreeS) (p : Path) : isProject ts.toTree p = isProjectS ts p := by
  simp [isProject, isProjectS, TreeS.toTree]

theorem findProjectS_toTree (ts : TreeS) : ∀ p, findProjectS ts p = findProject ts.toTree p
  | [] => by simp only [findProjectS, findProject, isProject_toTree]
  | c :: rest => by
    simp only [findProjectS, findProject, isProject_toTree, findProjectS_toTree ts rest]

theorem findProjectS_nearest (ts : TreeS) (p q : Path) :
    findProjectS ts p = some q ↔ NearestS ts p q := by
  rw [findProjectS_toTree, findProject_nearest]
  simp only [Nearest, NearestS, isProject_toTree]

theorem findProjectS_self {ts : TreeS} {p : Path} (h : isProjectS ts p = true) :
    findProjectS ts p = some p := by
  cases p <;> simp [findProjectS, h]

theorem nearestS_self {ts : TreeS} {p : Path} (h : isProjectS ts p = true) : NearestS ts p p :=
  (findProjectS_nearest ts p p).mp (findProjectS_self h)

/-! ### every string tree: refusal -/

/-- what `_check_schema_compatibility` raises on a string that `int()` does not read as the
    supported version: ValueError if it is no integer literal, else IncompatibleSchemaVersion -/
def refusal (s : String) : ErrS := if pyInt s = none then .valueError else .base .incompatible

theorem refusal_ne_lookup (s : String) : refusal s ≠ .base .lookup := by
  unfold refusal; split <;> simp

theorem openProjectS_refused (ts : TreeS) (p : Path) (v : Option String)
    (hc : ts.cfgS p = some v) (hv : pyInt (v.getD "1") ≠ some (Mig.SCHEMA : Int)) :
    openProjectS ts p = (.error (refusal (v.getD "1")), []) := by
  unfold openProjectS refusal
  rw [hc]
  simp only [gateStr_of_ne _ hv]
  by_cases hn : pyInt (v.getD "1") = none
  · rw [if_pos hn, if_pos hn]
  · rw [if_neg hn, if_neg hn]

theorem getProjectFromS_refused (ts : TreeS) (p' p : Path) (v : Option String)
    (hn : NearestS ts p' p) (hc : ts.cfgS p = some v)
    (hv : pyInt (v.getD "1") ≠ some (Mig.SCHEMA : Int)) :
    getProjectFromS ts p' = (.error (refusal (v.getD "1")), []) := by
  unfold getProjectFromS locateConfigDirS
  rw [(findProjectS_nearest ts p' p).mpr hn]
  exact openProjectS_refused ts p v hc hv

theorem getProjectS_refused_below (ts : TreeS) (p' p : Path) (v : Option String)
    (hn : NearestS ts p' p) (hc : ts.cfgS p = some v)
    (hv : pyInt (v.getD "1") ≠ some (Mig.SCHEMA : Int)) (hk : ts.kind p' ≠ .absent) :
    getProjectS ts p' true = (.error (refusal (v.getD "1")), []) := by
  unfold getProjectS
  simp [hk, getProjectFromS_refused ts p' p v hn hc hv]

theorem getProjectS_refused (ts : TreeS) (p : Path) (v : Option String)
    (hc : ts.cfgS p = some v) (hv : pyInt (v.getD "1") ≠ some (Mig.SCHEMA : Int))
    (hk : ts.kind p ≠ .absent) (s : Bool) :
    getProjectS ts p s = (.error (refusal (v.getD "1")), []) := by
  have hp : isProjectS ts p = true := by simp [isProjectS, hc]
  unfold getProjectS
  simp [hk, hp, getProjectFromS_refused ts p p v (nearestS_self hp) hc hv]

theorem initProjectS_refused (ts : TreeS) (p : Path) (v : Option String)
    (hc : ts.cfgS p = some v) (hv : pyInt (v.getD "1") ≠ some (Mig.SCHEMA : Int))
    (hk : ts.kind p ≠ .absent) :
    initProjectS ts p = (.error (refusal (v.getD "1")), []) := by
  unfold initProjectS
  rw [getProjectS_refused ts p v hc hv hk false]
  unfold refusal
  by_cases hn : pyInt (v.getD "1") = none
  · simp only [hn, if_true]
  · simp only [hn, if_false]

/-- `get_job` of a path whose innermost id-named component is a directory the nearest project
    above which is refused -/
theorem getJobS_refused (ts : TreeS) (p' p jp : Path) (j : String) (v : Option String)
    (hk : ts.kind p' ≠ .absent) (hl : lastJob p' = some (j, jp)) (hd : ts.kind jp = .dir)
    (hn : NearestS ts jp.tail p) (hc : ts.cfgS p = some v)
    (hv : pyInt (v.getD "1") ≠ some (Mig.SCHEMA : Int)) :
    getJobS ts p' = (.error (refusal (v.getD "1")), []) := by
  unfold getJobS
  simp [hk, hl, hd, getProjectFromS_refused ts jp.tail p v hn hc hv]

/-! ### every string tree: what is accepted -/

/-- the config of `q` declares a string that `int()` reads as the supported version -/
def Accepted (ts : TreeS) (q : Path) : Prop :=
  ∃ s, ts.cfgS q = some (some s) ∧ pyInt s = some (Mig.SCHEMA : Int)

/-- an absent key stands for "1", which is not the supported version (SCHEMA = 2) -/
theorem default_refused : pyInt "1" ≠ some (Mig.SCHEMA : Int) := by decide

theorem openProjectS_ok_iff (ts : TreeS) (p q : Path) :
    (openProjectS ts p).1 = .ok q ↔ q = p ∧ Accepted ts p := by
  constructor
  · intro h
    cases hc : ts.cfgS p with
    | none =>
      unfold openProjectS at h
      rw [hc] at h
      simp only [] at h
      cases ho : olderErrS ts p <;> rw [ho] at h <;> cases h
    | some v =>
      by_cases hv : pyInt (v.getD "1") = some (Mig.SCHEMA : Int)
      · cases v with
        | none => exact absurd hv default_refused
        | some s =>
          refine ⟨?_, s, hc, hv⟩
          unfold openProjectS at h
          simp only [Option.getD_some] at hv
          rw [hc] at h
          simp only [Option.getD_some, (gateStr_ok_iff _).mpr hv] at h
          split at h <;> cases h <;> rfl
      · rw [openProjectS_refused ts p v hc hv] at h; cases h
  · intro ⟨hq, s, hc, hv⟩
    subst hq
    unfold openProjectS
    rw [hc]
    simp only [Option.getD_some, (gateStr_ok_iff _).mpr hv]
    split <;> rfl

theorem getProjectFromS_ok_iff (ts : TreeS) (p q : Path) :
    (getProjectFromS ts p).1 = .ok q ↔ NearestS ts p q ∧ Accepted ts q := by
  unfold getProjectFromS locateConfigDirS
  rw [← findProjectS_nearest]
  cases hf : findProjectS ts p with
  | some q' =>
    simp only [openProjectS_ok_iff, Option.some.injEq]
    constructor
    · intro ⟨h1, h2⟩; subst h1; exact ⟨rfl, h2⟩
    · intro ⟨h1, h2⟩; subst h1; exact ⟨rfl, h2⟩
  | none => cases findOlderS ts p <;> simp

theorem getProjectS_search_ok_iff (ts : TreeS) (p q : Path) :
    (getProjectS ts p true).1 = .ok q ↔ ts.kind p ≠ .absent ∧ NearestS ts p q ∧ Accepted ts q := by
  unfold getProjectS
  by_cases hk : ts.kind p = .absent
  · simp [hk]
  · simp [hk, getProjectFromS_ok_iff]

theorem getProjectS_nosearch_ok_iff (ts : TreeS) (p q : Path) :
    (getProjectS ts p false).1 = .ok q ↔
      q = p ∧ ts.kind p ≠ .absent ∧ isProjectS ts p = true ∧ Accepted ts p := by
  unfold getProjectS
  by_cases hk : ts.kind p = .absent
  · simp [hk]
  · by_cases hp : isProjectS ts p = true
    · simp only [hk, if_false, hp, Bool.not_false, Bool.not_true, Bool.and_false, Bool.false_eq_true]
      rw [getProjectFromS_ok_iff]
      constructor
      · intro ⟨hn, ha⟩
        have : q = p := by
          have h1 := (findProjectS_nearest ts p q).mpr hn
          rw [findProjectS_self hp] at h1; cases h1; rfl
        subst this
        exact ⟨rfl, hk, trivial, ha⟩
      · intro ⟨h1, _, _, ha⟩
        subst h1
        exact ⟨nearestS_self hp, ha⟩
    · have hp' : isProjectS ts p = false := by simpa using hp
      simp [hk, hp']

theorem getProjectS_accepts (ts : TreeS) (p q : Path) (s : Bool)
    (h : (getProjectS ts p s).1 = .ok q) : q <:+ p ∧ Accepted ts q := by
  cases s
  · have := (getProjectS_nosearch_ok_iff ts p q).mp h
    rw [this.1]; exact ⟨List.suffix_refl _, this.2.2.2⟩
  · have := (getProjectS_search_ok_iff ts p q).mp h
    exact ⟨this.2.1.1, this.2.2⟩

theorem getJobS_accepts (ts : TreeS) (p : Path) (j : String) (q : Path)
    (h : (getJobS ts p).1 = .ok (j, q)) : Accepted ts q := by
  unfold getJobS at h
  split at h
  · cases h
  · split at h
    · cases h
    · split at h
      · split at h
        · rename_i q' s' hq
          simp only [Except.ok.injEq, Prod.mk.injEq] at h
          rename_i jp _ _ _
          have h' : (getProjectFromS ts jp.tail).1 = .ok q' := by rw [hq]
          rw [h.2] at h'
          exact ((getProjectFromS_ok_iff ts _ q).mp h').2
        · cases h
      · cases h

/-- `init_project` returns `p` itself, and either its config was there and is accepted, or the
    config has been written by this very call (with `str(SCHEMA_VERSION)`). -/
theorem initProjectS_accepts (ts : TreeS) (p q : Path) (h : (initProjectS ts p).1 = .ok q) :
    q = p ∧ (Accepted ts p ∨ Step.writeConfig p ∈ (initProjectS ts p).2) := by
  unfold initProjectS at h ⊢
  rcases hgp : getProjectS ts p false with ⟨r, s⟩
  rw [hgp] at h
  rcases r with e | q'
  · cases e with
    | valueError => cases h
    | base e =>
      cases e with
      | incompatible => cases h
      | assertion => cases h
      | lookup =>
        simp only [] at h ⊢
        cases ho : olderErrS ts p with
        | some e => rw [ho] at h; cases h
        | none =>
          rw [ho] at h
          simp only [] at h ⊢
          have hp : isProjectS (afterInitS ts p) p = true := by simp [isProjectS, afterInitS]
          have hn := ((getProjectS_search_ok_iff (afterInitS ts p) p q).mp h).2.1
          have hq : q = p := by
            have h1 := (findProjectS_nearest _ p q).mpr hn
            rw [findProjectS_self hp] at h1; cases h1; rfl
          exact ⟨hq, Or.inr (by simp)⟩
  · simp only [Except.ok.injEq] at h
    subst h
    have h' : (getProjectS ts p false).1 = .ok q' := by rw [hgp]
    have := (getProjectS_nosearch_ok_iff ts p q').mp h'
    exact ⟨this.1, Or.inl this.2.2.2⟩

/-! ### `liftE` is faithful -/

theorem liftE_ok_iff {α : Type} (r : Except Err α) (a : α) : liftE r = .ok a ↔ r = .ok a := by
  cases r <;> simp [liftE]

theorem liftE_base_iff {α : Type} (r : Except Err α) (e : Err) :
    liftE r = .error (.base e) ↔ r = .error e := by
  cases r <;> simp [liftE]

theorem liftE_ne_valueError {α : Type} (r : Except Err α) : liftE r ≠ .error .valueError := by
  cases r <;> simp [liftE]

/-! ### listed trees -/

def litOk : Option (Option String) → Bool
  | some (some s) => (declared s).isSome
  | _ => true

theorem intLiterals_ofNodes (ns : List NodeS)
    (h : ns.all (fun n => litOk n.cfgS && litOk n.rcS) = true) : IntLiterals (TreeS.ofNodes ns) := by
  have key : ∀ p, litOk ((TreeS.ofNodes ns).cfgS p) = true ∧ litOk ((TreeS.ofNodes ns).rcS p) = true := by
    intro p
    simp only [TreeS.ofNodes]
    cases hf : findNodeS ns p with
    | none => exact ⟨rfl, rfl⟩
    | some n => simpa using (List.all_eq_true.mp h) n (List.mem_of_find?_eq_some hf)
  exact ⟨fun p s hc => by have := (key p).1; rwa [hc] at this,
    fun p s hc => by have := (key p).2; rwa [hc] at this⟩

end Signac.DiscS
