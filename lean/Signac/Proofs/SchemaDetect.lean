/-
  `dottedKeys`, `detectSchema` and `reported` in closed form (`skipped`, `typedLookup`), and
  `collectByType` on pairwise separated values (`SlotApart`) as a partition by type.  Core only.
-/
import Signac.Proofs.SchemaIndex
namespace Signac.Schema
open Signac

theorem mem_addNew {k x : String} {l : List String} : x ∈ addNew k l ↔ x ∈ l ∨ x = k := by
  unfold addNew
  split
  · next h => exact ⟨Or.inl, fun h' => h'.elim id fun e => e ▸ List.contains_iff_mem.mp h⟩
  · rw [List.mem_append, List.mem_singleton]

theorem nodup_addNew {k : String} {l : List String} (h : l.Nodup) : (addNew k l).Nodup := by
  unfold addNew
  split
  · exact h
  · next hc =>
    exact List.nodup_append.mpr ⟨h, List.pairwise_singleton _ _, fun a ha b hb =>
      List.mem_singleton.mp hb ▸ fun e => hc (List.contains_iff_mem.mpr (e ▸ ha))⟩

theorem mem_foldl_addNew {ks : List String} : ∀ {acc : List String} {x : String},
    x ∈ ks.foldl (fun a k => addNew k a) acc ↔ x ∈ acc ∨ x ∈ ks := by
  induction ks with
  | nil => exact fun {_ _} => ⟨Or.inl, fun h => h.elim id fun h => nomatch h⟩
  | cons k ks ih =>
    intro acc x
    rw [List.foldl_cons, ih, mem_addNew, List.mem_cons, or_assoc]

theorem nodup_foldl_addNew {ks acc : List String} (h : acc.Nodup) :
    (ks.foldl (fun a k => addNew k a) acc).Nodup :=
  List.foldlRecOn ks _ h fun _ hb _ _ => nodup_addNew hb

/-- the dotted keys are collected from the flattened keys of all jobs, one after the other -/
theorem dottedKeysFrom_eq (jobs : List Job) : ∀ (acc : List String), dottedKeysFrom acc jobs =
    (jobs.flatMap fun j => (flatten j.sp).map Prod.fst).foldl (fun a k => addNew k a) acc := by
  induction jobs with
  | nil => exact fun _ => rfl
  | cons j js ih => intro acc; rw [dottedKeysFrom, ih, List.flatMap_cons, List.foldl_append]

theorem mem_dottedKeys {jobs : List Job} {x : String} :
    x ∈ dottedKeys jobs ↔ ∃ j ∈ jobs, ∃ v, (x, v) ∈ flatten j.sp := by
  rw [dottedKeys, dottedKeysFrom_eq, mem_foldl_addNew, List.mem_flatMap]
  simp only [List.not_mem_nil, false_or, List.mem_map, Prod.exists, exists_and_right, exists_eq_right]

theorem nodup_dottedKeys (jobs : List Job) : (dottedKeys jobs).Nodup := by
  rw [dottedKeys, dottedKeysFrom_eq]
  exact nodup_foldl_addNew List.nodup_nil

/-- whether `_build_job_statepoint_index` skips the key -/
def skipped (excludeConst : Bool) (jobs : List Job) (k : String) : Bool :=
  excludeConst && isConstIdx (buildIndex k jobs) jobs.length

theorem detectSchema_eq (excl : Bool) (jobs : List Job) :
    detectSchema excl jobs =
      ((dottedKeys jobs).filter (fun k => !skipped excl jobs k)).map
        (fun k => (k, collectByType (slotValues (buildIndex k jobs)))) := by
  simp only [detectSchema, statepointIndex, List.map_map, skipped]
  rfl

theorem mem_detectSchema {excl : Bool} {jobs : List Job} {kv : String × List (String × List JVal)}
    (h : kv ∈ detectSchema excl jobs) : kv.2 = collectByType (slotValues (buildIndex kv.1 jobs)) := by
  rw [detectSchema_eq] at h
  obtain ⟨k, _, rfl⟩ := List.mem_map.mp h
  rfl

theorem detectSchema_keys (excl : Bool) (jobs : List Job) :
    (detectSchema excl jobs).map Prod.fst = (dottedKeys jobs).filter (fun k => !skipped excl jobs k) := by
  rw [detectSchema_eq, List.map_map]
  exact List.map_id _

theorem detectSchema_nodup_keys (excl : Bool) (jobs : List Job) :
    ((detectSchema excl jobs).map Prod.fst).Nodup := by
  rw [detectSchema_keys]
  exact (nodup_dottedKeys jobs).sublist List.filter_sublist

theorem alookup_detectSchema {excl : Bool} {jobs : List Job} {k : String}
    (hk : k ∈ (detectSchema excl jobs).map Prod.fst) :
    alookup k (detectSchema excl jobs) = some (collectByType (slotValues (buildIndex k jobs))) := by
  refine alookup_of_mem (detectSchema_nodup_keys excl jobs) ?_
  rw [detectSchema_keys] at hk
  rw [detectSchema_eq]
  exact List.mem_map_of_mem (f := fun k => (k, collectByType (slotValues (buildIndex k jobs)))) hk

/-- `d.get(k)` as `dict.__getitem__` finds it: the first entry under the key -/
theorem find?_fst_eq {β : Type} (k : String) (l : List (String × β)) :
    l.find? (fun kv => kv.1 == k) = (alookup k l).map fun v => (k, v) := by
  induction l with
  | nil => rfl
  | cons e l ih =>
    obtain ⟨k', v⟩ := e
    rw [List.find?_cons, alookup_cons]
    by_cases h : k = k'
    · rw [if_pos h, h, beq_self_eq_true]; rfl
    · rw [if_neg h, beq_eq_false_iff_ne.mpr (Ne.symm h), ih]

/-- the values filed under type name `t` -/
def typedLookup (tvs : List (String × List JVal)) (t : String) : List JVal := (alookup t tvs).getD []

theorem reported_eq (schema : List (String × List (String × List JVal))) (key t : String) :
    reported schema key t = ((alookup key schema).map (typedLookup · t)).getD [] := by
  rw [reported, find?_fst_eq]
  cases alookup key schema with
  | none => rfl
  | some tvs =>
    show (match tvs.find? (fun tv => tv.1 == t) with | some tv => tv.2 | none => [])
      = (alookup t tvs).getD []
    rw [find?_fst_eq]
    cases alookup t tvs <;> rfl

theorem reported_alookup {s : Schema} {k : String} {tv : List (String × List JVal)}
    (h : alookup k s = some tv) (t : String) : reported s k t = typedLookup tv t := by
  rw [reported_eq, h]; rfl

theorem typedLookup_addTyped (v : JVal) (t : String) (tvs : List (String × List JVal)) :
    typedLookup (addTyped v tvs) t =
      if t = pyTypeName v then addSet v (typedLookup tvs t) else typedLookup tvs t := by
  unfold typedLookup
  induction tvs with
  | nil =>
    rw [addTyped, alookup_cons]
    split <;> rfl
  | cons hd tl ih =>
    obtain ⟨t', vs⟩ := hd
    rw [addTyped]
    by_cases h1 : t' = pyTypeName v
    · rw [if_pos h1, alookup_cons, alookup_cons, h1]
      split <;> rfl
    · rw [if_neg h1, alookup_cons, alookup_cons]
      by_cases h2 : t = t'
      · rw [if_pos h2, if_pos h2, if_neg (h2 ▸ h1)]
      · rw [if_neg h2, if_neg h2, ih]

theorem of_mem_addSet {v x : JVal} {vs : List JVal} (h : x ∈ addSet v vs) : x ∈ vs ∨ x = v := by
  unfold addSet at h
  split at h
  · exact Or.inl h
  · exact (List.mem_append.mp h).imp_right List.mem_singleton.mp

/-- the relation between an earlier and a later slot value of one index -/
abbrev SlotApart (a b : JVal) : Prop := slotEq a b = false

/-- only floats are wrapped -/
theorem isFlt_eq (v : JVal) : isFlt v = (pyTypeName v == "float") := by
  cases v <;> dsimp only [isFlt, pyTypeName] <;> decide +kernel

/-- within one type name the slot equality is `==` -/
theorem slotEq_of_typeName {a b : JVal} (h : pyTypeName a = pyTypeName b) : slotEq a b = pyEq a b := by
  rw [slotEq, isFlt_eq, isFlt_eq, h, beq_self_eq_true, Bool.true_and]

theorem addSet_apart {v : JVal} {vs : List JVal}
    (h : ∀ r ∈ vs, SlotApart r v ∧ pyTypeName r = pyTypeName v) : addSet v vs = vs ++ [v] := by
  refine if_neg fun hany => ?_
  obtain ⟨r, hr, he⟩ := List.any_eq_true.mp hany
  obtain ⟨h1, h2⟩ := h r hr
  rw [SlotApart, slotEq_of_typeName h2, he] at h1
  cases h1

/-- with pairwise separated values `_collect_by_type` is a plain partition by type -/
theorem typedLookup_foldl_eq {vals : List JVal} :
    ∀ {acc : List (String × List JVal)} {seen : List JVal},
      (∀ t, typedLookup acc t = seen.filter (fun v => pyTypeName v == t)) →
      (seen ++ vals).Pairwise SlotApart →
      ∀ t, typedLookup (vals.foldl (fun a v => addTyped v a) acc) t
            = (seen ++ vals).filter (fun v => pyTypeName v == t) := by
  induction vals with
  | nil => intro acc seen h _ t; rw [List.append_nil]; exact h t
  | cons v vs ih =>
    intro acc seen hacc hp t
    rw [List.append_cons] at hp ⊢
    rw [List.foldl_cons]
    refine ih (fun t' => ?_) hp t
    rw [typedLookup_addTyped, hacc t', List.filter_append, List.filter_cons, List.filter_nil]
    by_cases e : t' = pyTypeName v
    · rw [if_pos e, e, beq_self_eq_true, if_pos rfl]
      refine addSet_apart fun r hr => ?_
      obtain ⟨hr, ht⟩ := List.mem_filter.mp hr
      exact ⟨(List.pairwise_append.mp (List.pairwise_append.mp hp).1).2.2 r hr v List.mem_cons_self,
        eq_of_beq ht⟩
    · rw [if_neg e, beq_eq_false_iff_ne.mpr (Ne.symm e), if_neg Bool.false_ne_true, List.append_nil]

theorem collectByType_eq {vals : List JVal} (hp : vals.Pairwise SlotApart) (t : String) :
    typedLookup (collectByType vals) t = vals.filter (fun v => pyTypeName v == t) :=
  typedLookup_foldl_eq (seen := []) (fun _ => rfl) hp t

theorem mem_slotValues {idx : Index} {v : JVal} : v ∈ slotValues idx ↔ IKey.val v ∈ idx.keys := by
  induction idx with
  | nil => exact ⟨fun h => (nomatch h), fun h => (nomatch h)⟩
  | cons hd tl ih =>
    obtain ⟨r, ids⟩ := hd
    unfold Index.keys at ih ⊢
    rw [List.map_cons, List.mem_cons]
    cases r with
    | dict => rw [slotValues, ih]; exact ⟨Or.inr, fun h => h.resolve_left nofun⟩
    | val w =>
      rw [slotValues, List.mem_cons, ih]
      exact or_congr_left ⟨fun e => e ▸ rfl, IKey.val.inj⟩

theorem slotValues_pairwise {idx : Index} (h : idx.Distinct) : (slotValues idx).Pairwise SlotApart := by
  induction idx with
  | nil => exact List.Pairwise.nil
  | cons hd tl ih =>
    obtain ⟨r, ids⟩ := hd
    have h := List.pairwise_cons.mp h
    cases r with
    | dict => exact ih h.2
    | val w => exact List.pairwise_cons.mpr ⟨fun x hx => h.1 (.val x) (mem_slotValues.mp hx), ih h.2⟩

theorem slotValues_apart (k : String) (jobs : List Job) :
    (slotValues (buildIndex k jobs)).Pairwise SlotApart :=
  slotValues_pairwise (buildFrom_distinct List.Pairwise.nil)

end Signac.Schema
