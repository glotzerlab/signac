/-
  The JSON write/read round trip (C01): reading what `encChars` printed gives the value
  back, `readVal fv fuel (encChars v ++ rest) = some (v, rest)`, for every continuation `rest`
  that is empty or starts with a character no keyword or number has, and every fuel ≥ `jsize v`;
  hence `parseText fv (encChars v) = some v` and `parseText fv (canonChars v) = some (canon v)`.
  A writer with a reader is injective: the text determines the value.
  Hypothesis `FloatsOk fv v` (Proofs/EncInj.lean).
-/
import Signac.Proofs.EncStr
import Signac.Proofs.EncTok
import Signac.Proofs.FloatTokB
import Signac.Proofs.JValInd
namespace Signac

theorem skipWs_cons_of_not_ws {c : Char} (h : isWs c = false) (cs : List Char) :
    skipWs (c :: cs) = c :: cs := by
  simp [skipWs, List.dropWhile, h]

theorem skipWs_space (s : List Char) : skipWs (' ' :: s) = skipWs s := by
  simp [skipWs, List.dropWhile, isWs]

theorem readVal_space (fv : String → Int × Nat) (fuel : Nat) (s : List Char) :
    readVal fv fuel (' ' :: s) = readVal fv fuel s := by
  cases fuel with
  | zero => simp [readVal]
  | succ f => simp only [readVal, skipWs_space]

theorem readElems_space (fv : String → Int × Nat) (fuel : Nat) (s : List Char) :
    readElems fv fuel (' ' :: s) = readElems fv fuel s := by
  cases fuel with
  | zero => simp [readElems]
  | succ f => simp only [readElems, readVal_space]

theorem readMembers_space (fv : String → Int × Nat) (fuel : Nat) (s : List Char) :
    readMembers fv fuel (' ' :: s) = readMembers fv fuel s := by
  cases fuel with
  | zero => simp [readMembers]
  | succ f => simp only [readMembers, skipWs_space]

theorem readVal_str (fv : String → Int × Nat) (f : Nat) (s1 : List Char) {k : String}
    {r : List Char} (hk : readStrBody s1.length s1 = some (k.toList, r)) :
    readVal fv (f + 1) ('"' :: s1) = some (.str k, r) := by
  simp [readVal, skipWs_cons_of_not_ws, isWs, hk]

theorem readVal_arr (fv : String → Int × Nat) (f : Nat) (s1 : List Char) {xs : List JVal}
    {r : List Char} (h : readArr fv f s1 = some (xs, r)) :
    readVal fv (f + 1) ('[' :: s1) = some (.arr xs, r) := by
  simp [readVal, skipWs_cons_of_not_ws, isWs, h]

theorem readVal_obj (fv : String → Int × Nat) (f : Nat) (s1 : List Char)
    {kvs : List (String × JVal)} {r : List Char} (h : readObj fv f s1 = some (kvs, r)) :
    readVal fv (f + 1) ('{' :: s1) = some (.obj kvs, r) := by
  simp [readVal, skipWs_cons_of_not_ws, isWs, h]

theorem readArr_nil (fv : String → Int × Nat) (f : Nat) (r : List Char) :
    readArr fv (f + 1) (']' :: r) = some ([], r) := by
  simp [readArr, skipWs_cons_of_not_ws, isWs]

theorem readArr_cons (fv : String → Int × Nat) (f : Nat) {c : Char} (cs : List Char)
    (hws : isWs c = false) (hc : c ≠ ']') :
    readArr fv (f + 1) (c :: cs) = readElems fv f (c :: cs) := by
  simp [readArr, skipWs_cons_of_not_ws hws, hc]

theorem readObj_nil (fv : String → Int × Nat) (f : Nat) (r : List Char) :
    readObj fv (f + 1) ('}' :: r) = some ([], r) := by
  simp [readObj, skipWs_cons_of_not_ws, isWs]

theorem readObj_cons (fv : String → Int × Nat) (f : Nat) (cs : List Char) :
    readObj fv (f + 1) ('"' :: cs) = readMembers fv f ('"' :: cs) := by
  simp [readObj, skipWs_cons_of_not_ws, isWs]

theorem readElems_last (fv : String → Int × Nat) (f : Nat) (s : List Char) {x : JVal}
    {r : List Char} (hv : readVal fv f s = some (x, ']' :: r)) :
    readElems fv (f + 1) s = some ([x], r) := by
  simp [readElems, hv, skipWs_cons_of_not_ws, isWs]

theorem readElems_more (fv : String → Int × Nat) (f : Nat) (s : List Char) {x : JVal}
    {r r' : List Char} {xs : List JVal} (hv : readVal fv f s = some (x, ',' :: r))
    (hr : readElems fv f r = some (xs, r')) :
    readElems fv (f + 1) s = some (x :: xs, r') := by
  simp [readElems, hv, hr, skipWs_cons_of_not_ws, isWs]

theorem readMembers_last (fv : String → Int × Nat) (f : Nat) (s1 : List Char) {k : String}
    {s3 r : List Char} {v : JVal} (hk : readStrBody s1.length s1 = some (k.toList, ':' :: s3))
    (hv : readVal fv f s3 = some (v, '}' :: r)) :
    readMembers fv (f + 1) ('"' :: s1) = some ([(k, v)], r) := by
  simp [readMembers, hk, hv, skipWs_cons_of_not_ws, isWs]

theorem readMembers_more (fv : String → Int × Nat) (f : Nat) (s1 : List Char) {k : String}
    {s3 r r' : List Char} {v : JVal} {kvs : List (String × JVal)}
    (hk : readStrBody s1.length s1 = some (k.toList, ':' :: s3))
    (hv : readVal fv f s3 = some (v, ',' :: r))
    (hr : readMembers fv f r = some (kvs, r')) :
    readMembers fv (f + 1) ('"' :: s1) = some ((k, v) :: kvs, r') := by
  simp [readMembers, hk, hv, hr, skipWs_cons_of_not_ws, isWs]

/-- a keyword or number token followed by a continuation: the reader cuts the token off and
    hands it to `readAtomTok` -/
theorem readVal_tok (fv : String → Int × Nat) (f : Nat) {tok rest : List Char} {v : JVal}
    (hne : tok ≠ []) (hch : ∀ c ∈ tok, c ∈ atomCharsB) (hr : RestOk rest)
    (hv : readAtomTok fv tok = some v) :
    readVal fv (f + 1) (tok ++ rest) = some (v, rest) := by
  obtain ⟨e1, e2⟩ := span_tok hch hr
  obtain ⟨c, cs, rfl⟩ := List.exists_cons_of_ne_nil hne
  obtain ⟨hws, hs⟩ := atomChar_props c (hch c List.mem_cons_self)
  have ne : ∀ d ∈ structChars, c ≠ d := fun d hd e => hs (e ▸ hd)
  rw [List.cons_append] at e1 e2 ⊢
  simp only [readVal, skipWs_cons_of_not_ws hws, if_neg (ne '"' (by decide)), if_neg (ne '[' (by decide)),
    if_neg (ne '{' (by decide)), e1, e2, hv]

/-- printed as a keyword or number token, read back by `readAtomTok` -/
def isAtom : JVal → Bool
  | .null => true
  | .bool _ => true
  | .int _ => true
  | .flt _ _ _ => true
  | _ => false

theorem encChars_null : encChars .null = nullLit := by decide +kernel
theorem encChars_true : encChars (.bool true) = trueLit := by decide +kernel
theorem encChars_false : encChars (.bool false) = falseLit := by decide +kernel

theorem readAtomTok_null (fv : String → Int × Nat) : readAtomTok fv nullLit = some .null := by
  rw [readAtomTok, if_pos rfl]

theorem readAtomTok_true (fv : String → Int × Nat) :
    readAtomTok fv trueLit = some (.bool true) := by
  rw [readAtomTok, if_neg (by decide), if_pos rfl]

theorem readAtomTok_false (fv : String → Int × Nat) :
    readAtomTok fv falseLit = some (.bool false) := by
  rw [readAtomTok, if_neg (by decide), if_neg (by decide), if_pos rfl]

theorem numTok_ne_kw {tok : List Char} (h : ∀ c ∈ tok, c ∈ floatTokCharsB) :
    tok ≠ nullLit ∧ tok ≠ trueLit ∧ tok ≠ falseLit := by
  have ne : ∀ kw ∈ [nullLit, trueLit, falseLit], tok ≠ kw := by
    intro kw hkw e
    obtain ⟨c, hc, hn⟩ := kw_has_non_float_char kw hkw
    exact hn (h c (e ▸ hc))
  exact ⟨ne _ (by simp), ne _ (by simp), ne _ (by simp)⟩

theorem floatTokB_intChars (i : Int) : floatTokB (String.ofList (intChars i)) = false := by
  cases h : floatTokB (String.ofList (intChars i)) with
  | false => rfl
  | true =>
    have ht := (floatTokB_iff _).mp h
    rw [FloatTok, String.toList_ofList] at ht
    obtain ⟨c, hc, hn⟩ := ht.2.2
    exact absurd (intChars_mem i c hc) hn

theorem readAtomTok_int (fv : String → Int × Nat) (i : Int) :
    readAtomTok fv (intChars i) = some (.int i) := by
  obtain ⟨h1, h2, h3⟩ :=
    numTok_ne_kw (fun c hc => intTok_sub_floatTok c (intChars_mem i c hc))
  rw [readAtomTok, if_neg h1, if_neg h2, if_neg h3, floatTokB_intChars, toInt?_intChars]
  simp only [Bool.false_eq_true, if_false, if_true]

theorem readAtomTok_flt (fv : String → Int × Nat) {r : String} (h : FloatTok r) :
    readAtomTok fv r.toList = some (.flt (fv r).1 (fv r).2 r) := by
  obtain ⟨h1, h2, h3⟩ := numTok_ne_kw (floatTokChars_eq ▸ h.2.1)
  rw [readAtomTok, if_neg h1, if_neg h2, if_neg h3, String.ofList_toList,
    (floatTokB_iff r).mpr h, if_pos rfl]

/-- the token of a keyword or number: what the reader needs of it -/
theorem atom_tok (fv : String → Int × Nat) : (v : JVal) → isAtom v = true → FloatsOk fv v →
    encChars v ≠ [] ∧ (∀ c ∈ encChars v, c ∈ atomCharsB) ∧ readAtomTok fv (encChars v) = some v
  | .null, _, _ => by
    rw [encChars_null]
    exact ⟨by decide, kw_num_sub_atom _ (by simp), readAtomTok_null fv⟩
  | .bool true, _, _ => by
    rw [encChars_true]
    exact ⟨by decide, kw_num_sub_atom _ (by simp), readAtomTok_true fv⟩
  | .bool false, _, _ => by
    rw [encChars_false]
    exact ⟨by decide, kw_num_sub_atom _ (by simp), readAtomTok_false fv⟩
  | .int i, _, _ =>
    ⟨intChars_ne_nil i,
      fun c hc => floatTok_sub_atom (intTok_sub_floatTok c (intChars_mem i c hc)),
      readAtomTok_int fv i⟩
  | .flt n e r, _, hv => by
    obtain ⟨ht, hfv⟩ : FloatTok r ∧ fv r = (n, e) := hv
    refine ⟨ht.1, fun c hc => floatTok_sub_atom (floatTokChars_eq ▸ ht.2.1 c hc), ?_⟩
    show readAtomTok fv r.toList = _
    rw [readAtomTok_flt fv ht, hfv]

theorem encChars_head (fv : String → Int × Nat) (v : JVal) (fvv : FloatsOk fv v) :
    ∃ c cs, encChars v = c :: cs ∧ isWs c = false ∧ c ≠ ']' := by
  cases hv : isAtom v with
  | true =>
    obtain ⟨hne, hch, _⟩ := atom_tok fv v hv fvv
    obtain ⟨c, cs, hc⟩ := List.exists_cons_of_ne_nil hne
    have hp := atomChar_props c (hch c (hc ▸ List.mem_cons_self))
    exact ⟨c, cs, hc, hp.1, fun e => hp.2 (e ▸ by decide)⟩
  | false =>
    cases v with
    | str s => exact ⟨'"', _, rfl, by decide, by decide⟩
    | arr xs => exact ⟨'[', _, rfl, by decide, by decide⟩
    | obj kvs => exact ⟨'{', _, rfl, by decide, by decide⟩
    | _ => cases hv

/-- what is printed after the first element of an array body (`listTail`) or object body
    (`objTail`), given what follows the body -/
def listTail (xs : List JVal) (r : List Char) : List Char :=
  match xs with
  | [] => r
  | _ :: _ => ',' :: ' ' :: (encListChars xs ++ r)

def objTail (kvs : List (String × JVal)) (r : List Char) : List Char :=
  match kvs with
  | [] => r
  | _ :: _ => ',' :: ' ' :: (encObjChars kvs ++ r)

theorem encListChars_cons_append (x : JVal) (xs : List JVal) (r : List Char) :
    encListChars (x :: xs) ++ r = encChars x ++ listTail xs r := by
  cases xs with
  | nil => simp only [encListChars, listTail]
  | cons y ys => simp only [encListChars, listTail, List.append_assoc, List.cons_append]

theorem encObjChars_cons_append (k : String) (v : JVal) (kvs : List (String × JVal))
    (r : List Char) :
    encObjChars ((k, v) :: kvs) ++ r
      = encStrChars k ++ (':' :: ' ' :: (encChars v ++ objTail kvs r)) := by
  cases kvs with
  | nil => simp only [encObjChars, objTail, List.append_assoc, List.cons_append]
  | cons y ys => simp only [encObjChars, objTail, List.append_assoc, List.cons_append]

theorem listTail_restOk (xs : List JVal) (r : List Char) : RestOk (listTail xs (']' :: r)) := by
  cases xs with
  | nil => exact restOk_struct (by decide) r
  | cons _ _ => exact restOk_struct (by decide) _

theorem objTail_restOk (kvs : List (String × JVal)) (r : List Char) :
    RestOk (objTail kvs ('}' :: r)) := by
  cases kvs with
  | nil => exact restOk_struct (by decide) r
  | cons _ _ => exact restOk_struct (by decide) _

mutual
  /-- fuel `readVal` needs for a printed value: one unit per call on the path
      `readVal → readArr → readElems → readVal`, hence `2 +` for a container and `1 +` per element.
      Every element prints at least one character and costs at most two units, so
      `parseFuel = 2 * length + 2` is enough (`jsize_le`). -/
  def jsize : JVal → Nat
    | .arr xs => 2 + jsizeList xs
    | .obj kvs => 2 + jsizeObj kvs
    | .null => 1
    | .bool _ => 1
    | .int _ => 1
    | .flt _ _ _ => 1
    | .str _ => 1
  def jsizeList : List JVal → Nat
    | [] => 0
    | x :: xs => 1 + jsize x + jsizeList xs
  def jsizeObj : List (String × JVal) → Nat
    | [] => 0
    | (_, v) :: r => 1 + jsize v + jsizeObj r
end

theorem jsize_pos (v : JVal) : 1 ≤ jsize v := by
  cases v with
  | arr xs => exact Nat.le_trans (Nat.le_succ 1) (Nat.le_add_right 2 _)
  | obj kvs => exact Nat.le_trans (Nat.le_succ 1) (Nat.le_add_right 2 _)
  | _ => exact Nat.le_refl 1

/-- `v` reads back: with enough fuel the reader takes the printed `v` off the front of any
    continuation a token may end at -/
abbrev ReadsBack (fv : String → Int × Nat) (v : JVal) : Prop :=
  ∀ (fuel : Nat) (rest : List Char), FloatsOk fv v → RestOk rest → jsize v ≤ fuel →
    readVal fv fuel (encChars v ++ rest) = some (v, rest)

theorem readElems_of_readsBack (fv : String → Int × Nat) : ∀ (xs : List JVal),
    (∀ x ∈ xs, ReadsBack fv x) → ∀ (fuel : Nat) (rest : List Char), xs ≠ [] →
    FloatsOkList fv xs → jsizeList xs ≤ fuel →
    readElems fv fuel (encListChars xs ++ ']' :: rest) = some (xs, rest)
  | [], _, _, _, h, _, _ => absurd rfl h
  | x :: xs, ih, fuel, rest, _, hv, hf => by
    rw [jsizeList, Nat.add_assoc] at hf
    obtain ⟨hvx, hvs⟩ : FloatsOk fv x ∧ FloatsOkList fv xs := hv
    obtain ⟨f, rfl, hf'⟩ := fuel_split hf
    have hx := ih x List.mem_cons_self f _ hvx (listTail_restOk xs rest) (by omega)
    rw [encListChars_cons_append]
    cases xs with
    | nil => exact readElems_last fv f _ hx
    | cons x' xs' =>
      refine readElems_more fv f _ hx ?_
      rw [readElems_space]
      exact readElems_of_readsBack fv _ (fun y hy => ih y (List.mem_cons_of_mem _ hy)) f rest
        (List.cons_ne_nil _ _) hvs (by omega)

theorem readMembers_of_readsBack (fv : String → Int × Nat) : ∀ (kvs : List (String × JVal)),
    (∀ kv ∈ kvs, ReadsBack fv kv.2) → ∀ (fuel : Nat) (rest : List Char), kvs ≠ [] →
    FloatsOkObj fv kvs → jsizeObj kvs ≤ fuel →
    readMembers fv fuel (encObjChars kvs ++ '}' :: rest) = some (kvs, rest)
  | [], _, _, _, h, _, _ => absurd rfl h
  | (k, v) :: kvs, ih, fuel, rest, _, hv, hf => by
    rw [jsizeObj, Nat.add_assoc] at hf
    obtain ⟨hvv, hvs⟩ : FloatsOk fv v ∧ FloatsOkObj fv kvs := hv
    obtain ⟨f, rfl, hf'⟩ := fuel_split hf
    have hx : ReadsBack fv v := ih (k, v) List.mem_cons_self
    replace hx := hx f _ hvv (objTail_restOk kvs rest) (by omega)
    rw [← readVal_space] at hx
    have hk := readStrBody_enc k (':' :: ' ' :: (encChars v ++ objTail kvs ('}' :: rest)))
    rw [encObjChars_cons_append, encStrChars, List.cons_append, List.append_assoc,
      List.singleton_append]
    cases kvs with
    | nil => exact readMembers_last fv f _ hk hx
    | cons kv' kvs' =>
      refine readMembers_more fv f _ hk hx ?_
      rw [readMembers_space]
      exact readMembers_of_readsBack fv _ (fun y hy => ih y (List.mem_cons_of_mem _ hy)) f rest
        (List.cons_ne_nil _ _) hvs (by omega)

theorem readArr_of_readsBack (fv : String → Int × Nat) (xs : List JVal)
    (ih : ∀ x ∈ xs, ReadsBack fv x) (f : Nat) (rest : List Char) (hv : FloatsOkList fv xs)
    (hf : jsizeList xs ≤ f) :
    readArr fv (f + 1) (encListChars xs ++ ']' :: rest) = some (xs, rest) := by
  cases xs with
  | nil => exact readArr_nil fv f rest
  | cons x xs' =>
    obtain ⟨c, cs, hc, hws, hb⟩ := encChars_head fv x hv.1
    have hcons : encListChars (x :: xs') ++ ']' :: rest
        = c :: (cs ++ listTail xs' (']' :: rest)) := by
      rw [encListChars_cons_append, hc]; rfl
    rw [hcons, readArr_cons fv f _ hws hb, ← hcons]
    exact readElems_of_readsBack fv _ ih f rest (List.cons_ne_nil _ _) hv hf

theorem readObj_of_readsBack (fv : String → Int × Nat) (kvs : List (String × JVal))
    (ih : ∀ kv ∈ kvs, ReadsBack fv kv.2) (f : Nat) (rest : List Char) (hv : FloatsOkObj fv kvs)
    (hf : jsizeObj kvs ≤ f) :
    readObj fv (f + 1) (encObjChars kvs ++ '}' :: rest) = some (kvs, rest) := by
  cases kvs with
  | nil => exact readObj_nil fv f rest
  | cons kv kvs' =>
    obtain ⟨k, v⟩ := kv
    have hcons : encObjChars ((k, v) :: kvs') ++ '}' :: rest
        = '"' :: (escapeChars k.toList ++ '"' :: (':' :: ' ' ::
            (encChars v ++ objTail kvs' ('}' :: rest)))) := by
      rw [encObjChars_cons_append, encStrChars, List.cons_append, List.append_assoc,
        List.singleton_append]
    rw [hcons, readObj_cons, ← hcons]
    exact readMembers_of_readsBack fv _ ih f rest (List.cons_ne_nil _ _) hv hf

theorem readVal_enc (fv : String → Int × Nat) (v : JVal) : ReadsBack fv v := by
  induction v using JVal.rec_mem with
  | null | bool _ | int _ | flt _ _ _ =>
    intro fuel rest hv hr hf
    obtain ⟨f, rfl, _⟩ := fuel_split (k := 1) (n := 0) (Nat.le_trans (jsize_pos _) hf)
    obtain ⟨hne, hch, hread⟩ := atom_tok fv _ rfl hv
    exact readVal_tok fv f hne hch hr hread
  | str s =>
    intro fuel rest _ _ hf
    obtain ⟨f, rfl, _⟩ := fuel_split (k := 1) (n := 0) (Nat.le_trans (jsize_pos _) hf)
    rw [encChars, encStrChars, List.cons_append, List.append_assoc, List.singleton_append]
    exact readVal_str fv f _ (readStrBody_enc s rest)
  | arr xs ih =>
    intro fuel rest hv _ hf
    obtain ⟨f, rfl, hf'⟩ := fuel_split (k := 2) hf
    rw [encChars, List.cons_append, List.append_assoc, List.singleton_append]
    exact readVal_arr fv _ _ (readArr_of_readsBack fv xs ih f rest hv hf')
  | obj kvs ih =>
    intro fuel rest hv _ hf
    obtain ⟨f, rfl, hf'⟩ := fuel_split (k := 2) hf
    rw [encChars, List.cons_append, List.append_assoc, List.singleton_append]
    exact readVal_obj fv _ _ (readObj_of_readsBack fv kvs ih f rest hv hf')

theorem readElems_enc (fv : String → Int × Nat) : (xs : List JVal) → (fuel : Nat) →
    (rest : List Char) → xs ≠ [] → FloatsOkList fv xs → jsizeList xs ≤ fuel →
    readElems fv fuel (encListChars xs ++ ']' :: rest) = some (xs, rest) :=
  fun xs => readElems_of_readsBack fv xs (fun x _ => readVal_enc fv x)

theorem readMembers_enc (fv : String → Int × Nat) : (kvs : List (String × JVal)) →
    (fuel : Nat) → (rest : List Char) → kvs ≠ [] → FloatsOkObj fv kvs → jsizeObj kvs ≤ fuel →
    readMembers fv fuel (encObjChars kvs ++ '}' :: rest) = some (kvs, rest) :=
  fun kvs => readMembers_of_readsBack fv kvs (fun kv _ => readVal_enc fv kv.2)

theorem readArr_enc (fv : String → Int × Nat) (xs : List JVal) (f : Nat) (rest : List Char)
    (hv : FloatsOkList fv xs) (hf : jsizeList xs ≤ f) :
    readArr fv (f + 1) (encListChars xs ++ ']' :: rest) = some (xs, rest) :=
  readArr_of_readsBack fv xs (fun x _ => readVal_enc fv x) f rest hv hf

theorem readObj_enc (fv : String → Int × Nat) (kvs : List (String × JVal)) (f : Nat)
    (rest : List Char) (hv : FloatsOkObj fv kvs) (hf : jsizeObj kvs ≤ f) :
    readObj fv (f + 1) (encObjChars kvs ++ '}' :: rest) = some (kvs, rest) :=
  readObj_of_readsBack fv kvs (fun kv _ => readVal_enc fv kv.2) f rest hv hf

theorem jsizeList_le_of : ∀ (xs : List JVal),
    (∀ x ∈ xs, jsize x ≤ 2 * (encChars x).length + 1) →
    jsizeList xs ≤ 2 * (encListChars xs).length + 2
  | [], _ => Nat.zero_le _
  | [x], ih => by
    have := ih x List.mem_cons_self
    rw [jsizeList, jsizeList, encListChars]
    omega
  | x :: y :: ys, ih => by
    have h1 := ih x List.mem_cons_self
    have h2 := jsizeList_le_of (y :: ys) (fun z hz => ih z (List.mem_cons_of_mem _ hz))
    rw [jsizeList, encListChars, List.length_append, List.length_cons, List.length_cons]
    omega

theorem jsizeObj_le_of : ∀ (kvs : List (String × JVal)),
    (∀ kv ∈ kvs, jsize kv.2 ≤ 2 * (encChars kv.2).length + 1) →
    jsizeObj kvs ≤ 2 * (encObjChars kvs).length + 2
  | [], _ => Nat.zero_le _
  | [(k, v)], ih => by
    have : jsize v ≤ 2 * (encChars v).length + 1 := ih (k, v) List.mem_cons_self
    rw [jsizeObj, jsizeObj, encObjChars, List.length_append, List.length_cons, List.length_cons]
    omega
  | (k, v) :: kv :: kvs, ih => by
    have h1 : jsize v ≤ 2 * (encChars v).length + 1 := ih (k, v) List.mem_cons_self
    have h2 := jsizeObj_le_of (kv :: kvs) (fun z hz => ih z (List.mem_cons_of_mem _ hz))
    rw [jsizeObj, encObjChars, List.length_append, List.length_append, List.length_cons,
      List.length_cons, List.length_cons, List.length_cons]
    omega

theorem jsize_le (v : JVal) : jsize v ≤ 2 * (encChars v).length + 1 := by
  induction v using JVal.rec_mem with
  | null | bool _ | int _ | flt _ _ _ | str _ => exact Nat.le_add_left 1 _
  | arr xs ih =>
    have := jsizeList_le_of xs ih
    rw [jsize, encChars, List.length_cons, List.length_append, List.length_singleton]
    omega
  | obj kvs ih =>
    have := jsizeObj_le_of kvs ih
    rw [jsize, encChars, List.length_cons, List.length_append, List.length_singleton]
    omega

theorem jsizeList_le : (xs : List JVal) → jsizeList xs ≤ 2 * (encListChars xs).length + 2 :=
  fun xs => jsizeList_le_of xs (fun x _ => jsize_le x)

theorem jsizeObj_le : (kvs : List (String × JVal)) →
    jsizeObj kvs ≤ 2 * (encObjChars kvs).length + 2 :=
  fun kvs => jsizeObj_le_of kvs (fun kv _ => jsize_le kv.2)

/-- reading the text `json.dumps(v)` gives `v` back -/
theorem parseText_enc (fv : String → Int × Nat) {v : JVal} (hv : FloatsOk fv v) :
    parseText fv (encChars v) = some v := by
  have h := readVal_enc fv v (parseFuel (encChars v)) [] hv restOk_nil
    (Nat.le_trans (jsize_le v) (Nat.le_succ _))
  rw [List.append_nil] at h
  simp [parseText, h, skipWs]

/-- reading the hashed text `json.dumps(v, sort_keys=True)` gives the canonical value -/
theorem parseText_canonChars (fv : String → Int × Nat) {v : JVal} (hv : FloatsOk fv v) :
    parseText fv (canonChars v) = some (canon v) :=
  parseText_enc fv (canon_floatsOk fv v hv)

/- The writer is injective: what the reader gives back is a function of the text, so equal texts
   were printed from equal values; with a continuation on either side this is the prefix-code
   property. -/

theorem Option.pair_inj_of_eq {α β : Type} {o₁ o₂ : Option (α × β)} {a₁ a₂ : α} {b₁ b₂ : β}
    (h₁ : o₁ = some (a₁, b₁)) (h₂ : o₂ = some (a₂, b₂)) (h : o₁ = o₂) : a₁ = a₂ ∧ b₁ = b₂ := by
  rw [h₁, h₂] at h
  cases h
  exact ⟨rfl, rfl⟩

/-- A printed value followed by a continuation a token may end at determines the value and
    the continuation. -/
theorem encChars_append_inj (fv : String → Int × Nat) {v w : JVal} {r1 r2 : List Char}
    (hv : FloatsOk fv v) (hw : FloatsOk fv w) (h1 : RestOk r1) (h2 : RestOk r2)
    (h : encChars v ++ r1 = encChars w ++ r2) : v = w ∧ r1 = r2 :=
  Option.pair_inj_of_eq (readVal_enc fv v (jsize v + jsize w) r1 hv h1 (Nat.le_add_right _ _))
    (readVal_enc fv w (jsize v + jsize w) r2 hw h2 (Nat.le_add_left _ _))
    (congrArg (readVal fv _) h)

theorem encChars_inj_via_parse (fv : String → Int × Nat) {v w : JVal} (hv : FloatsOk fv v)
    (hw : FloatsOk fv w) (h : encChars v = encChars w) : v = w :=
  (encChars_append_inj fv hv hw restOk_nil restOk_nil (congrArg (· ++ []) h)).1

theorem encListChars_inj (fv : String → Int × Nat) : (xs ys : List JVal) →
    (r1 r2 : List Char) → FloatsOkList fv xs → FloatsOkList fv ys →
    encListChars xs ++ ']' :: r1 = encListChars ys ++ ']' :: r2 → xs = ys ∧ r1 = r2 :=
  fun xs ys r1 r2 hx hy h =>
    Option.pair_inj_of_eq (readArr_enc fv xs (jsizeList xs + jsizeList ys) r1 hx (Nat.le_add_right _ _))
      (readArr_enc fv ys (jsizeList xs + jsizeList ys) r2 hy (Nat.le_add_left _ _))
      (congrArg (readArr fv _) h)

theorem encObjChars_inj (fv : String → Int × Nat) : (kvs kvs' : List (String × JVal)) →
    (r1 r2 : List Char) → FloatsOkObj fv kvs → FloatsOkObj fv kvs' →
    encObjChars kvs ++ '}' :: r1 = encObjChars kvs' ++ '}' :: r2 → kvs = kvs' ∧ r1 = r2 :=
  fun kvs kvs' r1 r2 hx hy h =>
    Option.pair_inj_of_eq
      (readObj_enc fv kvs (jsizeObj kvs + jsizeObj kvs') r1 hx (Nat.le_add_right _ _))
      (readObj_enc fv kvs' (jsizeObj kvs + jsizeObj kvs') r2 hy (Nat.le_add_left _ _))
      (congrArg (readObj fv _) h)

end Signac
