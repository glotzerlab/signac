/-
  Association lists read as Python dicts: `alookup`, dict equality `dictEq` over an arbitrary equality
  of the values, and the pigeonhole argument behind the symmetry of `dict.__eq__` and `set.__eq__`.
  Core only.
-/
import Signac.SchemaGate
import Signac.Proofs.PyEq
namespace Signac

/-- Pigeonhole: if every member of `a` has a partner in `b` and no two members share one, then `a` is
    not longer than `b`; if `b` is not longer either, every member of `b` is a partner. -/
theorem cover_pigeon {α β : Type} {R : α → β → Prop} {a : List α} :
    ∀ {b : List β}, a.Pairwise (fun x y => ∀ r, R x r → ¬ R y r) → (∀ x ∈ a, ∃ r ∈ b, R x r) →
      a.length ≤ b.length ∧ (b.length ≤ a.length → ∀ r ∈ b, ∃ x ∈ a, R x r) := by
  induction a with
  | nil =>
    intro b _ _
    refine ⟨Nat.zero_le _, fun hl r hr => ?_⟩
    rw [List.eq_nil_of_length_eq_zero (Nat.le_zero.mp hl)] at hr
    cases hr
  | cons x a ih =>
    intro b hd hc
    rw [List.pairwise_cons] at hd
    obtain ⟨r, hr, hxr⟩ := hc x List.mem_cons_self
    obtain ⟨b1, b2, rfl⟩ := List.append_of_mem hr
    -- the partners of the other members lie in `b1 ++ b2`
    have hc' : ∀ y ∈ a, ∃ s ∈ b1 ++ b2, R y s := by
      intro y hy
      obtain ⟨s, hs, hys⟩ := hc y (List.mem_cons_of_mem _ hy)
      rw [List.mem_append, List.mem_cons] at hs
      rcases hs with hs | rfl | hs
      · exact ⟨s, List.mem_append_left _ hs, hys⟩
      · exact absurd hys (hd.1 y hy s hxr)
      · exact ⟨s, List.mem_append_right _ hs, hys⟩
    obtain ⟨hle, hback⟩ := ih hd.2 hc'
    simp only [List.length_append, List.length_cons] at hle ⊢
    refine ⟨by omega, fun hl s hs => ?_⟩
    rw [List.mem_append, List.mem_cons] at hs
    have hin : s ∈ b1 ++ b2 → ∃ y ∈ x :: a, R y s := fun h =>
      (hback (by simp only [List.length_append]; omega) s h).imp
        fun y hy => ⟨List.mem_cons_of_mem _ hy.1, hy.2⟩
    rcases hs with hs | rfl | hs
    · exact hin (List.mem_append_left _ hs)
    · exact ⟨x, List.mem_cons_self, hxr⟩
    · exact hin (List.mem_append_right _ hs)

/-- a member that is unequal to all present ones keeps a Python set (or the keys of a dict) pairwise
    unequal when it is added at the end -/
theorem pairwise_append_new {α : Type} {eq : α → α → Bool} {l : List α} {x : α}
    (h : l.Pairwise fun a b => eq a b = false) (hn : ¬ l.any (eq · x) = true) :
    (l ++ [x]).Pairwise fun a b => eq a b = false := by
  refine List.pairwise_append.mpr ⟨h, List.pairwise_singleton _ _, fun a ha b hb => ?_⟩
  cases List.mem_singleton.mp hb
  exact Bool.eq_false_iff.mpr fun he => hn (List.any_eq_true.mpr ⟨a, ha, he⟩)

namespace Schema

/-! ### `alookup` -/

theorem alookup_cons {β : Type} (k k' : String) (v : β) (l : List (String × β)) :
    alookup k ((k', v) :: l) = if k = k' then some v else alookup k l := rfl

/-- `lookupKV` is `alookup` at values -/
theorem lookupKV_eq_alookup (k : String) (l : List (String × JVal)) : lookupKV k l = alookup k l := by
  induction l with
  | nil => rfl
  | cons a l ih => rw [lookupKV, alookup_cons, ih]

theorem alookup_mem {β : Type} {k : String} {l : List (String × β)} {w : β}
    (h : alookup k l = some w) : (k, w) ∈ l := by
  induction l with
  | nil => cases h
  | cons a l ih =>
    obtain ⟨k', v⟩ := a
    rw [alookup_cons] at h
    split at h
    · next e => cases h; subst e; exact List.mem_cons_self
    · exact List.mem_cons_of_mem _ (ih h)

theorem key_of_alookup {β : Type} {k : String} {l : List (String × β)} {w : β}
    (h : alookup k l = some w) : k ∈ l.map Prod.fst :=
  List.mem_map_of_mem (f := Prod.fst) (alookup_mem h)

theorem alookup_of_mem {β : Type} {k : String} {l : List (String × β)} {w : β}
    (hn : (l.map Prod.fst).Nodup) (h : (k, w) ∈ l) : alookup k l = some w := by
  induction l with
  | nil => cases h
  | cons a l ih =>
    rw [List.map_cons, List.nodup_cons] at hn
    rw [alookup_cons]
    rcases List.mem_cons.mp h with rfl | h
    · exact if_pos rfl
    · have hne : ¬ k = a.1 := fun e => hn.1 (e ▸ List.mem_map_of_mem (f := Prod.fst) h)
      rw [if_neg hne]
      exact ih hn.2 h

theorem alookup_none {β : Type} {k : String} {l : List (String × β)} :
    alookup k l = none ↔ k ∉ l.map Prod.fst := by
  induction l with
  | nil => exact ⟨fun _ => List.not_mem_nil, fun _ => rfl⟩
  | cons a l ih =>
    rw [alookup_cons, List.map_cons, List.mem_cons, not_or, ← ih]
    split
    · next e => exact ⟨nofun, fun h => absurd e h.1⟩
    · next e => exact ⟨fun h => ⟨e, h⟩, fun h => h.2⟩

theorem alookup_of_key {β : Type} {k : String} {l : List (String × β)} (h : k ∈ l.map Prod.fst) :
    ∃ w, alookup k l = some w :=
  Option.ne_none_iff_exists'.mp fun hl => alookup_none.mp hl h

/-! ### dict equality -/

theorem dictEq_iff {β : Type} {eqv : β → β → Bool} {a b : List (String × β)} :
    dictEq eqv a b = true ↔
      a.length = b.length ∧ ∀ kv ∈ a, ∃ w, alookup kv.1 b = some w ∧ eqv kv.2 w = true := by
  rw [dictEq, Bool.and_eq_true, beq_iff_eq, List.all_eq_true]
  refine and_congr_right fun _ => forall_congr' fun kv => forall_congr' fun _ => ?_
  cases alookup kv.1 b with
  | none => exact ⟨nofun, nofun⟩
  | some w => exact ⟨fun h => ⟨w, rfl, h⟩, fun ⟨_, e, h⟩ => Option.some.inj e ▸ h⟩

theorem dictEq_refl {β : Type} {eqv : β → β → Bool} {a : List (String × β)}
    (hn : (a.map Prod.fst).Nodup) (hr : ∀ kv ∈ a, eqv kv.2 kv.2 = true) : dictEq eqv a a = true :=
  dictEq_iff.mpr ⟨rfl, fun kv hkv => ⟨kv.2, alookup_of_mem hn hkv, hr kv hkv⟩⟩

/-- dicts with the same keys whose values agree key by key are equal -/
theorem dictEq_of_keys {β : Type} {eqv : β → β → Bool} {a b : List (String × β)}
    (ha : (a.map Prod.fst).Nodup) (hb : (b.map Prod.fst).Nodup)
    (hk : ∀ k, k ∈ a.map Prod.fst ↔ k ∈ b.map Prod.fst)
    (h : ∀ kv ∈ a, ∀ w, alookup kv.1 b = some w → eqv kv.2 w = true) : dictEq eqv a b = true := by
  have l1 := ha.length_le_of_subset fun k hk' => (hk k).mp hk'
  have l2 := hb.length_le_of_subset fun k hk' => (hk k).mpr hk'
  rw [List.length_map, List.length_map] at l1 l2
  refine dictEq_iff.mpr ⟨Nat.le_antisymm l1 l2, fun kv hkv => ?_⟩
  obtain ⟨w, hw⟩ := alookup_of_key ((hk kv.1).mp (List.mem_map_of_mem hkv))
  exact ⟨w, hw, h kv hkv w hw⟩

/-- the keys of the left dict are keys of the right one -/
theorem dictEq_keys {β : Type} {eqv : β → β → Bool} {a b : List (String × β)}
    (h : dictEq eqv a b = true) : ∀ k ∈ a.map Prod.fst, k ∈ b.map Prod.fst := by
  intro k hk
  obtain ⟨kv, hkv, rfl⟩ := List.mem_map.mp hk
  obtain ⟨w, hw, _⟩ := (dictEq_iff.mp h).2 kv hkv
  exact key_of_alookup hw

theorem dictEq_symm {β : Type} {eqv : β → β → Bool} {a b : List (String × β)}
    (ha : (a.map Prod.fst).Nodup) (hb : (b.map Prod.fst).Nodup)
    (hs : ∀ kv ∈ a, ∀ kw ∈ b, eqv kv.2 kw.2 = true → eqv kw.2 kv.2 = true)
    (h : dictEq eqv a b = true) : dictEq eqv b a = true := by
  obtain ⟨hl, hab⟩ := dictEq_iff.mp h
  have hback : ∀ k ∈ b.map Prod.fst, k ∈ a.map Prod.fst := fun _ => mem_of_nodup_subset ha (dictEq_keys h)
    (by rw [List.length_map, List.length_map, hl]; exact Nat.le_refl _)
  refine dictEq_of_keys hb ha (fun k => ⟨hback k, dictEq_keys h k⟩) fun kw hkw v hv => ?_
  obtain ⟨w, hw, he⟩ := hab (kw.1, v) (alookup_mem hv)
  rw [alookup_of_mem hb hkw] at hw
  cases hw
  exact hs _ (alookup_mem hv) kw hkw he

theorem dictEq_trans {β : Type} {eqv : β → β → Bool} {a b c : List (String × β)}
    (ht : ∀ kv ∈ a, ∀ y z, eqv kv.2 y = true → eqv y z = true → eqv kv.2 z = true)
    (h1 : dictEq eqv a b = true) (h2 : dictEq eqv b c = true) : dictEq eqv a c = true := by
  obtain ⟨l1, c1⟩ := dictEq_iff.mp h1
  obtain ⟨l2, c2⟩ := dictEq_iff.mp h2
  refine dictEq_iff.mpr ⟨l1.trans l2, fun kv hkv => ?_⟩
  obtain ⟨w, hw, e1⟩ := c1 kv hkv
  obtain ⟨u, hu, e2⟩ := c2 (kv.1, w) (alookup_mem hw)
  exact ⟨u, hu, ht kv hkv _ _ e1 e2⟩

end Schema
end Signac
