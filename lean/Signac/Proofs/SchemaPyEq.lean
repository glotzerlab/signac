/-
  Python `==` on JSON-born values (`pyEq`) is transitive, and reflexive and symmetric on values whose
  mappings have distinct keys at every depth (which every parsed JSON document and every Python dict
  satisfies).  Needed to read the set algebra of `diff_jobs` as "pairs not shared by all jobs".
  Core only.
-/
import Signac.Proofs.JValInd
import Signac.Proofs.PyEq
import Signac.Proofs.SchemaAssoc
namespace Signac
open Schema (alookup dictEq)

theorem pyEq_of_num {v : JVal} {p : Int × Nat} (hv : numVal v = some p) (w : JVal) :
    pyEq v w = match numVal w with
      | some q => numEq p q
      | none => false := pyEq_of_numVal hv w

theorem pyEq_obj_inv {a : List (String × JVal)} {w : JVal} (h : pyEq (.obj a) w = true) :
    ∃ b, w = .obj b ∧ pyEq (.obj a) (.obj b) = true := by
  cases w with
  | obj b => exact ⟨b, rfl, h⟩
  | _ => cases h

/-! ### mappings with distinct keys -/

mutual
  /-- every mapping inside the value (also inside lists) has pairwise distinct keys -/
  def NodupKeysVal : JVal → Prop
    | .arr xs => NodupKeysList xs
    | .obj kvs => NodupKeysObj kvs
    | .null => True
    | .bool _ => True
    | .int _ => True
    | .flt _ _ _ => True
    | .str _ => True
  def NodupKeysList : List JVal → Prop
    | [] => True
    | x :: xs => NodupKeysVal x ∧ NodupKeysList xs
  def NodupKeysObj : List (String × JVal) → Prop
    | [] => True
    | (k, v) :: rest => (∀ kv ∈ rest, kv.1 ≠ k) ∧ NodupKeysVal v ∧ NodupKeysObj rest
end

mutual
  def NodupKeysVal.decide : (v : JVal) → Decidable (NodupKeysVal v)
    | .arr xs => NodupKeysList.decide xs
    | .obj kvs => NodupKeysObj.decide kvs
    | .null | .bool _ | .int _ | .flt _ _ _ | .str _ => .isTrue trivial
  def NodupKeysList.decide : (xs : List JVal) → Decidable (NodupKeysList xs)
    | [] => .isTrue trivial
    | x :: xs => @instDecidableAnd _ _ (NodupKeysVal.decide x) (NodupKeysList.decide xs)
  def NodupKeysObj.decide : (kvs : List (String × JVal)) → Decidable (NodupKeysObj kvs)
    | [] => .isTrue trivial
    | (_, v) :: rest => @instDecidableAnd _ _ inferInstance
        (@instDecidableAnd _ _ (NodupKeysVal.decide v) (NodupKeysObj.decide rest))
end

instance (kvs : List (String × JVal)) : Decidable (NodupKeysObj kvs) := NodupKeysObj.decide kvs

theorem NodupKeysList_mem {xs : List JVal} (h : NodupKeysList xs) : ∀ x ∈ xs, NodupKeysVal x := by
  induction xs with
  | nil => exact fun _ hx => nomatch hx
  | cons a l ih => exact List.forall_mem_cons.mpr ⟨h.1, ih h.2⟩

theorem NodupKeysObj_mem {kvs : List (String × JVal)} (h : NodupKeysObj kvs) :
    ∀ kv ∈ kvs, NodupKeysVal kv.2 := by
  induction kvs with
  | nil => exact fun _ hx => nomatch hx
  | cons a l ih => exact List.forall_mem_cons.mpr ⟨h.2.1, ih h.2.2⟩

theorem NodupKeysObj_keys {kvs : List (String × JVal)} (h : NodupKeysObj kvs) :
    (kvs.map Prod.fst).Nodup := by
  induction kvs with
  | nil => exact List.nodup_nil
  | cons a l ih =>
    refine List.nodup_cons.mpr ⟨fun hk => ?_, ih h.2.2⟩
    obtain ⟨kv, hkv, e⟩ := List.mem_map.mp hk
    exact h.1 kv hkv e

/-- on mappings `==` is dict equality with `==` on the values -/
theorem pyEq_obj_iff {a b : List (String × JVal)} :
    pyEq (.obj a) (.obj b) = true ↔ dictEq pyEq a b = true := by
  rw [Schema.dictEq_iff, pyEq, Bool.and_eq_true, beq_iff_eq, pyEqEntries_iff]
  simp only [Schema.lookupKV_eq_alookup]

/-! ### reflexivity -/

theorem pyEq_refl_of_num {v : JVal} {p : Int × Nat} (hv : numVal v = some p) : pyEq v v = true := by
  rw [pyEq_num hv hv]
  exact beq_self_eq_true _

theorem pyEq_refl (v : JVal) : NodupKeysVal v → pyEq v v = true := by
  induction v using JVal.rec_mem with
  | null => exact fun _ => rfl
  | bool b => exact fun _ => pyEq_refl_of_num (numVal_bool b)
  | int i => exact fun _ => pyEq_refl_of_num (p := (i, 0)) rfl
  | flt n e r => exact fun _ => pyEq_refl_of_num (p := (n, e)) rfl
  | str s => exact fun _ => beq_self_eq_true s
  | arr xs ih => exact fun h => pyEqList_refl fun x hx => ih x hx (NodupKeysList_mem h x hx)
  | obj a ih =>
    intro h
    exact pyEq_obj_iff.mpr <|
      Schema.dictEq_refl (NodupKeysObj_keys h) fun kv hkv => ih kv hkv (NodupKeysObj_mem h kv hkv)

/-! ### symmetry -/

/-- `v == w` implies `w == v` for every well-formed `w` -/
def SymmAt (v : JVal) : Prop := ∀ w, NodupKeysVal w → pyEq v w = true → pyEq w v = true

theorem symmAt_of_num {v : JVal} {p : Int × Nat} (hv : numVal v = some p) : SymmAt v :=
  fun w _ h => pyEq_num_symm hv w ▸ h

theorem pyEqList_symm {xs : List JVal} (hx : ∀ x ∈ xs, SymmAt x) :
    ∀ {ys : List JVal}, NodupKeysList ys → pyEqList xs ys = true → pyEqList ys xs = true := by
  induction xs with
  | nil => intro ys _ h; cases ys <;> first | rfl | cases h
  | cons x xs ih =>
    intro ys hy h
    rw [List.forall_mem_cons] at hx
    cases ys with
    | nil => cases h
    | cons y ys =>
      have h := (Bool.and_eq_true _ _).mp h
      exact (Bool.and_eq_true _ _).mpr ⟨hx.1 y hy.1 h.1, ih hx.2 hy.2 h.2⟩

theorem symmAt_val (v : JVal) : NodupKeysVal v → SymmAt v := by
  induction v using JVal.rec_mem with
  | null => intro _ w _ h; rw [pyEq_null_true h]; rfl
  | bool b => exact fun _ => symmAt_of_num (numVal_bool b)
  | int i => exact fun _ => symmAt_of_num (p := (i, 0)) rfl
  | flt n e r => exact fun _ => symmAt_of_num (p := (n, e)) rfl
  | str s => intro _ w _ h; rw [pyEq_str_true h]; exact beq_self_eq_true s
  | arr xs ih =>
    intro hv w hw h
    obtain ⟨ys, rfl, h⟩ := pyEq_arr_true h
    exact pyEqList_symm (fun x hx => ih x hx (NodupKeysList_mem hv x hx)) hw h
  | obj a ih =>
    intro hv w hw h
    obtain ⟨b, rfl, h⟩ := pyEq_obj_inv h
    exact pyEq_obj_iff.mpr <| Schema.dictEq_symm (NodupKeysObj_keys hv) (NodupKeysObj_keys hw)
      (fun kv hkv kw hkw => ih kv hkv (NodupKeysObj_mem hv kv hkv) kw.2 (NodupKeysObj_mem hw kw hkw))
      (pyEq_obj_iff.mp h)

theorem symmAt_obj : ∀ (kvs : List (String × JVal)), NodupKeysObj kvs → ∀ kv ∈ kvs, SymmAt kv.2 :=
  fun _ h kv hkv => symmAt_val kv.2 (NodupKeysObj_mem h kv hkv)

theorem pyEq_symm {v w : JVal} (hv : NodupKeysVal v) (hw : NodupKeysVal w) (h : pyEq v w = true) :
    pyEq w v = true := symmAt_val v hv w hw h

/-! ### transitivity -/

/-- `v == w` and `w == u` imply `v == u` -/
def TransAt (v : JVal) : Prop := ∀ w u, pyEq v w = true → pyEq w u = true → pyEq v u = true

theorem transAt_of_num {v : JVal} {p : Int × Nat} (hv : numVal v = some p) : TransAt v :=
  fun _ u h1 h2 => pyEq_num_eucl hv h1 u ▸ h2

theorem pyEqList_trans {xs : List JVal} (hx : ∀ x ∈ xs, TransAt x) :
    ∀ {ys zs : List JVal}, pyEqList xs ys = true → pyEqList ys zs = true → pyEqList xs zs = true := by
  induction xs with
  | nil => intro ys zs h1 h2; cases ys <;> first | exact h2 | cases h1
  | cons x xs ih =>
    intro ys zs h1 h2
    rw [List.forall_mem_cons] at hx
    cases ys with
    | nil => cases h1
    | cons y ys =>
      cases zs with
      | nil => cases h2
      | cons z zs =>
        have h1 := (Bool.and_eq_true _ _).mp h1
        have h2 := (Bool.and_eq_true _ _).mp h2
        exact (Bool.and_eq_true _ _).mpr ⟨hx.1 y z h1.1 h2.1, ih hx.2 h1.2 h2.2⟩

theorem transAt_val (v : JVal) : TransAt v := by
  induction v using JVal.rec_mem with
  | null => intro w u h1 h2; rwa [pyEq_null_true h1] at h2
  | bool b => exact transAt_of_num (numVal_bool b)
  | int i => exact transAt_of_num (p := (i, 0)) rfl
  | flt n e r => exact transAt_of_num (p := (n, e)) rfl
  | str s => intro w u h1 h2; rwa [pyEq_str_true h1] at h2
  | arr xs ih =>
    intro w u h1 h2
    obtain ⟨ys, rfl, h1⟩ := pyEq_arr_true h1
    obtain ⟨zs, rfl, h2⟩ := pyEq_arr_true h2
    exact pyEqList_trans ih h1 h2
  | obj a ih =>
    intro w u h1 h2
    obtain ⟨b, rfl, h1⟩ := pyEq_obj_inv h1
    obtain ⟨c, rfl, h2⟩ := pyEq_obj_inv h2
    exact pyEq_obj_iff.mpr (Schema.dictEq_trans ih (pyEq_obj_iff.mp h1) (pyEq_obj_iff.mp h2))

theorem transAt_list : ∀ (xs : List JVal), ∀ x ∈ xs, TransAt x := fun _ x _ => transAt_val x

theorem transAt_obj : ∀ (kvs : List (String × JVal)), ∀ kv ∈ kvs, TransAt kv.2 :=
  fun _ kv _ => transAt_val kv.2

/-- Python `==` is transitive on all JSON-born values -/
theorem pyEq_trans {v w u : JVal} (h1 : pyEq v w = true) (h2 : pyEq w u = true) : pyEq v u = true :=
  transAt_val v w u h1 h2

end Signac
