/-
  C06, between index and filter: one flattened atom.  The callable built for an operator, and
  the slot lookup of a plain key, cannot tell two keys of one slot apart (up to the Python type, which only `$type`
  looks at), so evaluating on the stored keys is evaluating on every job's own value.  Assembly
  over the filter structure: a filter that is well-typed on the corpus and free of the bool/int
  slot clash has exact atom lookups everywhere (`Good`), hence `_find_result` returns exactly the
  jobs `evalRef` accepts.
-/
import Signac.Proofs.QueryIndex
namespace Signac.Query
open Signac

/-! ### what an operator sees of a key -/

/-- `math.isclose` looks at the numeric value of its first argument only -/
def NearRespectsEq (P : Params) : Prop :=
  ∀ v w a r t, isNumber v = true → isNumber w = true → pyEq v w = true →
    P.isclose v a r t = P.isclose w a r t

theorem isNumber_iff (v : JVal) : isNumber v = true ↔ ∃ p, numVal v = some p := by
  cases v with
  | bool b => simp [isNumber, numVal_bool]
  | _ => simp [isNumber, numVal]

theorem isNumber_of_pyEq {v w : JVal} (h : pyEq v w = true) : isNumber v = isNumber w := by
  rw [Bool.eq_iff_iff, isNumber_iff, isNumber_iff]
  constructor
  · rintro ⟨p, hp⟩
    obtain ⟨q, hq, _⟩ := pyEq_num_true hp h
    exact ⟨q, hq⟩
  · rintro ⟨q, hq⟩
    cases hv : numVal v with
    | some p => exact ⟨p, rfl⟩
    | none => rw [pyEq_nonnum_num hv hq] at h; cases h

theorem nearHolds_val (P : Params) (s : NearSpec) (v : JVal) :
    nearHolds P s (.val v) =
      if isNumber v then
        (match P.isclose v s.a s.rel s.abs with
          | some r => .ok r
          | none => .error .valueError)
      else .error .typeError := by
  cases v <;> rfl

theorem nearHolds_congr {P : Params} (hP : NearRespectsEq P) (s : NearSpec) {a b : IKey}
    (hs : slotEq a b = true) : nearHolds P s a = nearHolds P s b := by
  cases a with
  | dict => cases b with
    | dict => rfl
    | val _ => cases hs
  | val v => cases b with
    | dict => cases hs
    | val w =>
      simp only [slotEq, Bool.and_eq_true] at hs
      rw [nearHolds_val, nearHolds_val, ← isNumber_of_pyEq hs.1]
      cases hn : isNumber v with
      | false => rfl
      | true => rw [hP v w s.a s.rel s.abs hn (by rw [← isNumber_of_pyEq hs.1]; exact hn) hs.1]

theorem anyEq_congr {a b : IKey} (h : ∀ c, ikEq a c = ikEq b c) : ∀ xs, anyEq a xs = anyEq b xs
  | [] => rfl
  | x :: xs => by simp only [anyEq, h x, anyEq_congr h xs]

def strOfKey : IKey → Option String
  | .val (.str s) => some s
  | _ => none

theorem strOfKey_eq_some {k : IKey} {t : String} : strOfKey k = some t ↔ k = .val (.str t) := by
  constructor
  · intro h
    cases k with
    | dict => cases h
    | val v => cases v <;> cases h <;> rfl
  · rintro rfl; rfl

theorem pyIn_eq (k : IKey) (arg : JVal) :
    pyIn k arg = (match arg with
      | .arr xs => .ok (anyEq k xs)
      | .str s => (match strOfKey k with
          | some t => .ok (isInfixChars t.toList s.toList)
          | none => .error .typeError)
      | .obj kvs => (match strOfKey k with
          | some t => .ok ((lookupKV t kvs).isSome)
          | none => .ok false)
      | _ => .error .typeError) := by
  cases arg with
  | arr xs => rfl
  | str s => cases k with
    | dict => rfl
    | val v => cases v <;> rfl
  | obj kvs => cases k with
    | dict => rfl
    | val v => cases v <;> rfl
  | _ => rfl

theorem regexHolds_eq (P : Params) (arg : JVal) (k : IKey) :
    regexHolds P arg k = (match strOfKey k with
      | some s => (match arg with
          | .str p => (match P.rx p s with
              | some b => .ok b
              | none => .error .reError)
          | _ => .error .typeError)
      | none => .ok false) := by
  cases k with
  | dict => rfl
  | val v => cases v <;> rfl

/-- Everything `holds` asks of a key: its `==` and its ordering with the argument, whether it is
    a string, and (for `$type` only) its Python type. -/
theorem holds_congr {P : Params} {op : String} {arg : JVal} {a b : IKey}
    (heq : ∀ c, ikEq a c = ikEq b c) (hcmp : ∀ c, ikCmp a c = ikCmp b c)
    (hstr : strOfKey a = strOfKey b)
    (hty : op = "$type" → ∀ t, ikIsInstance a t = ikIsInstance b t) :
    holds P op a arg = holds P op b arg := by
  have hin : pyIn a arg = pyIn b arg := by simp only [pyIn_eq, hstr, anyEq_congr heq]
  have hrx : regexHolds P arg a = regexHolds P arg b := by rw [regexHolds_eq, regexHolds_eq, hstr]
  unfold holds
  rw [heq, hcmp, hin, hrx]
  by_cases h7 : op = "$type"
  · cases typeArg arg with
    | error e => rfl
    | ok t => simp only [hty h7 t]
  · simp only [if_neg h7]

namespace Full

theorem slot_facts {a b : IKey} (hf : okKey a = true) (h : slotEq a b = true) :
    (∀ c, ikEq a c = ikEq b c) ∧ (∀ c, ikCmp a c = ikCmp b c) ∧ strOfKey a = strOfKey b := by
  cases a with
  | dict =>
    cases b with
    | dict => exact ⟨fun _ => rfl, fun _ => rfl, rfl⟩
    | val _ => cases h
  | val v =>
    cases b with
    | dict => cases h
    | val w =>
      simp only [slotEq, Bool.and_eq_true] at h
      refine ⟨fun c => pyEq_eucl_wf v hf w c h.1, fun c => pyCmp_congr_wf v hf w c h.1, ?_⟩
      refine Option.ext fun t => ?_
      rw [strOfKey_eq_some, strOfKey_eq_some]
      constructor
      · intro e; cases e; rw [pyEq_str_true h.1]
      · intro e; cases e; rw [pyEq_str_left h.1]

/-- the callable built for an operator gives the same answer (or raises the same exception) on
    two keys of one slot; for `$type` this needs the keys to be of one Python type -/
theorem opTest_congr {P : Params} (hP : NearRespectsEq P) {op : String} {arg : JVal}
    {h : IKey → Except Err Bool} (hop : opTest P op arg = .ok h) {a b : IKey}
    (hf : okKey a = true) (hs : slotEq a b = true)
    (hty : op = "$type" → ∀ t, ikIsInstance a t = ikIsInstance b t) : h a = h b := by
  unfold opTest at hop
  split at hop
  · cases hsp : nearSpec P arg with
    | error e => rw [hsp] at hop; cases hop
    | ok sp => rw [hsp] at hop; cases hop; exact nearHolds_congr hP sp hs
  · cases hop
    obtain ⟨heq, hcmp, hstr⟩ := slot_facts hf hs
    exact holds_congr heq hcmp hstr hty

end Full

/-! ### looking a filter value up -/

theorem pyEq_right_num {w : JVal} {c c' : JVal} {p q : Int × Nat}
    (hc : numVal c = some p) (hc' : numVal c' = some q) (hpq : numEq p q = true) :
    pyEq w c = pyEq w c' := by
  rw [← pyEq_num_symm hc w, ← pyEq_num_symm hc' w]
  have : pyEq c c' = true := by rw [pyEq_of_numVal hc, hc']; exact hpq
  exact pyEq_num_eucl hc this w

theorem slotTag_le_one (w : JVal) : slotTag w = 0 ∨ slotTag w = 1 := by
  cases w <;> simp [slotTag]

theorem intValued_spec {v : JVal} {n : Int} (h : intValued v = some n) :
    ∃ p, numVal v = some p ∧ numEq p (n, 0) = true := by
  unfold intValued at h
  cases hv : numVal v with
  | none => rw [hv] at h; cases h
  | some p =>
    obtain ⟨m, e⟩ := p
    rw [hv] at h
    simp only at h
    split at h
    · rename_i hc
      simp only [Bool.and_eq_true, beq_iff_eq] at hc
      simp only [Option.some.injEq] at h
      refine ⟨(m, e), rfl, ?_⟩
      rw [numEq_iff]
      simp only [Int.pow_zero, Int.mul_one]
      rw [← h]
      exact (Int.ediv_mul_cancel (Int.dvd_of_emod_eq_zero hc.2)).symm
    · cases h

/-- `_find_expression`, plain key, `isinstance(value, Number) and float(value).is_integer()`: the
    dual lookup `index.get(int(v)) ∪ index.get(_float(v))` is `==` on the job's value -/
theorem dual_lookup_eq {k : IKey} {v : JVal} {n : Int} (h : intValued v = some n) :
    (slotEq k (.val (.int n)) || slotEq k (.val (.flt n 0 ""))) = ikEq k v := by
  obtain ⟨p, hp, hpn⟩ := intValued_spec h
  cases k with
  | dict => rfl
  | val w =>
    simp only [slotEq, ikEq]
    rw [pyEq_right_num (c := .int n) (c' := v) (p := (n, 0)) rfl hp (by rw [numEq_symm]; exact hpn),
      pyEq_right_num (c := .flt n 0 "") (c' := v) (p := (n, 0)) rfl hp (by rw [numEq_symm]; exact hpn)]
    -- the two probes differ in the slot tag only, and `w` has one of the two tags
    rcases slotTag_le_one w with t | t <;> rw [t] <;> cases pyEq w v <;> rfl

theorem numVal_nonflt_exp {w : JVal} {q : Int × Nat} (hw : numVal w = some q) (ht : slotTag w = 0) :
    q.2 = 0 := by
  cases w with
  | bool b => cases b <;> cases hw <;> rfl
  | int i => cases hw; rfl
  | flt n e r => cases ht
  | _ => cases hw

/-- a value `==` to a filter value that is not an integer-valued number sits in the slot the
    plain lookup `index.get(v)` probes -/
theorem slotTag_of_pyEq {w v : JVal} (h : intValued v = none)
    (he : pyEq w v = true) : slotTag w = slotTag v := by
  cases hv : numVal v with
  | none =>
    have hnv : isNumber v = false := by
      cases hn : isNumber v with
      | false => rfl
      | true => obtain ⟨p, hp⟩ := (isNumber_iff v).mp hn; rw [hp] at hv; cases hv
    have hnw : isNumber w = false := by rw [isNumber_of_pyEq he]; exact hnv
    have tv : slotTag v = 0 := by cases v <;> first | rfl | cases hnv
    have tw : slotTag w = 0 := by cases w <;> first | rfl | cases hnw
    rw [tv, tw]
  | some p =>
    obtain ⟨m, e⟩ := p
    have hnum : isNumber v = true := (isNumber_iff v).mpr ⟨_, hv⟩
    have hmod : ¬ (m % (2 : Int) ^ e = 0) := by
      intro hz
      unfold intValued at h
      rw [hv] at h
      simp only [hnum, Bool.true_and, beq_iff_eq] at h
      rw [if_pos hz] at h
      cases h
    -- v is not an exact integer, so it is a float, and so is anything equal to it
    have tv : slotTag v = 1 := by
      rcases slotTag_le_one v with t0 | t1
      · have := numVal_nonflt_exp hv t0
        simp only at this
        subst this
        simp at hmod
      · exact t1
    rcases slotTag_le_one w with t0 | t1
    · exfalso
      rw [← pyEq_num_symm hv w] at he
      obtain ⟨q, hq, hmq⟩ := pyEq_num_true hv he
      have he0 := numVal_nonflt_exp hq t0
      obtain ⟨i, e'⟩ := q
      simp only at he0
      subst he0
      rw [numEq_iff] at hmq
      simp only [Int.pow_zero, Int.mul_one] at hmq
      apply hmod
      rw [hmq]
      exact Int.mul_emod_left i _
    · rw [t1, tv]

theorem single_lookup_eq {k : IKey} {v : JVal} (h : intValued v = none) :
    slotEq k (.val v) = ikEq k v := by
  cases k with
  | dict => rfl
  | val w =>
    simp only [slotEq, ikEq]
    cases he : pyEq w v with
    | false => rfl
    | true => rw [slotTag_of_pyEq h he]; simp

theorem findExpression_plain {P : Params} {docs : List (JobId × JVal)} {k : String} {nodes : List String}
    (hk : analyseKey k = .plain nodes) (v : JVal) :
    findExpression P docs k v = (match intValued v with
      | some n => .ok ((buildIndex docs nodes).get (.val (.int n)) ++ (buildIndex docs nodes).get (.val (.flt n 0 "")))
      | none => .ok ((buildIndex docs nodes).get (.val v))) := by
  unfold findExpression; rw [hk]; rfl

theorem evalAtom_plain {P : Params} {k : String} {nodes : List String}
    (hk : analyseKey k = .plain nodes) (d v : JVal) :
    evalAtom P d k v = (match getPath nodes d with
      | none => .ok false
      | some w => .ok (ikEq (toIKey w) v)) := by
  unfold evalAtom; rw [hk]; dsimp only; cases getPath nodes d <;> rfl

theorem findExpression_op {P : Params} {docs : List (JobId × JVal)} {k op : String} {nodes : List String}
    (hk : analyseKey k = .op nodes op) (hop : Extracted.INDEX_OPERATORS.contains op = true) (v : JVal) :
    findExpression P docs k v = findWithOp P (buildIndex docs nodes) op v := by
  unfold findExpression; rw [hk]; exact if_pos hop

theorem evalAtom_op {P : Params} {k op : String} {nodes : List String}
    (hk : analyseKey k = .op nodes op) (hop : Extracted.INDEX_OPERATORS.contains op = true)
    {v : JVal} {h : IKey → Except Err Bool} (hot : opTest P op v = .ok h) (d : JVal) :
    evalAtom P d k v = (match getPath nodes d with
      | none => .ok false
      | some w => h (toIKey w)) := by
  unfold evalAtom; rw [hk]; simp only [if_pos hop, hot]; cases getPath nodes d <;> rfl

theorem exists_not_indexed : Extracted.INDEX_OPERATORS.contains "$exists" = false := by decide +kernel

theorem findExpression_exists {P : Params} {docs : List (JobId × JVal)} {k : String} {nodes : List String}
    (hk : analyseKey k = .op nodes "$exists") (b : Bool) :
    findExpression P docs k (.bool b) = .ok (if b then (buildIndex docs nodes).members
      else diffIds (allIds docs) (buildIndex docs nodes).members) := by
  unfold findExpression; rw [hk]; simp only [exists_not_indexed, Bool.false_eq_true, if_false, if_true]

theorem evalAtom_exists {P : Params} {k : String} {nodes : List String}
    (hk : analyseKey k = .op nodes "$exists") (d : JVal) (b : Bool) :
    evalAtom P d k (.bool b) = (match getPath nodes d with
      | none => .ok (!b)
      | some _ => .ok b) := by
  unfold evalAtom; rw [hk]; simp only [exists_not_indexed, Bool.false_eq_true, if_false, if_true]
  cases getPath nodes d <;> rfl

/-- the only atoms that evaluate at all: plain keys, index operators, `$exists` with a bool -/
theorem evalAtom_ok_cases {P : Params} {d : JVal} {k : String} {v : JVal} {b : Bool}
    (h : evalAtom P d k v = .ok b) :
    (∃ nodes, analyseKey k = .plain nodes)
    ∨ (∃ nodes op t, analyseKey k = .op nodes op ∧ Extracted.INDEX_OPERATORS.contains op = true
        ∧ opTest P op v = .ok t)
    ∨ (∃ nodes b', analyseKey k = .op nodes "$exists" ∧ v = .bool b') := by
  unfold evalAtom at h
  cases hk : analyseKey k with
  | bad => rw [hk] at h; cases h
  | plain nodes => exact Or.inl ⟨nodes, rfl⟩
  | op nodes op =>
    rw [hk] at h
    simp only at h
    split at h
    · rename_i hop
      cases hot : opTest P op v with
      | error e => rw [hot] at h; cases h
      | ok t => exact Or.inr (Or.inl ⟨nodes, op, t, rfl, hop, hot⟩)
    · split at h
      · rename_i hex
        subst hex
        cases v with
        | bool b' => exact Or.inr (Or.inr ⟨nodes, b', rfl, rfl⟩)
        | _ => cases h
      · cases h

/-! ### one flattened atom: index lookup = per-job evaluation -/

/-- an id list holding the jobs whose value under `nodes` passes the test `t` selects the
    documents on which "absent: false, present: `t`" says `true` -/
theorem sel_of_path {docs : List (JobId × JVal)} {nodes : List String} {m : List JobId}
    {t : JVal → Except Err Bool}
    (h : ∀ i, i ∈ m ↔ ∃ d w, (i, d) ∈ docs ∧ getPath nodes d = some w ∧ t w = .ok true) :
    Sel docs (fun d => (match getPath nodes d with | none => Except.ok false | some w => t w) = .ok true) m := by
  intro i
  rw [h i]
  constructor
  · rintro ⟨d, w, hd, hw, ht⟩
    exact ⟨d, hd, by simp only [hw]; exact ht⟩
  · rintro ⟨d, hd, hp⟩
    cases hw : getPath nodes d with
    | none => rw [hw] at hp; cases hp
    | some w => rw [hw] at hp; exact ⟨d, w, hd, hw, hp⟩

/-- two jobs whose values under `nodes` share a slot are of one Python type there
    (false exactly when one holds a bool and the other an `==` int: finding F-6a) -/
def TypeStable (docs : List (JobId × JVal)) (nodes : List String) : Prop :=
  ∀ i d w j d' w', (i, d) ∈ docs → (j, d') ∈ docs → getPath nodes d = some w →
    getPath nodes d' = some w' → slotEq (toIKey w) (toIKey w') = true →
    ∀ t, ikIsInstance (toIKey w) t = ikIsInstance (toIKey w') t

namespace Full

/-- `hst` (the atom evaluates on the empty document) classifies the key and argument when the corpus
    is empty and `hwt` says nothing. -/
theorem atomGood {P : Params} {docs : List (JobId × JVal)} (hu : UniqueIds docs)
    (hP : NearRespectsEq P) (hok : ∀ nodes, OkAt nodes docs) (k : String) (v : JVal)
    (hwt : ∀ i d, (i, d) ∈ docs → ∃ b, evalAtom P d k v = .ok b)
    (hst : ∃ b, evalAtom P (.obj []) k v = .ok b)
    (hty : ∀ nodes, analyseKey k = .op nodes "$type" → TypeStable docs nodes) :
    AtomGood P docs k v := by
  obtain ⟨b0, hst⟩ := hst
  rcases evalAtom_ok_cases hst with ⟨nodes, hk⟩ | ⟨nodes, op, t, hk, hop, hot⟩ | ⟨nodes, b, hk, rfl⟩
  · -- plain key: the slots probed are those of the values `==` to `v`
    have hev : (fun d => evalAtom P d k v = .ok true) = _ := funext fun d => by rw [evalAtom_plain hk]
    rw [AtomGood, hev, findExpression_plain hk]
    cases hiv : intValued v with
    | some n =>
      refine ⟨_, rfl, sel_of_path fun i => ?_⟩
      simp only [List.mem_append, get_mem_iff hu (hok nodes), Except.ok.injEq, ← dual_lookup_eq hiv,
        Bool.or_eq_true]
      constructor
      · rintro (⟨d, w, hd, hw, hs⟩ | ⟨d, w, hd, hw, hs⟩)
        · exact ⟨d, w, hd, hw, Or.inl hs⟩
        · exact ⟨d, w, hd, hw, Or.inr hs⟩
      · rintro ⟨d, w, hd, hw, hs | hs⟩
        · exact Or.inl ⟨d, w, hd, hw, hs⟩
        · exact Or.inr ⟨d, w, hd, hw, hs⟩
    | none =>
      refine ⟨_, rfl, sel_of_path fun i => ?_⟩
      simp only [get_mem_iff hu (hok nodes), Except.ok.injEq, ← single_lookup_eq hiv]
  · -- index operator: the test is run on the stored keys
    have hev : (fun d => evalAtom P d k v = .ok true) = _ := funext fun d => by rw [evalAtom_op hk hop hot]
    have inv := buildIndex_inv (hok nodes)
    have hres : ∀ r ids, (r, ids) ∈ buildIndex docs nodes → ∃ b, t r = .ok b := by
      intro r ids hg
      obtain ⟨j, d, w, h1, h2, rfl⟩ := inv.rep r ids hg
      obtain ⟨b, hb⟩ := hwt j d h1
      rw [evalAtom_op hk hop hot, h2] at hb
      exact ⟨b, hb⟩
    obtain ⟨m, hm, hsel⟩ := matchGroups_spec hres
    have hq : SlotInvariant docs nodes (fun r => t r = .ok true) := by
      intro i d w j d' w' hd hd' hw hw' hs
      show t (toIKey w) = .ok true ↔ t (toIKey w') = .ok true
      rw [opTest_congr hP hot (hok nodes i d w hd hw) hs
        (fun hopt => hty nodes (hopt ▸ hk) i d w j d' w' hd hd' hw hw' hs)]
    rw [AtomGood, hev, findExpression_op hk hop]
    refine ⟨m, by simp only [findWithOp, hot, hm], sel_of_path fun i => ?_⟩
    rw [hsel i]
    exact idx_exists_iff hu inv hq i
  · -- `$exists`: the members of all slots are the jobs that have a value
    have inv := buildIndex_inv (hok nodes)
    have hmem : ∀ i, i ∈ (buildIndex docs nodes).members ↔
        ∃ d w, (i, d) ∈ docs ∧ getPath nodes d = some w := by
      intro i
      have := idx_exists_iff hu inv (q := fun _ => True) (fun _ _ _ _ _ _ _ _ _ _ _ => Iff.rfl) i
      simpa only [and_true, ← mem_members] using this
    have hsel : Sel docs (fun d => ∃ w, getPath nodes d = some w) (buildIndex docs nodes).members :=
      fun i => (hmem i).trans ⟨fun ⟨d, w, hd, hw⟩ => ⟨d, hd, w, hw⟩, fun ⟨d, hd, w, hw⟩ => ⟨d, w, hd, hw⟩⟩
    rw [AtomGood, findExpression_exists hk]
    cases b with
    | true =>
      refine ⟨_, rfl, hsel.congr fun _ d _ => ?_⟩
      rw [evalAtom_exists hk]
      cases getPath nodes d <;> simp
    | false =>
      refine ⟨_, rfl, (hsel.compl hu).congr fun _ d _ => ?_⟩
      rw [evalAtom_exists hk]
      cases getPath nodes d <;> simp

end Full

/-! ### assembly over the filter structure -/

mutual
  /-- no `$type` atom anywhere in the filter is applied to a key under which two jobs hold
      slot-sharing values of different Python type -/
  def NoClash (docs : List (JobId × JVal)) : Flt → Prop
    | .mk atoms n a o =>
      (∀ kv ∈ flatten atoms, ∀ nodes, analyseKey kv.1 = .op nodes "$type" → TypeStable docs nodes)
        ∧ NoClashOpt docs n ∧ NoClashOptList docs a ∧ NoClashOptList docs o
  def NoClashOpt (docs : List (JobId × JVal)) : Option Flt → Prop
    | none => True
    | some f => NoClash docs f
  def NoClashOptList (docs : List (JobId × JVal)) : Option (List Flt) → Prop
    | none => True
    | some fs => NoClashList docs fs
  def NoClashList (docs : List (JobId × JVal)) : List Flt → Prop
    | [] => True
    | f :: fs => NoClash docs f ∧ NoClashList docs fs
end

def isTypeAtom (key : String) : Bool :=
  match analyseKey key with
  | .op _ op => op == "$type"
  | _ => false

/-- the clash can only come from `$type` atoms: a list of atoms without one asks nothing of the
    corpus -/
theorem noClash_atoms {docs : List (JobId × JVal)} {l : List (String × JVal)}
    (h : l.all (fun kv => !isTypeAtom kv.1) = true) :
    ∀ kv ∈ l, ∀ nodes, analyseKey kv.1 = .op nodes "$type" → TypeStable docs nodes := by
  intro kv hkv nodes ha
  have := List.all_eq_true.mp h kv hkv
  simp only [isTypeAtom, ha, beq_self_eq_true, Bool.not_true] at this
  cases this

def WTon (P : Params) (D : JVal → Prop) (f : Flt) : Prop := ∀ d, D d → ∃ b, evalRef P d f = .ok b

/-- the documents a well-typedness hypothesis speaks about: every job's, and the empty document
    (so that exceptions that do not depend on any job are excluded for the empty corpus too) -/
def DocsAnd0 (docs : List (JobId × JVal)) (d : JVal) : Prop := d = .obj [] ∨ ∃ i, (i, d) ∈ docs

theorem wt_of_wton {P : Params} {docs : List (JobId × JVal)} {f : Flt}
    (h : WTon P (DocsAnd0 docs) f) : WT P docs f :=
  fun i d hd => h d (Or.inr ⟨i, hd⟩)

namespace Full

mutual
  theorem good_of_wt {P : Params} {docs : List (JobId × JVal)} (hu : UniqueIds docs)
      (hP : NearRespectsEq P) (hfl : ∀ nodes, OkAt nodes docs) :
      ∀ f : Flt, WTon P (DocsAnd0 docs) f → NoClash docs f → Good P docs f
    | .mk atoms n a o, hwt, hnc => by
      obtain ⟨hc1, hc2, hc3, hc4⟩ := hnc
      cases hne : (atoms.isEmpty && n.isNone && a.isNone && o.isNone) with
      | true =>
        simp only [Bool.and_eq_true, List.isEmpty_iff, Option.isNone_iff_eq_none] at hne
        obtain ⟨⟨⟨rfl, rfl⟩, rfl⟩, rfl⟩ := hne
        exact ⟨by simp [flatten], trivial, trivial, trivial⟩
      | false =>
        have parts := fun d hd => (hwt d hd).elim (fun b hb => evalRef_ok_parts hne hb)
        refine ⟨?_, ?_, ?_, ?_⟩
        · intro kv hkv
          refine atomGood hu hP hfl kv.1 kv.2 ?_ ?_ (hc1 kv hkv)
          · intro i d hd
            obtain ⟨⟨b1, h1⟩, _⟩ := parts d (Or.inr ⟨i, hd⟩)
            exact evalAtoms_ok_mem h1 kv hkv
          · obtain ⟨⟨b1, h1⟩, _⟩ := parts (.obj []) (Or.inl rfl)
            exact evalAtoms_ok_mem h1 kv hkv
        · exact good_of_wt_opt hu hP hfl n (fun d hd => (parts d hd).2.1) hc2
        · exact good_of_wt_all hu hP hfl a (fun d hd => (parts d hd).2.2.1) hc3
        · exact good_of_wt_any hu hP hfl o (fun d hd => (parts d hd).2.2.2) hc4
  theorem good_of_wt_opt {P : Params} {docs : List (JobId × JVal)} (hu : UniqueIds docs)
      (hP : NearRespectsEq P) (hfl : ∀ nodes, OkAt nodes docs) :
      ∀ n : Option Flt, (∀ d, DocsAnd0 docs d → ∃ b, evalNot P d n = .ok b) → NoClashOpt docs n →
        GoodOpt P docs n
    | none, _, _ => trivial
    | some f, h, hnc => by
      have hw : WTon P (DocsAnd0 docs) f := by
        intro d hd
        obtain ⟨b, hb⟩ := h d hd
        simp only [evalNot] at hb
        cases h1 : evalRef P d f with
        | error e => rw [h1] at hb; cases hb
        | ok b1 => exact ⟨b1, rfl⟩
      exact ⟨wt_of_wton hw, good_of_wt hu hP hfl f hw hnc⟩
  theorem good_of_wt_all {P : Params} {docs : List (JobId × JVal)} (hu : UniqueIds docs)
      (hP : NearRespectsEq P) (hfl : ∀ nodes, OkAt nodes docs) :
      ∀ a : Option (List Flt), (∀ d, DocsAnd0 docs d → ∃ b, evalAllOpt P d a = .ok b) →
        NoClashOptList docs a → GoodOptList P docs a
    | none, _, _ => trivial
    | some [], h, _ => by
      obtain ⟨b, hb⟩ := h (.obj []) (Or.inl rfl)
      simp [evalAllOpt] at hb
    | some (f :: fs), h, hnc =>
      ⟨by simp, good_of_wt_list hu hP hfl (f :: fs)
        (fun g hg d hd => (h d hd).elim (fun b hb => evalAll_ok_mem hb g hg)) hnc⟩
  theorem good_of_wt_any {P : Params} {docs : List (JobId × JVal)} (hu : UniqueIds docs)
      (hP : NearRespectsEq P) (hfl : ∀ nodes, OkAt nodes docs) :
      ∀ o : Option (List Flt), (∀ d, DocsAnd0 docs d → ∃ b, evalAnyOpt P d o = .ok b) →
        NoClashOptList docs o → GoodOptList P docs o
    | none, _, _ => trivial
    | some [], h, _ => by
      obtain ⟨b, hb⟩ := h (.obj []) (Or.inl rfl)
      simp [evalAnyOpt] at hb
    | some (f :: fs), h, hnc =>
      ⟨by simp, good_of_wt_list hu hP hfl (f :: fs)
        (fun g hg d hd => (h d hd).elim (fun b hb => evalAny_ok_mem hb g hg)) hnc⟩
  theorem good_of_wt_list {P : Params} {docs : List (JobId × JVal)} (hu : UniqueIds docs)
      (hP : NearRespectsEq P) (hfl : ∀ nodes, OkAt nodes docs) :
      ∀ fs : List Flt, (∀ g ∈ fs, WTon P (DocsAnd0 docs) g) → NoClashList docs fs →
        GoodList P docs fs
    | [], _, _ => trivial
    | f :: fs, h, hnc =>
      ⟨wt_of_wton (h f (by simp)), good_of_wt hu hP hfl f (h f (by simp)) hnc.1,
        good_of_wt_list hu hP hfl fs (fun g hg => h g (by simp [hg])) hnc.2⟩
end

theorem findResult_exact {P : Params} {docs : List (JobId × JVal)} (hu : UniqueIds docs)
    (hP : NearRespectsEq P) (hfl : ∀ nodes, OkAt nodes docs) (f : Flt)
    (hwt : WTon P (DocsAnd0 docs) f) (hnc : NoClash docs f) :
    ∃ r, findResult P docs f = .ok r ∧ Sel docs (fun d => evalRef P d f = .ok true) r :=
  findResult_spec hu f (good_of_wt hu hP hfl f hwt hnc)

end Full

/-! ### documents whose lists hold no mappings -/

def flatKey : IKey → Bool
  | .val v => flatVal v
  | .dict => true

def FlatAt (nodes : List String) (docs : List (JobId × JVal)) : Prop :=
  ∀ j d w, (j, d) ∈ docs → getPath nodes d = some w → flatKey (toIKey w) = true

theorem Full.okAt_of_flatAt {nodes : List String} {docs : List (JobId × JVal)}
    (h : FlatAt nodes docs) : Full.OkAt nodes docs := by
  intro j d w hd hw
  have := h j d w hd hw
  cases w <;> first | rfl | exact keysOK_of_flat _ this

theorem good_of_wt_opt {P : Params} {docs : List (JobId × JVal)} (hu : UniqueIds docs)
      (hP : NearRespectsEq P) (hfl : ∀ nodes, FlatAt nodes docs) :
      ∀ n : Option Flt, (∀ d, DocsAnd0 docs d → ∃ b, evalNot P d n = .ok b) → NoClashOpt docs n →
        GoodOpt P docs n :=
  Full.good_of_wt_opt hu hP fun nodes => Full.okAt_of_flatAt (hfl nodes)

theorem good_of_wt_all {P : Params} {docs : List (JobId × JVal)} (hu : UniqueIds docs)
      (hP : NearRespectsEq P) (hfl : ∀ nodes, FlatAt nodes docs) :
      ∀ a : Option (List Flt), (∀ d, DocsAnd0 docs d → ∃ b, evalAllOpt P d a = .ok b) →
        NoClashOptList docs a → GoodOptList P docs a :=
  Full.good_of_wt_all hu hP fun nodes => Full.okAt_of_flatAt (hfl nodes)

theorem good_of_wt_any {P : Params} {docs : List (JobId × JVal)} (hu : UniqueIds docs)
      (hP : NearRespectsEq P) (hfl : ∀ nodes, FlatAt nodes docs) :
      ∀ o : Option (List Flt), (∀ d, DocsAnd0 docs d → ∃ b, evalAnyOpt P d o = .ok b) →
        NoClashOptList docs o → GoodOptList P docs o :=
  Full.good_of_wt_any hu hP fun nodes => Full.okAt_of_flatAt (hfl nodes)

theorem good_of_wt_list {P : Params} {docs : List (JobId × JVal)} (hu : UniqueIds docs)
      (hP : NearRespectsEq P) (hfl : ∀ nodes, FlatAt nodes docs) :
      ∀ fs : List Flt, (∀ g ∈ fs, WTon P (DocsAnd0 docs) g) → NoClashList docs fs →
        GoodList P docs fs :=
  Full.good_of_wt_list hu hP fun nodes => Full.okAt_of_flatAt (hfl nodes)

end Signac.Query
