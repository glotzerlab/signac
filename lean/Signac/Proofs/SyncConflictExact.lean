/-
  The keys `DocSync.ByKey` records as skipped (and raises in `DocumentSyncConflict` when there is
  no key strategy) are EXACTLY the conflicting keys the key strategy does not select.

  `confItems ks root s d` is a pure specification of the recorded list (in order).  It walks the
  source like `byKeyItems`; what it does at a key with source value `v` and destination value `w`
  depends on the shape of the pair only: `v` not a mapping, `v` a mapping and `w` not, both
  mappings.  The facts below are proved by induction along that walk (`conf_induction`,
  `conf_induction_mem`): `byKey_skipped_eq` (the model computes the specification),
  `mem_confItems_iff_docConf` (it lists the inductive predicate `DocConf`), `conf_nodup` (no
  duplicates when no key contains a dot; `conflict_payload_dup_witness`: duplicates are possible
  otherwise).  Core only.
-/
import Signac.Proofs.SyncDry
import Signac.Proofs.SchemaPyEq
import Signac.Proofs.JValInd
namespace Signac.Sync

mutual
  /-- the dotted keys `ByKey` records while walking the items of the source mapping against the
      destination mapping `d` (the destination as it was before the walk) -/
  def confItems (ks : Option (String → Bool)) (root : String) : List (String × JVal) → Doc → List String
    | [], _ => []
    | (k, v) :: tl, d =>
      (match lookupKV k d with
       | none => []
       | some w => if pyEq w v then [] else confValue ks root k v w) ++ confItems ks root tl d
  /-- … for one key on both sides with values `v` (source), `w` (destination) that are not `==` -/
  def confValue (ks : Option (String → Bool)) (root k : String) : JVal → JVal → List String
    | .obj sv, w =>
      match w with
      | .obj dw => confItems ks (root ++ k ++ ".") sv dw
      | _ => []
    | _, _ => if keySelected ks (root ++ k) then [] else [root ++ k]
end

theorem confValue_leaf (ks : Option (String → Bool)) (root k : String) (v w : JVal) (hl : IsLeaf v) :
    confValue ks root k v w = if keySelected ks (root ++ k) then [] else [root ++ k] := by
  cases v with
  | obj sv => exact hl.elim
  | _ => simp only [confValue]

theorem confValue_obj_leaf (ks : Option (String → Bool)) (root k : String) (sv : List (String × JVal))
    (w : JVal) (hl : IsLeaf w) : confValue ks root k (.obj sv) w = [] := by
  cases w with
  | obj dw => exact hl.elim
  | _ => simp only [confValue]

theorem confValue_obj_obj (ks : Option (String → Bool)) (root k : String) (sv dw : List (String × JVal)) :
    confValue ks root k (.obj sv) (.obj dw) = confItems ks (root ++ k ++ ".") sv dw := by
  simp only [confValue]

theorem mem_confValue_leaf (ks : Option (String → Bool)) {key root k : String} {v : JVal} (w : JVal)
    (hl : IsLeaf v) : key ∈ confValue ks root k v w ↔ key = root ++ k ∧ keySelected ks key = false := by
  rw [confValue_leaf ks root k v w hl]
  cases hsel : keySelected ks (root ++ k)
  · simp only [Bool.false_eq_true, if_false, List.mem_singleton]
    exact ⟨fun h => ⟨h, h ▸ hsel⟩, fun h => h.1⟩
  · simp only [if_true, List.not_mem_nil, false_iff]
    rintro ⟨rfl, h⟩
    rw [hsel] at h
    cases h

theorem mem_confItems (ks : Option (String → Bool)) (root key : String) (d : Doc) :
    ∀ items : List (String × JVal), key ∈ confItems ks root items d ↔
      ∃ k v w, (k, v) ∈ items ∧ lookupKV k d = some w ∧ pyEq w v = false ∧
        key ∈ confValue ks root k v w := by
  intro items
  induction items with
  | nil => simp [confItems]
  | cons hd tl ih =>
    obtain ⟨k, v⟩ := hd
    have hhd : key ∈ (match lookupKV k d with
          | none => []
          | some w => if pyEq w v then [] else confValue ks root k v w) ↔
        ∃ w, lookupKV k d = some w ∧ pyEq w v = false ∧ key ∈ confValue ks root k v w := by
      cases lookupKV k d with
      | none => simp
      | some w => cases pyEq w v <;> simp
    simp only [confItems, List.mem_append, ih, hhd, List.mem_cons, Prod.mk.injEq]
    constructor
    · rintro (⟨w, h⟩ | ⟨k', v', w', hm, h⟩)
      · exact ⟨k, v, w, .inl ⟨rfl, rfl⟩, h⟩
      · exact ⟨k', v', w', .inr hm, h⟩
    · rintro ⟨k', v', w', ⟨rfl, rfl⟩ | hm, h⟩
      · exact .inl ⟨w', h⟩
      · exact .inr ⟨k', v', w', hm, h⟩

/-! ### the model computes the specification -/

/-- the walk over `items` appends exactly `confItems … items d0` to the recorded keys, `d0` being
    any mapping that agrees with the current destination on the keys still to come -/
theorem byKey_skipped_eq (ks : Option (String → Bool)) :
    (∀ items root st d0, NodupKeysObj items →
      (∀ j, j ∈ keys items → lookupKV j st.dst = lookupKV j d0) →
      (byKeyItems ks root items st).typeErr = false →
      (byKeyItems ks root items st).skipped = st.skipped ++ confItems ks root items d0) ∧
    (∀ v w root k st, NodupKeysVal v → (byKeyValue ks root k v w st).typeErr = false →
      (byKeyValue ks root k v w st).skipped = st.skipped ++ confValue ks root k v w) := by
  refine conf_induction ?nil ?cons ?leaf ?obj_leaf ?obj_obj
  case nil => intros; simp [byKeyItems, confItems]
  case cons =>
    intro k v tl ihv ihtl root st d0 hnd hlk hte
    simp only [NodupKeysObj] at hnd
    have hst := byKeyItems_typeErr_false ks root _ st hte
    rw [byKeyItems_cons, hst, if_neg Bool.false_ne_true] at hte ⊢
    have hstep := byKeyItems_typeErr_false ks root tl _ hte
    have hlk' : ∀ j, j ∈ keys tl → lookupKV j (byKeyStep ks root k v st).dst = lookupKV j d0 := by
      intro j hj
      obtain ⟨kv, hkv, rfl⟩ := List.mem_map.mp hj
      rw [byKeyStep_other ks root k kv.1 (hnd.1 kv hkv)]
      exact hlk kv.1 (List.mem_cons_of_mem _ hj)
    rw [ihtl root _ d0 hnd.2.2 hlk' hte, confItems, ← List.append_assoc]
    congr 1
    unfold byKeyStep at hstep ⊢
    rw [hlk k List.mem_cons_self] at hstep ⊢
    generalize lookupKV k d0 = o at hstep ⊢
    cases o with
    | none => simp
    | some w =>
      by_cases heq : pyEq w v = true
      · simp [heq]
      · simp only [heq, Bool.false_eq_true, if_false] at hstep ⊢
        exact ihv w root k st hnd.2.1 hstep
  case leaf =>
    intro v w hl root k st _ _
    rw [byKeyValue_leaf ks root k v w hl st, confValue_leaf ks root k v w hl]
    cases ks with
    | none => simp [keySelected]
    | some f =>
      simp only [keySelected]
      by_cases hf : f (root ++ k) = true <;> simp [hf]
  case obj_leaf =>
    -- nothing is recorded: the step does nothing or hits a TypeError
    intro sv w hl root k st _ _
    rw [byKeyValue_of_obj_leaf ks root k sv w hl, confValue_obj_leaf ks root k sv w hl, List.append_nil]
    cases sv <;> rfl
  case obj_obj =>
    intro sv dw ih root k st hv hte
    rw [confValue_obj_obj]
    exact ih (root ++ k ++ ".") { st with dst := dw } dw (by simpa [NodupKeysVal] using hv)
      (fun _ _ => rfl) (by simpa [byKeyValue] using hte)

theorem byKeyValue_skipped_eq (ks : Option (String → Bool)) :
    (root k : String) → (v w : JVal) → (st : ByKeySt) → NodupKeysVal v →
    (byKeyValue ks root k v w st).typeErr = false →
    (byKeyValue ks root k v w st).skipped = st.skipped ++ confValue ks root k v w
  | root, k, v, w, st => (byKey_skipped_eq ks).2 v w root k st

/-- the recorded keys of a whole `ByKey` run, as a list (order included) -/
theorem byKeyItems_skipped_spec (ks : Option (String → Bool)) (s d : Doc) (hs : NodupKeysObj s)
    (hte : (byKeyItems ks "" s ⟨d, [], false, false⟩).typeErr = false) :
    (byKeyItems ks "" s ⟨d, [], false, false⟩).skipped = confItems ks "" s d :=
  (byKey_skipped_eq ks).1 s "" ⟨d, [], false, false⟩ d hs (fun _ _ => rfl) hte

/-! ### the specification and `DocConf` -/

theorem DocConf.path_cons {root : String} {s d : Doc} {p : List String} {v w : JVal} {key : String}
    (h : DocConf root s d p v w key) : ∃ k q, p = k :: q := by
  cases h with
  | leaf => exact ⟨_, _, rfl⟩
  | sub => exact ⟨_, _, rfl⟩

theorem docConf_mem_confItems (ks : Option (String → Bool)) {root : String} {s d : Doc} {p : List String}
    {v w : JVal} {key : String} (hc : DocConf root s d p v w key) (hsel : keySelected ks key = false) :
    key ∈ confItems ks root s d := by
  induction hc with
  | @leaf root s d k v w hnd hs hd hne hl =>
    exact (mem_confItems ..).mpr
      ⟨k, v, w, lookupKV_mem hs, hd, hne, (mem_confValue_leaf ks w hl).mpr ⟨rfl, hsel⟩⟩
  | @sub root s d k sv dw k' p v w key hnd hs hd hne _ ih =>
    exact (mem_confItems ..).mpr
      ⟨k, .obj sv, .obj dw, lookupKV_mem hs, hd, hne, confValue_obj_obj .. ▸ ih hsel⟩

/-- a recorded key below `k` is a conflict reached through `k`, and the key strategy does not
    select it -/
theorem confValue_sound (ks : Option (String → Bool)) (key : String) :
    (root : String) → (s d : Doc) → (k : String) → (v w : JVal) → NodupKeysVal v →
    (keys s).Nodup → lookupKV k s = some v → lookupKV k d = some w → pyEq w v = false →
    key ∈ confValue ks root k v w →
    (∃ p v' w', DocConf root s d p v' w' key) ∧ keySelected ks key = false
  | root, s, d, k, v, w => by
    induction v, w using conf_induction_mem generalizing root s d k with
    | leaf v w hl =>
      intro _ hnd hs hd hne h
      obtain ⟨rfl, hsel⟩ := (mem_confValue_leaf ks w hl).mp h
      exact ⟨⟨[k], v, w, DocConf.leaf hnd hs hd hne hl⟩, hsel⟩
    | obj_leaf sv w hl =>
      intro _ _ _ _ _ h
      rw [confValue_obj_leaf ks root k sv w hl] at h
      cases h
    | obj_obj sv dw ih =>
      intro hv hnd hs hd hne h
      have hsv : NodupKeysObj sv := by simpa [NodupKeysVal] using hv
      rw [confValue_obj_obj, mem_confItems] at h
      obtain ⟨k', v', w', hm, hd', hne', h⟩ := h
      obtain ⟨⟨p, v'', w'', hc⟩, hsel⟩ := ih (k', v') hm w' _ sv dw k' (NodupKeysObj_mem hsv _ hm)
        (NodupKeysObj_keys hsv) (lookupKV_of_mem (NodupKeysObj_keys hsv) hm) hd' hne' h
      obtain ⟨k'', q, rfl⟩ := hc.path_cons
      exact ⟨⟨_, _, _, DocConf.sub hnd hs hd hne hc⟩, hsel⟩

/-- the specification lists exactly the conflicting keys the key strategy does not select -/
theorem mem_confItems_iff_docConf (ks : Option (String → Bool)) (root : String) (s d : Doc)
    (hs : NodupKeysObj s) (key : String) :
    key ∈ confItems ks root s d ↔ (∃ p v w, DocConf root s d p v w key) ∧ keySelected ks key = false := by
  refine ⟨fun h => ?_, fun ⟨⟨_, _, _, hc⟩, hsel⟩ => docConf_mem_confItems ks hc hsel⟩
  obtain ⟨k, v, w, hm, hd, hne, h⟩ := (mem_confItems ..).mp h
  exact confValue_sound ks key root s d k v w (NodupKeysObj_mem hs _ hm) (NodupKeysObj_keys hs)
    (lookupKV_of_mem (NodupKeysObj_keys hs) hm) hd hne h

/-! ### duplicates -/

def dotFree (k : String) : Prop := '.' ∉ k.toList

mutual
  def DotFreeVal : JVal → Prop
    | .obj kvs => DotFreeObj kvs
    | _ => True
  /-- no key of the mapping, nor of any mapping reached from it through mappings, contains a dot -/
  def DotFreeObj : List (String × JVal) → Prop
    | [] => True
    | (k, v) :: rest => dotFree k ∧ DotFreeVal v ∧ DotFreeObj rest
end

theorem DotFreeObj_keys {kvs : List (String × JVal)} (h : DotFreeObj kvs) : ∀ k, k ∈ keys kvs → dotFree k := by
  induction kvs with
  | nil => intro k hk; simp [keys] at hk
  | cons a l ih =>
    obtain ⟨k', v'⟩ := a
    simp only [DotFreeObj] at h
    intro k hk
    simp only [keys, List.map_cons, List.mem_cons] at hk
    rcases hk with rfl | hk
    · exact h.1
    · exact ih h.2.2 k hk

/-- what follows the key in a recorded dotted key: nothing, or a dot and more -/
def DotTail (r : String) : Prop := r = "" ∨ ∃ r', r = "." ++ r'

/-- the first component of a recorded key is what precedes its first dot -/
theorem takeWhile_dotTail {k r : String} (hk : dotFree k) (hr : DotTail r) :
    (k.toList ++ r.toList).takeWhile (· != '.') = k.toList := by
  have hp : ∀ c ∈ k.toList, (c != '.') = true := fun c hc => bne_iff_ne.mpr fun h => hk (h ▸ hc)
  rw [List.takeWhile_append_of_pos hp]
  rcases hr with rfl | ⟨r', rfl⟩ <;> simp

/-- two recorded keys below the same root whose first components have no dot have the same
    first component -/
theorem dotted_key_unique {root k k' r r' : String} (hk : dotFree k) (hk' : dotFree k')
    (hr : DotTail r) (hr' : DotTail r') (h : root ++ k ++ r = root ++ k' ++ r') : k = k' := by
  have := congrArg String.toList h
  simp only [String.toList_append, List.append_assoc, List.append_cancel_left_eq] at this
  rw [← String.toList_inj, ← takeWhile_dotTail hk hr, this, takeWhile_dotTail hk' hr']

theorem confValue_prefix (ks : Option (String → Bool)) (key : String) (root k : String) (v w : JVal) :
    key ∈ confValue ks root k v w → ∃ r, key = root ++ k ++ r ∧ DotTail r := by
  induction v, w using conf_induction_mem generalizing root k with
  | leaf v w hl =>
    intro h
    exact ⟨"", by rw [((mem_confValue_leaf ks w hl).mp h).1, String.append_empty], Or.inl rfl⟩
  | obj_leaf sv w hl =>
    intro h
    rw [confValue_obj_leaf ks root k sv w hl] at h
    cases h
  | obj_obj sv dw ih =>
    intro h
    rw [confValue_obj_obj, mem_confItems] at h
    obtain ⟨k2, v2, w2, hm, _, _, h⟩ := h
    obtain ⟨r2, h1, _⟩ := ih (k2, v2) hm w2 _ k2 h
    exact ⟨"." ++ (k2 ++ r2), by rw [h1]; simp only [String.append_assoc], Or.inr ⟨_, rfl⟩⟩

theorem confItems_prefix (ks : Option (String → Bool)) (key root : String) (items : List (String × JVal))
    (d : Doc) (h : key ∈ confItems ks root items d) :
    ∃ k r, k ∈ keys items ∧ key = root ++ k ++ r ∧ DotTail r := by
  obtain ⟨k, v, w, hm, _, _, h⟩ := (mem_confItems ..).mp h
  obtain ⟨r, h1, h2⟩ := confValue_prefix ks key root k v w h
  exact ⟨k, r, List.mem_map.mpr ⟨_, hm, rfl⟩, h1, h2⟩

/-- when no key contains a dot, no dotted key is recorded twice -/
theorem conf_nodup (ks : Option (String → Bool)) :
    (∀ items root d, NodupKeysObj items → DotFreeObj items → (confItems ks root items d).Nodup) ∧
    (∀ v w root k, NodupKeysVal v → DotFreeVal v → (confValue ks root k v w).Nodup) := by
  refine conf_induction ?nil ?cons ?leaf ?obj_leaf ?obj_obj
  case nil => intros; simp [confItems]
  case cons =>
    intro k v tl ihv ihtl root d hnd hdf
    simp only [NodupKeysObj] at hnd
    simp only [DotFreeObj] at hdf
    have htl := ihtl root d hnd.2.2 hdf.2.2
    simp only [confItems]
    cases lookupKV k d with
    | none => simpa using htl
    | some w =>
      by_cases heq : pyEq w v = true
      · simpa [heq] using htl
      · simp only [heq, Bool.false_eq_true, if_false]
        refine List.nodup_append.mpr ⟨ihv w root k hnd.2.1 hdf.2.1, htl, fun x hx y hy hxy => ?_⟩
        subst hxy
        obtain ⟨r, h1, h2⟩ := confValue_prefix ks x root k v w hx
        obtain ⟨k', r', h0, h1', h2'⟩ := confItems_prefix ks x root tl d hy
        obtain ⟨kv, hkv, rfl⟩ := List.mem_map.mp h0
        exact hnd.1 kv hkv
          (dotted_key_unique hdf.1 (DotFreeObj_keys hdf.2.2 _ h0) h2 h2' (h1.symm.trans h1')).symm
  case leaf =>
    intro v w hl root k _ _
    rw [confValue_leaf ks root k v w hl]
    split <;> simp
  case obj_leaf =>
    intro sv w hl root k _ _
    rw [confValue_obj_leaf ks root k sv w hl]
    exact List.nodup_nil
  case obj_obj =>
    intro sv dw ih root k hv hdf
    rw [confValue_obj_obj]
    exact ih _ dw (by simpa [NodupKeysVal] using hv) (by simpa [DotFreeVal] using hdf)

theorem confItems_nodup (ks : Option (String → Bool)) (root : String) (items : List (String × JVal))
    (d : Doc) : NodupKeysObj items → DotFreeObj items → (confItems ks root items d).Nodup :=
  (conf_nodup ks).1 items root d

theorem confValue_nodup (ks : Option (String → Bool)) :
    (root k : String) → (v w : JVal) → NodupKeysVal v → DotFreeVal v → (confValue ks root k v w).Nodup
  | root, k, v, w => (conf_nodup ks).2 v w root k

/-! ### a whole `ByKey` run without TypeError -/

/-- without key strategy the merge raises iff a key was recorded, with the recorded keys as payload -/
theorem runDocSync_default_err_eq {s d : Doc}
    (hte : (byKeyItems none "" s ⟨d, [], false, false⟩).typeErr = false) :
    (runDocSync (.byKey none) s d).err =
      if (byKeyItems none "" s ⟨d, [], false, false⟩).skipped = [] then none
      else some (.docConflict (byKeyItems none "" s ⟨d, [], false, false⟩).skipped) := by
  rw [runDocSync_default_err, hte]
  cases (byKeyItems none "" s ⟨d, [], false, false⟩).skipped <;> rfl

/-- dotted keys can collide: key "a.b" at the top level versus key "b" below "a" -/
def dupSrc : Doc := [("a.b", .int 1), ("a", .obj [("b", .int 1)])]
def dupDst : Doc := [("a.b", .int 2), ("a", .obj [("b", .int 2)])]

theorem conflict_payload_dup_witness :
    NodupKeysObj dupSrc ∧ NodupKeysObj dupDst ∧
    (byKeyItems none "" dupSrc ⟨dupDst, [], false, false⟩).typeErr = false ∧
    (runDocSync (.byKey none) dupSrc dupDst).err = some (.docConflict ["a.b", "a.b"]) ∧
    ¬ ["a.b", "a.b"].Nodup :=
  ⟨by unfold dupSrc; simp only [NodupKeysObj, NodupKeysVal]; decide +kernel,
   by unfold dupDst; simp only [NodupKeysObj, NodupKeysVal]; decide +kernel, by rfl, by rfl, by decide⟩

end Signac.Sync
