/-
  C16, the directory lists the three analysers walk on an export: the directory names of a zip
  archive, the directory members of a tar archive, the directories of a tree.  Each is duplicate-free
  after sorting, contains every exported job directory, and (tar) the parent of every directory inside
  a job; none lists a directory named `""` before the root unless a job at the root holds one.
-/
import Signac.ImportExport
import Signac.Proofs.IEChecks
import Signac.Proofs.IEMembers
namespace Signac.IE
open Signac

/-- the directory list of `_analyze_zipfile_for_import` (`importZip` computes it in place) -/
abbrev zipDirs (files : List (Comps × Content)) : List Comps :=
  sortDirs (dedup (files.map (fun fc => dirnameC fc.1)))

theorem prefix_of_mem_zipDirs {files : List (Comps × Content)} {d : Comps}
    (h : d ∈ zipDirs files) : ∃ fc ∈ files, d <+: fc.1 := by
  rcases List.mem_map.mp ((mem_dedup _ _).mp (mem_sortDirs.mp h)) with ⟨fc, hfc, rfl⟩
  exact ⟨fc, hfc, List.dropLast_prefix _⟩

theorem prefix_of_mem_allDirs {files : List (Comps × Content)} {d : Comps} (h : d ∈ allDirs files) :
    d = [] ∨ ∃ fc ∈ files, d <+: fc.1 := by
  rcases List.mem_cons.mp ((mem_dedup _ _).mp h) with h | h
  · exact Or.inl h
  · rcases List.mem_flatMap.mp h with ⟨fc, hfc, hd⟩
    refine Or.inr ⟨fc, hfc, ?_⟩
    rcases List.mem_append.mp hd with hd | hd
    · rcases List.mem_map.mp hd with ⟨i, _, rfl⟩
      exact List.take_prefix _ _
    · split at hd
      · exact List.mem_singleton.mp hd ▸ List.prefix_refl _
      · cases hd

theorem dir_mem_allDirs {files : List (Comps × Content)} {d : Comps} {s : String} {c : Content}
    (h : (d ++ [s], c) ∈ files) : d ∈ allDirs files :=
  (mem_dedup _ _).mpr <| List.mem_cons_of_mem _ <| List.mem_flatMap.mpr
    ⟨_, h, List.mem_append_left _ <| List.mem_map.mpr
      ⟨d.length, List.mem_range.mpr (by simp), List.take_left' rfl⟩⟩

section
variable {hash : JVal → String} {E : List (Job × Comps)} (G : GoodExport hash E)
include G

theorem zipDirs_roots :
    (zipDirs (members E)).Nodup ∧ ∀ e ∈ E, e.2 ∈ zipDirs (members E) := by
  refine ⟨nodup_sortDirs.mpr (nodup_dedup _), fun e he => ?_⟩
  rcases spfile_mem_members G he with ⟨c, hc⟩
  exact mem_sortDirs.mpr <| (mem_dedup _ _).mpr <| List.mem_map.mpr ⟨_, hc, List.dropLast_concat⟩

theorem walkOrder_roots :
    (walkOrder (members E)).Nodup ∧ ∀ e ∈ E, e.2 ∈ walkOrder (members E) := by
  refine ⟨nodup_sortDirs.mpr (nodup_dedup _), fun e he => ?_⟩
  rcases spfile_mem_members G he with ⟨c, hc⟩
  exact mem_sortDirs.mpr (dir_mem_allDirs hc)

end

/-- `TopNamed` of the job placed at the archive root, if any -/
def TopNamedE (E : List (Job × Comps)) : Prop :=
  ∀ e ∈ E, e.2 = [] → ∀ fc ∈ e.1.files, fc.1.head? ≠ some ""

theorem no_empty_top {hash : JVal → String} {E : List (Job × Comps)} (G : GoodExport hash E)
    (htop : TopNamedE E) (hu : Under E []) {fc : Comps × Content} (hfc : fc ∈ members E)
    (hp : [""] <+: fc.1) : False := by
  rcases hu with ⟨e, he, hnil⟩
  have he2 : e.2 = [] := List.prefix_nil.mp hnil
  rcases members_path hfc with ⟨e', he', f, c, hf, rfl⟩
  cases G.eq_of_prefix he he' (he2 ▸ List.nil_prefix)
  rcases hp with ⟨t, ht⟩
  rw [he2] at ht
  exact htop e he he2 (f, c) hf (ht ▸ rfl)

theorem dropLast_ne_self {α : Type} {x : List α} (hx : x ≠ []) : x.dropLast ≠ x := fun h =>
  Nat.ne_of_lt (Nat.sub_one_lt (Nat.ne_of_gt (List.length_pos_iff.mpr hx)))
    (List.length_dropLast ▸ congrArg List.length h)

/-- `exportDirMembers P ds` is `dirMembers (P.zip ds)` by definition -/
def dirMembers (E : List (Job × Comps)) : List Comps := E.flatMap dirBlock

theorem prefix_of_mem_dirBlock {e : Job × Comps} {x : Comps} (h : x ∈ dirBlock e) : e.2 <+: x := by
  rcases List.mem_cons.mp ((mem_dedup _ _).mp h) with rfl | h
  · exact List.prefix_refl _
  · rcases List.mem_map.mp h with ⟨s, _, rfl⟩
    exact List.prefix_append _ _

theorem root_mem_dirBlock (e : Job × Comps) : e.2 ∈ dirBlock e :=
  (mem_dedup _ _).mpr List.mem_cons_self

theorem nodup_dirMembers {E : List (Job × Comps)} (hpf : E.Pairwise (fun a b => Incomp a.2 b.2)) :
    (dirMembers E).Nodup := by
  induction E with
  | nil => exact List.nodup_nil
  | cons e0 E' ih =>
    have h := List.pairwise_cons.mp hpf
    rw [dirMembers, List.flatMap_cons, List.nodup_append]
    refine ⟨nodup_dedup _, ih h.2, fun a ha b hb hab => ?_⟩
    subst hab
    rcases List.mem_flatMap.mp hb with ⟨e, he, hb⟩
    rcases List.prefix_or_prefix_of_prefix (prefix_of_mem_dirBlock ha) (prefix_of_mem_dirBlock hb) with h' | h'
    · exact (h.1 e he).1 h'
    · exact (h.1 e he).2 h'

theorem tarDirs_roots {hash : JVal → String} {E : List (Job × Comps)} (G : GoodExport hash E) :
    (sortDirs (dirMembers E)).Nodup ∧ ∀ e ∈ E, e.2 ∈ sortDirs (dirMembers E) :=
  ⟨nodup_sortDirs.mpr (nodup_dirMembers G.pf), fun e he =>
    mem_sortDirs.mpr (List.mem_flatMap.mpr ⟨e, he, root_mem_dirBlock e⟩)⟩

theorem mem_entryDirs {s : Comps} {fc : Comps × Content} (hfc : fc.1 ≠ []) (h : s ∈ entryDirs fc) :
    s ≠ [] ∧ s <+: fc.1 := by
  have hsub : s ∈ subDirsOf fc.1 → s ≠ [] ∧ s <+: fc.1 := fun h => ⟨(mem_subDirsOf.mp h).1, (mem_subDirsOf.mp h).2.1⟩
  unfold entryDirs at h
  split at h
  · rcases List.mem_append.mp h with h' | h'
    · exact hsub h'
    · cases List.mem_singleton.mp h'
      exact ⟨hfc, List.prefix_refl _⟩
  · exact hsub h

theorem subDirsOf_sub_entryDirs {s : Comps} {fc : Comps × Content} (h : s ∈ subDirsOf fc.1) :
    s ∈ entryDirs fc := by
  unfold entryDirs
  split
  · exact List.mem_append_left _ h
  · exact h

/-- A directory member `x` of a tar export strictly inside a job directory is not the archive root,
    and its parent is a member too and still lies in the job: the parent is what makes `tarPolicy` skip `x`. -/
theorem dirBlock_parent {e : Job × Comps} (hne : ∀ fc ∈ e.1.files, fc.1 ≠ []) {x : Comps}
    (hx : x ∈ dirBlock e) (hxe : x ≠ e.2) : x.dropLast ∈ dirBlock e ∧ e.2 <+: x.dropLast ∧ x ≠ [] := by
  rcases List.mem_cons.mp ((mem_dedup _ _).mp hx) with rfl | hx
  · exact absurd rfl hxe
  · rcases List.mem_map.mp hx with ⟨s, hs, rfl⟩
    rcases List.mem_flatMap.mp hs with ⟨fc, hfc, hs⟩
    have hs' := mem_entryDirs (hne fc hfc) hs
    rw [List.dropLast_append_of_ne_nil hs'.1]
    refine ⟨(mem_dedup _ _).mpr ?_, List.prefix_append _ _, fun h => hs'.1 (List.append_eq_nil_iff.mp h).2⟩
    by_cases h0 : s.dropLast = []
    · rw [h0, List.append_nil]
      exact List.mem_cons_self
    · refine List.mem_cons_of_mem _ (List.mem_map.mpr ⟨_, List.mem_flatMap.mpr ⟨fc, hfc, ?_⟩, rfl⟩)
      refine subDirsOf_sub_entryDirs (mem_subDirsOf.mpr ⟨h0, (List.dropLast_prefix s).trans hs'.2, fun heq => ?_⟩)
      have h1 := hs'.2.length_le
      rw [← heq, List.length_dropLast] at h1
      exact Nat.not_le.mpr (Nat.sub_one_lt (Nat.ne_of_gt (List.length_pos_iff.mpr hs'.1))) h1

theorem dirMembers_root_first {hash : JVal → String} {E : List (Job × Comps)} (G : GoodExport hash E) :
    (dirMembers E).Pairwise (fun a b => ¬ (a = [""] ∧ b = [])) := by
  have hpf := G.pf
  have hne := G.nonempty
  clear G
  induction E with
  | nil => exact List.Pairwise.nil
  | cons e0 E' ih =>
    have hpf' := List.pairwise_cons.mp hpf
    rw [dirMembers, List.flatMap_cons, List.pairwise_append]
    refine ⟨?_, ih hpf'.2 (fun e he => hne e (List.mem_cons_of_mem _ he)), ?_⟩
    · -- inside one block the root comes first
      have hrest : ([] : Comps) ∉ dedup ((e0.1.files.flatMap entryDirs).map (e0.2 ++ ·)) := by
        intro hm
        rcases List.mem_map.mp ((mem_dedup _ _).mp hm) with ⟨s, hs, h0⟩
        rcases List.mem_flatMap.mp hs with ⟨fc, hfc, hs⟩
        exact (mem_entryDirs (hne e0 List.mem_cons_self fc hfc) hs).1 (List.append_eq_nil_iff.mp h0).2
      rw [dirBlock, dedup]
      split
      · exact pairwise_not_of_not_mem_right _ _ _ hrest
      · exact List.pairwise_cons.mpr ⟨fun b hb hab => hrest (hab.2 ▸ hb),
          pairwise_not_of_not_mem_right _ _ _ hrest⟩
    · intro a ha b hb hab
      rcases List.mem_flatMap.mp hb with ⟨e', he', hb⟩
      have h1 := prefix_of_mem_dirBlock hb
      rw [hab.2] at h1
      exact (hpf'.1 e' he').2 (List.prefix_nil.mp h1 ▸ List.nil_prefix)

end Signac.IE
