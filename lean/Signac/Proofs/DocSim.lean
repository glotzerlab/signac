/-
  `Sim a b` — "equal as Python values, apart from the number type of numeric leaves and the
  order of dict entries": the comparison C05 is stated with.  Type-exact in everything else:
  same keys, same list lengths, same strings, `None` only with `None`, numbers only with
  numbers of the same value (`True == 1 == 1.0`).
  Facts: equivalence relation; Python equality `pyEq` on well-formed values implies it.
  Also here: `WF` (no duplicate keys at any depth; DocWF shows it preserved), `OSim` (`Sim` on lookup
  results), membership facts about `lookupKV`, and `jsame` = identity.
-/
import Signac.Doc
import Signac.Proofs.JValInd
import Signac.Proofs.PyEq
namespace Signac.Doc
open Signac

theorem lookupKV_of_mem {k : String} {a : Entries} {v : JVal} (hn : (a.map Prod.fst).Nodup)
    (h : (k, v) ∈ a) : lookupKV k a = some v := _root_.Signac.lookupKV_of_mem hn h

inductive Sim : JVal → JVal → Prop
  | null : Sim .null .null
  | str (s : String) : Sim (.str s) (.str s)
  | num {a b : JVal} {p q : Int × Nat} :
      numVal a = some p → numVal b = some q → numEq p q = true → Sim a b
  | arr {xs ys : List JVal} : xs.length = ys.length →
      (∀ (i : Nat) x y, xs[i]? = some x → ys[i]? = some y → Sim x y) → Sim (.arr xs) (.arr ys)
  | obj {a b : Entries} : (∀ k, lookupKV k a = none ↔ lookupKV k b = none) →
      (∀ k v w, lookupKV k a = some v → lookupKV k b = some w → Sim v w) → Sim (.obj a) (.obj b)

theorem numEq_symm {p q : Int × Nat} (h : numEq p q = true) : numEq q p = true :=
  _root_.Signac.numEq_symm p q ▸ h

theorem Sim.num_refl {v : JVal} {p : Int × Nat} (h : numVal v = some p) : Sim v v :=
  .num h h (numEq_refl p)

theorem Sim.refl (v : JVal) : Sim v v := by
  induction v using JVal.rec_mem with
  | null => exact .null
  | str s => exact .str s
  | bool b => cases b <;> exact .num_refl rfl
  | int i => exact .num_refl rfl
  | flt n e r => exact .num_refl rfl
  | arr xs ih =>
    refine .arr rfl fun i x y hx hy => ?_
    rw [hx] at hy; cases hy; exact ih x (List.mem_of_getElem? hx)
  | obj a ih =>
    refine .obj (fun _ => Iff.rfl) fun k v w hv hw => ?_
    rw [hv] at hw; cases hw; exact ih (k, v) (lookupKV_mem hv)

theorem Sim.reflList : (xs : List JVal) → ∀ (i : Nat) x, xs[i]? = some x → Sim x x :=
  fun _ _ x _ => Sim.refl x

theorem Sim.reflObj : (a : Entries) → ∀ k v, lookupKV k a = some v → Sim v v :=
  fun _ _ v _ => Sim.refl v

theorem Sim.symm {a b : JVal} (h : Sim a b) : Sim b a := by
  induction h with
  | null => exact .null
  | str s => exact .str s
  | num ha hb he => exact .num hb ha (numEq_symm he)
  | arr hl _ ih => exact .arr hl.symm (fun i x y hx hy => ih i y x hy hx)
  | obj hn _ ih => exact .obj (fun k => (hn k).symm) (fun k v w hv hw => ih k w v hw hv)

theorem Sim.trans {a b c : JVal} (h1 : Sim a b) (h2 : Sim b c) : Sim a c := by
  induction h1 generalizing c with
  | null => exact h2
  | str s => exact h2
  | num ha hb he =>
    cases h2 with
    | num hb' hc he' =>
      rw [hb] at hb'; cases hb'
      exact .num ha hc (numEq_trans he he')
    | _ => cases hb
  | @arr xs ys hl _ ih =>
    cases h2 with
    | num hb _ _ => cases hb
    | @arr _ zs hl' hz =>
      refine .arr (hl.trans hl') (fun i x z hx hz' => ?_)
      have hi : i < ys.length := hl ▸ (List.getElem?_eq_some_iff.mp hx).1
      exact ih i x ys[i] hx (List.getElem?_eq_getElem hi) (hz i _ z (List.getElem?_eq_getElem hi) hz')
  | @obj a b hn _ ih =>
    cases h2 with
    | num hb _ _ => cases hb
    | @obj _ c hn' hc =>
      refine .obj (fun k => (hn k).trans (hn' k)) (fun k v w hv hw => ?_)
      cases hb : lookupKV k b with
      | none => rw [(hn k).mpr hb] at hv; cases hv
      | some u => exact ih k v u hv hb (hc k u w hb hw)

theorem Sim.obj_inv {a b : Entries} (h : Sim (.obj a) (.obj b)) :
    (∀ k, lookupKV k a = none ↔ lookupKV k b = none) ∧
    (∀ k v w, lookupKV k a = some v → lookupKV k b = some w → Sim v w) := by
  cases h with
  | num ha _ _ => cases ha
  | obj h1 h2 => exact ⟨h1, h2⟩

theorem Sim.arr_inv {xs ys : List JVal} (h : Sim (.arr xs) (.arr ys)) :
    xs.length = ys.length ∧ (∀ (i : Nat) x y, xs[i]? = some x → ys[i]? = some y → Sim x y) := by
  cases h with
  | num ha _ _ => cases ha
  | arr h1 h2 => exact ⟨h1, h2⟩

theorem Sim.obj_left {a : Entries} {y : JVal} (h : Sim (.obj a) y) : ∃ b, y = .obj b := by
  cases h with
  | num ha _ _ => cases ha
  | obj _ _ => exact ⟨_, rfl⟩

theorem Sim.obj_right {x : JVal} {b : Entries} (h : Sim x (.obj b)) : ∃ a, x = .obj a :=
  h.symm.obj_left

theorem Sim.arr_left {xs : List JVal} {y : JVal} (h : Sim (.arr xs) y) : ∃ ys, y = .arr ys := by
  cases h with
  | num ha _ _ => cases ha
  | arr _ _ => exact ⟨_, rfl⟩

/-- relation on optional values (results of lookups) -/
def OSim : Option JVal → Option JVal → Prop
  | none, none => True
  | some a, some b => Sim a b
  | _, _ => False

theorem OSim.refl : ∀ x, OSim x x
  | none => trivial
  | some v => Sim.refl v

theorem OSim.cases {x y : Option JVal} (h : OSim x y) :
    (x = none ∧ y = none) ∨ ∃ v w, x = some v ∧ y = some w ∧ Sim v w :=
  match x, y, h with
  | none, none, _ => .inl ⟨rfl, rfl⟩
  | some v, some w, h => .inr ⟨v, w, rfl, rfl, h⟩

theorem sim_obj_iff {a b : Entries} :
    Sim (.obj a) (.obj b) ↔ ∀ k, OSim (lookupKV k a) (lookupKV k b) := by
  constructor
  · intro h k
    obtain ⟨h1, h2⟩ := h.obj_inv
    cases ha : lookupKV k a with
    | none => rw [(h1 k).mp ha]; trivial
    | some v =>
      cases hb : lookupKV k b with
      | none => rw [(h1 k).mpr hb] at ha; cases ha
      | some w => exact h2 k v w ha hb
  · intro h
    refine .obj (fun k => ?_) (fun k v w hv hw => ?_)
    · rcases (h k).cases with ⟨ha, hb⟩ | ⟨v, w, ha, hb, _⟩ <;> simp [ha, hb]
    · have := h k
      rw [hv, hw] at this; exact this

theorem Sim.lookup_cases {a b : Entries} (h : Sim (.obj a) (.obj b)) (k : String) :
    (lookupKV k a = none ∧ lookupKV k b = none) ∨
    ∃ v w, lookupKV k a = some v ∧ lookupKV k b = some w ∧ Sim v w :=
  (sim_obj_iff.mp h k).cases

theorem sim_to_empty {v : JVal} (h : Sim v (.obj [])) : v = .obj [] := by
  obtain ⟨a, rfl⟩ := h.obj_right
  cases a with
  | nil => rfl
  | cons hd tl => have := (h.obj_inv.1 hd.1).mpr rfl; simp [lookupKV] at this

/-! well-formed values: no duplicate keys, at any depth -/
mutual
  def WF : JVal → Prop
    | .obj kvs => (kvs.map Prod.fst).Nodup ∧ WFObj kvs
    | .arr xs => WFList xs
    | .null => True
    | .bool _ => True
    | .int _ => True
    | .flt _ _ _ => True
    | .str _ => True
  def WFList : List JVal → Prop
    | [] => True
    | x :: xs => WF x ∧ WFList xs
  def WFObj : Entries → Prop
    | [] => True
    | (_, v) :: r => WF v ∧ WFObj r
end

theorem wfList_iff {xs : List JVal} : WFList xs ↔ ∀ x ∈ xs, WF x := by
  induction xs with
  | nil => simp [WFList]
  | cons y ys ih => simp [WFList, ih]

theorem wfObj_iff {a : Entries} : WFObj a ↔ ∀ kv ∈ a, WF kv.2 := by
  induction a with
  | nil => simp [WFObj]
  | cons hd tl ih => obtain ⟨k, v⟩ := hd; simp [WFObj, ih]

theorem wf_lookup {k : String} {a : Entries} {v : JVal} (hw : WFObj a) (h : lookupKV k a = some v) : WF v :=
  wfObj_iff.mp hw _ (lookupKV_mem h)

theorem wf_getElem? {xs : List JVal} {i : Nat} {x : JVal} (hw : WFList xs) (h : xs[i]? = some x) : WF x :=
  wfList_iff.mp hw _ (List.mem_of_getElem? h)

theorem pyEq_num {a : JVal} {p : Int × Nat} (ha : numVal a = some p) (b : JVal) :
    pyEq a b = match numVal b with
      | some q => numEq p q
      | none => false := pyEq_of_numVal ha b

theorem pyEq_num_sim {a b : JVal} {p : Int × Nat} (ha : numVal a = some p) (h : pyEq a b = true) :
    Sim a b := by
  rw [pyEq_num ha] at h
  cases hb : numVal b with
  | none => rw [hb] at h; cases h
  | some q => rw [hb] at h; exact .num ha hb h

theorem pyEqEntries_lookup {a b : Entries} (h : pyEqEntries a b = true) {k : String} {v : JVal}
    (hm : (k, v) ∈ a) : ∃ w, lookupKV k b = some w ∧ pyEq v w = true := pyEqEntries_iff.mp h (k, v) hm

theorem pyEq_sim {a : JVal} : ∀ {b : JVal}, WF a → WF b → pyEq a b = true → Sim a b := by
  induction a using JVal.rec_mem with
  | null => intro b _ _ h; cases b with
    | null => exact .null
    | _ => cases h
  | str s => intro b _ _ h; cases b with
    | str t => rw [show s = t from beq_iff_eq.mp h]; exact .str t
    | _ => cases h
  | bool x => intro b _ _ h; cases x <;> exact pyEq_num_sim rfl h
  | int i => intro b _ _ h; exact pyEq_num_sim rfl h
  | flt n e r => intro b _ _ h; exact pyEq_num_sim rfl h
  | arr xs ih => intro b wa wb h; cases b with
    | arr ys =>
      obtain ⟨hl, hp⟩ := pyEqList_pointwise h
      exact .arr hl fun i x y hx hy =>
        ih x (List.mem_of_getElem? hx) (wf_getElem? wa hx) (wf_getElem? wb hy) (hp i x y hx hy)
    | _ => cases h
  | obj a ih => intro b wa wb h; cases b with
    | obj b =>
      have h : a.length = b.length ∧ pyEqEntries a b = true :=
        (Bool.and_eq_true _ _ ▸ h : _ ∧ _).imp_left eq_of_beq
      have hfwd : ∀ {k v}, (k, v) ∈ a → ∃ w, lookupKV k b = some w ∧ Sim v w := fun {k v} hm =>
        have ⟨w, hw, he⟩ := pyEqEntries_lookup h.2 hm
        ⟨w, hw, ih _ hm (wfObj_iff.mp wa.2 _ hm) (wf_lookup wb.2 hw) he⟩
      -- the keys of `a` are among those of `b`, without duplicates and as many: the same keys
      have hsub : a.map Prod.fst ⊆ b.map Prod.fst := fun k hk => by
        obtain ⟨⟨k', v⟩, hm, rfl⟩ := List.mem_map.mp hk
        obtain ⟨w, hw, _⟩ := hfwd hm
        exact List.mem_map.mpr ⟨(k', w), lookupKV_mem hw, rfl⟩
      have hlen : (b.map Prod.fst).length ≤ (a.map Prod.fst).length := by simp [h.1]
      refine .obj (fun k => ?_) (fun k v w hv hw => ?_)
      · rw [lookupKV_none_iff, lookupKV_none_iff]
        exact ⟨fun hn hk => hn (mem_of_nodup_subset wa.1 hsub hlen hk), fun hn hk => hn (hsub hk)⟩
      · obtain ⟨w', hw', hs⟩ := hfwd (lookupKV_mem hv)
        rw [hw] at hw'; cases hw'; exact hs
    | _ => cases h

theorem pyEqList_sim : (xs ys : List JVal) → WFList xs → WFList ys → pyEqList xs ys = true →
      xs.length = ys.length ∧ ∀ (i : Nat) x y, xs[i]? = some x → ys[i]? = some y → Sim x y :=
  fun _ _ wa wb h =>
    have ⟨hl, hp⟩ := pyEqList_pointwise h
    ⟨hl, fun i x y hx hy => pyEq_sim (wf_getElem? wa hx) (wf_getElem? wb hy) (hp i x y hx hy)⟩

theorem pyEqEntries_sim : (a b : Entries) → WFObj a → WFObj b → pyEqEntries a b = true →
      ∀ k v, (k, v) ∈ a → ∃ w, lookupKV k b = some w ∧ Sim v w :=
  fun _ _ wa wb h _ _ hm =>
    have ⟨w, hw, he⟩ := pyEqEntries_lookup h hm
    ⟨w, hw, pyEq_sim (wfObj_iff.mp wa _ hm) (wf_lookup wb hw) he⟩

theorem jsameList_eq_of {xs ys : List JVal} (ih : ∀ x ∈ xs, ∀ y, jsame x y = true → x = y)
    (h : jsameList xs ys = true) : xs = ys := by
  induction xs generalizing ys with
  | nil => cases ys with
    | nil => rfl
    | cons _ _ => cases h
  | cons x xs ihx => cases ys with
    | nil => cases h
    | cons y ys =>
      simp only [jsameList, Bool.and_eq_true] at h
      rw [ih x List.mem_cons_self y h.1, ihx (fun x hx => ih x (List.mem_cons_of_mem _ hx)) h.2]

theorem jsameObj_eq_of {xs ys : Entries} (ih : ∀ kv ∈ xs, ∀ y, jsame kv.2 y = true → kv.2 = y)
    (h : jsameObj xs ys = true) : xs = ys := by
  induction xs generalizing ys with
  | nil => cases ys with
    | nil => rfl
    | cons _ _ => cases h
  | cons x xs ihx => cases ys with
    | nil => cases h
    | cons y ys =>
      obtain ⟨k, v⟩ := x
      obtain ⟨k', v'⟩ := y
      simp only [jsameObj, Bool.and_eq_true, beq_iff_eq] at h
      have hv : v = v' := ih (k, v) List.mem_cons_self v' h.1.2
      rw [h.1.1, hv, ihx (fun x hx => ih x (List.mem_cons_of_mem _ hx)) h.2]

theorem jsame_eq {a : JVal} : ∀ {b : JVal}, jsame a b = true → a = b := by
  induction a using JVal.rec_mem with
  | null => intro b h; cases b with
    | null => rfl
    | _ => cases h
  | bool x => intro b h; cases b with
    | bool y => exact congrArg _ (eq_of_beq h)
    | _ => cases h
  | int x => intro b h; cases b with
    | int y => exact congrArg _ (eq_of_beq h)
    | _ => cases h
  | str x => intro b h; cases b with
    | str y => exact congrArg _ (eq_of_beq h)
    | _ => cases h
  | flt n e r => intro b h; cases b with
    | flt n' e' r' =>
      simp only [jsame, Bool.and_eq_true, beq_iff_eq] at h
      rw [h.1.1, h.1.2, h.2]
    | _ => cases h
  | arr xs ih => intro b h; cases b with
    | arr ys => exact congrArg _ (jsameList_eq_of (fun x hx _ => ih x hx) h)
    | _ => cases h
  | obj xs ih => intro b h; cases b with
    | obj ys => exact congrArg _ (jsameObj_eq_of (fun x hx _ => ih x hx) h)
    | _ => cases h

theorem jsameList_eq : (xs ys : List JVal) → jsameList xs ys = true → xs = ys :=
  fun _ _ => jsameList_eq_of fun _ _ _ => jsame_eq

theorem jsameObj_eq : (xs ys : Entries) → jsameObj xs ys = true → xs = ys :=
  fun _ _ => jsameObj_eq_of fun _ _ _ => jsame_eq

end Signac.Doc
