/-
  Proofs/ViewSpec — what it means for a view to be the picture of a link set, what `specGet`
  prescribes where, and that linking a link set lays its picture over the view.
-/
import Signac.Proofs.ViewFs
namespace Signac.LV

def keysOf (L : List (Path × String)) : List Path := L.map (·.1)

/-- What `createLinks` guarantees of an accepted link set (`valid_of_ok`): distinct paths, no
    path below another, every path ends in the leaf name, all components are ordinary names. -/
structure Valid (L : List (Path × String)) : Prop where
  nodup : (keysOf L).Nodup
  noConflict : ∀ p ∈ keysOf L, ∀ q ∈ keysOf L, properPrefix p q = false
  leafEnd : ∀ p ∈ keysOf L, p.getLast? = some leaf
  plain : ∀ p ∈ keysOf L, ∀ c ∈ p, c ≠ "" ∧ c ≠ "."

/-- the entry a link set prescribes at `p`: its link, a directory on the way to a link, nothing -/
def specGet (L : List (Path × String)) (p : Path) : Option Entry :=
  if p = [] then none
  else match linkTarget L p with
    | some t => some (.link t)
    | none => if L.any (fun x => properPrefix p x.1) then some .dir else none

/-- `v` is exactly the picture of `L`: one link per entry of `L` with its target, the
    directories leading to them, nothing else. -/
def IsTreeOf (v : View) (L : List (Path × String)) : Prop := ∀ p, vget v p = specGet L p

variable {L : List (Path × String)} {p q k : Path} {t : String} {e : Entry}

theorem linkTarget_mem (h : linkTarget L p = some t) : (p, t) ∈ L := by
  rw [linkTarget_eq_lookup, List.lookup_eq_some_iff] at h
  obtain ⟨l₁, l₂, rfl, _⟩ := h
  exact List.mem_append_right _ List.mem_cons_self

theorem mem_keys_of_linkTarget (h : linkTarget L p = some t) : p ∈ keysOf L :=
  List.mem_map_of_mem (f := (·.1)) (linkTarget_mem h)

theorem linkTarget_none_iff : linkTarget L p = none ↔ p ∉ keysOf L := by
  rw [linkTarget_eq_lookup, List.lookup_eq_none_iff, keysOf, List.mem_map]
  exact ⟨fun h ⟨x, hx, e⟩ => by simpa [e] using h x hx, fun h x hx => by
    simpa using fun e : p = x.1 => h ⟨x, hx, e.symm⟩⟩

theorem linkTarget_isSome_of_mem (h : p ∈ keysOf L) : ∃ t, linkTarget L p = some t :=
  Option.ne_none_iff_exists'.mp (fun e => linkTarget_none_iff.mp e h)

theorem any_properPrefix_iff :
    L.any (fun x => properPrefix p x.1) = true ↔ ∃ k ∈ keysOf L, properPrefix p k = true := by
  rw [List.any_eq_true, keysOf]
  exact ⟨fun ⟨x, hx, h⟩ => ⟨x.1, List.mem_map_of_mem hx, h⟩,
    fun ⟨k, hk, h⟩ => by obtain ⟨x, hx, rfl⟩ := List.mem_map.mp hk; exact ⟨x, hx, h⟩⟩

theorem specGet_nil : specGet L [] = none := rfl

theorem specGet_of_target (hq : q ≠ []) (h : linkTarget L q = some t) :
    specGet L q = some (.link t) := by
  rw [specGet, if_neg hq, h]

theorem specGet_of_not_key (hq : q ≠ []) (h : q ∉ keysOf L) :
    specGet L q = if L.any (fun x => properPrefix q x.1) then some .dir else none := by
  rw [specGet, if_neg hq, linkTarget_none_iff.mpr h]

theorem specGet_empty : specGet [] q = none := by
  by_cases hq : q = []
  · rw [hq]; rfl
  · rw [specGet_of_not_key hq List.not_mem_nil]; rfl

theorem valid_nil : Valid [] :=
  ⟨List.nodup_nil, fun _ h => absurd h List.not_mem_nil, fun _ h => absurd h List.not_mem_nil,
    fun _ h => absurd h List.not_mem_nil⟩

theorem isTreeOf_nil : IsTreeOf [] [] := fun _ => specGet_empty.symm

/-- one more link in front: its link at `p`, directories above `p`, otherwise as before -/
theorem specGet_cons (hp : p ≠ []) : specGet ((p, t) :: L) q =
    if q = p then some (.link t)
    else (specGet L q).or (if q ≠ [] ∧ properPrefix q p = true then some .dir else none) := by
  by_cases e : q = p
  · rw [if_pos e, e, specGet_of_target hp (by rw [linkTarget, if_pos rfl])]
  · rw [if_neg e]
    by_cases hq : q = []
    · rw [hq, specGet_nil, specGet_nil]; rfl
    · cases hl : linkTarget L q with
      | some t' =>
        rw [specGet_of_target hq hl, specGet_of_target hq (by rw [linkTarget, if_neg (Ne.symm e), hl])]
        rfl
      | none =>
        have hk := linkTarget_none_iff.mp hl
        rw [specGet_of_not_key hq hk, specGet_of_not_key hq (by
          rw [keysOf, List.map_cons, List.mem_cons]; exact fun h => h.elim e hk), List.any_cons]
        simp only [ne_eq, hq, not_false_eq_true, true_and]
        cases properPrefix q p <;> cases L.any (fun x => properPrefix q x.1) <;> rfl

/-- an entry is prescribed only at a link path (a link) or strictly above one (a directory) -/
theorem specGet_inv (h : specGet L q = some e) : q ≠ [] ∧
    ((∃ t, e = .link t ∧ linkTarget L q = some t) ∨
     (e = .dir ∧ q ∉ keysOf L ∧ ∃ k ∈ keysOf L, properPrefix q k = true)) := by
  have hq : q ≠ [] := fun e => by rw [e, specGet_nil] at h; cases h
  refine ⟨hq, ?_⟩
  cases hl : linkTarget L q with
  | some t =>
    rw [specGet_of_target hq hl] at h
    exact Or.inl ⟨t, (Option.some.inj h).symm, rfl⟩
  | none =>
    have hk := linkTarget_none_iff.mp hl
    rw [specGet_of_not_key hq hk] at h
    split at h
    · next ha => exact Or.inr ⟨(Option.some.inj h).symm, hk, any_properPrefix_iff.mp ha⟩
    · cases h

theorem specGet_link_inv (h : specGet L q = some (.link t)) : linkTarget L q = some t := by
  obtain ⟨_, ⟨t', e, ht⟩ | ⟨e, _⟩⟩ := specGet_inv h
  · cases e; exact ht
  · cases e

theorem specGet_dir_inv (h : specGet L q = some .dir) :
    q ∉ keysOf L ∧ ∃ k ∈ keysOf L, properPrefix q k = true := by
  obtain ⟨_, ⟨t', e, ht⟩ | ⟨_, h⟩⟩ := specGet_inv h
  · cases e
  · exact h

theorem specGet_isSome_prefix (h : (specGet L q).isSome) : q ≠ [] ∧ ∃ k ∈ keysOf L, q <+: k := by
  obtain ⟨e, he⟩ := Option.isSome_iff_exists.mp h
  obtain ⟨hq, ⟨t, _, ht⟩ | ⟨_, _, k, hk, hp⟩⟩ := specGet_inv he
  · exact ⟨hq, q, mem_keys_of_linkTarget ht, List.prefix_refl _⟩
  · exact ⟨hq, k, hk, ((properPrefix_iff q k).mp hp).1⟩

section valid
variable (hV : Valid L)
include hV

theorem key_ne_nil (h : p ∈ keysOf L) : p ≠ [] := fun e => by
  have := hV.leafEnd p h
  rw [e] at this; cases this

theorem specGet_key (hk : k ∈ keysOf L) :
    ∃ t, linkTarget L k = some t ∧ specGet L k = some (.link t) := by
  obtain ⟨t, ht⟩ := linkTarget_isSome_of_mem hk
  exact ⟨t, ht, specGet_of_target (key_ne_nil hV hk) ht⟩

theorem specGet_above (hq : q ≠ []) (hk : k ∈ keysOf L) (hp : properPrefix q k = true) :
    specGet L q = some .dir := by
  have hnk : q ∉ keysOf L := fun hm => by
    rw [hV.noConflict q hm k hk] at hp; cases hp
  rw [specGet_of_not_key hq hnk, if_pos (any_properPrefix_iff.mpr ⟨k, hk, hp⟩)]

theorem specGet_prefix (hq : q ≠ []) (hk : k ∈ keysOf L) (hp : q <+: k) : (specGet L q).isSome := by
  rcases prefix_cases hp with e | h
  · obtain ⟨t, _, h⟩ := specGet_key hV hk
    rw [e, h]; rfl
  · rw [specGet_above hV hq hk h]; rfl

theorem specGet_above_some (h : (specGet L q).isSome) (hp : p ≠ []) (hpq : properPrefix p q = true) :
    specGet L p = some .dir := by
  obtain ⟨_, k, hk, hqk⟩ := specGet_isSome_prefix h
  exact specGet_above hV hp hk (properPrefix_of_proper_of_prefix hpq hqk)

end valid

/-- Linking a list of paths none of which exists, whose ancestors are directories or absent,
    and none of which lies below another lays the picture of these links over the view. -/
theorem runSteps_mklink (ks : List (Path × String)) (v : View)
    (hnd : (keysOf ks).Nodup)
    (hne : ∀ k ∈ keysOf ks, k ≠ [])
    (hnc : ∀ k ∈ keysOf ks, ∀ k' ∈ keysOf ks, properPrefix k k' = false)
    (hfree : ∀ k ∈ keysOf ks, vget v k = none)
    (hpre : ∀ k ∈ keysOf ks, ∀ q, q ≠ [] → properPrefix q k = true →
      vget v q = none ∨ vget v q = some .dir) :
    ∃ v', runSteps (ks.map (fun k => Step.mklink k.1 k.2)) v = (v', none) ∧
      ∀ q, vget v' q = (specGet ks q).or (vget v q) := by
  induction ks generalizing v with
  | nil => exact ⟨v, rfl, fun q => by rw [specGet_empty]; rfl⟩
  | cons k ks ih =>
    obtain ⟨p, t⟩ := k
    have hmem : p ∈ keysOf ((p, t) :: ks) := List.mem_cons_self
    have htl : ∀ {k}, k ∈ keysOf ks → k ∈ keysOf ((p, t) :: ks) := List.mem_cons_of_mem _
    obtain ⟨hpk, hnd⟩ := List.nodup_cons.mp hnd
    obtain ⟨v1, hmk, hget1⟩ := makeLink_ok (t := t) (hne p hmem) (hpre p hmem) (hfree p hmem)
    obtain ⟨v', hrun, hget⟩ := ih v1 hnd (fun k hk => hne k (htl hk))
      (fun k hk k' hk' => hnc k (htl hk) k' (htl hk'))
      (fun k hk => by
        rw [hget1, if_neg (fun e : k = p => hpk (e ▸ hk)), hnc k (htl hk) p hmem]
        simpa using hfree k (htl hk))
      (fun k hk q hq hqk => by
        rw [hget1]
        by_cases e : q = p
        · rw [e, hnc p hmem k (htl hk)] at hqk; cases hqk
        · by_cases c : q ≠ [] ∧ properPrefix q p = true
          · rw [if_neg e, if_pos c]; exact Or.inr rfl
          · rw [if_neg e, if_neg c]; exact hpre k (htl hk) q hq hqk)
    refine ⟨v', by simp only [List.map_cons, runSteps, runStep, hmk]; exact hrun, fun q => ?_⟩
    rw [hget, hget1, specGet_cons (hne p hmem)]
    by_cases e : q = p
    · have hs : specGet ks p = none := by
        rw [specGet_of_not_key (hne p hmem) hpk, if_neg]
        exact fun h => by
          obtain ⟨k, hk, hp⟩ := any_properPrefix_iff.mp h
          rw [hnc p hmem k (htl hk)] at hp; cases hp
      rw [e, hs, if_pos rfl, if_pos rfl]
      rfl
    · rw [if_neg e, if_neg e, Option.or_assoc]
      congr 1
      split <;> rfl

end Signac.LV
