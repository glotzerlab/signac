/-
  Document synchronisation of the sync model.  `DocSync.ByKey`: the equations of `byKeyValue`, the
  induction along its walk (`conf_induction`), conflicts at any depth (`DocConf`, `DocOnly`);
  `DocSync.update`; the backup-and-restore context: what the merge logs and which names it writes
  (`DocExt`), its outcome as a function of the two documents (`mergeErr`), rollback.  Core only.
-/
import Signac.Proofs.SyncBasic
import Signac.Proofs.JValInd
import Signac.Proofs.PyEq
namespace Signac.Sync

abbrev keys (d : Doc) : List String := d.map Prod.fst


theorem lookupKV_setKV_same (k : String) (v : JVal) (d : Doc) : lookupKV k (setKV k v d) = some v := by
  induction d with
  | nil => simp [setKV, lookupKV]
  | cons hd tl ih =>
    obtain ⟨k', v'⟩ := hd
    by_cases h : k' = k
    · simp [setKV, lookupKV, h]
    · have h' : ¬ k = k' := fun e => h e.symm
      simp [setKV, lookupKV, h, h', ih]

theorem lookupKV_setKV_other {j k : String} (h : j ≠ k) (v : JVal) (d : Doc) :
    lookupKV j (setKV k v d) = lookupKV j d := by
  induction d with
  | nil => simp [setKV, lookupKV, h]
  | cons hd tl ih =>
    obtain ⟨k', v'⟩ := hd
    by_cases hk : k' = k
    · subst hk
      simp [setKV, lookupKV, h]
    · by_cases hj : j = k'
      · subst hj
        simp [setKV, lookupKV, hk]
      · simp [setKV, lookupKV, hk, hj, ih]

theorem lookupKV_none_of_not_mem {k : String} {d : Doc} (h : k ∉ keys d) : lookupKV k d = none :=
  lookupKV_none_iff.mpr h

theorem mem_keys_of_lookupKV {k : String} {d : Doc} {v : JVal} (h : lookupKV k d = some v) : k ∈ keys d :=
  List.mem_map_of_mem (f := Prod.fst) (lookupKV_mem h)

/-! ### the equations of `byKeyValue`, and one item of the loop -/

/-- `v` is not a mapping -/
def IsLeaf : JVal → Prop
  | .obj _ => False
  | _ => True

theorem isLeaf_or_obj (v : JVal) : IsLeaf v ∨ ∃ kvs, v = .obj kvs := by
  cases v <;> first | exact .inr ⟨_, rfl⟩ | exact .inl trivial

/-- Induction over a pair of values under one key, by the three shapes of the pair, along the walk
    of `byKeyValue`. -/
theorem conf_induction_mem {Q : JVal → JVal → Prop}
    (leaf : ∀ v w, IsLeaf v → Q v w) (obj_leaf : ∀ sv w, IsLeaf w → Q (.obj sv) w)
    (obj_obj : ∀ sv dw, (∀ kv ∈ sv, ∀ w, Q kv.2 w) → Q (.obj sv) (.obj dw)) (v w : JVal) : Q v w := by
  induction v using JVal.rec_mem generalizing w with
  | obj sv ih =>
    obtain hl | ⟨dw, rfl⟩ := isLeaf_or_obj w
    · exact obj_leaf sv w hl
    · exact obj_obj sv dw ih
  | _ => exact leaf _ w trivial

/-- the same with a statement `P` of its own for the items of a mapping, walked as `byKeyItems`
    does -/
theorem conf_induction {P : List (String × JVal) → Prop} {Q : JVal → JVal → Prop}
    (nil : P []) (cons : ∀ k v tl, (∀ w, Q v w) → P tl → P ((k, v) :: tl))
    (leaf : ∀ v w, IsLeaf v → Q v w) (obj_leaf : ∀ sv w, IsLeaf w → Q (.obj sv) w)
    (obj_obj : ∀ sv dw, P sv → Q (.obj sv) (.obj dw)) : (∀ s, P s) ∧ ∀ v w, Q v w := by
  have items : ∀ s, (∀ kv ∈ s, ∀ w, Q kv.2 w) → P s := by
    intro s
    induction s with
    | nil => exact fun _ => nil
    | cons hd tl ih =>
      exact fun h => cons hd.1 hd.2 tl (h hd List.mem_cons_self)
        (ih fun kv hkv => h kv (List.mem_cons_of_mem _ hkv))
  have value := conf_induction_mem leaf obj_leaf fun sv dw ih => obj_obj sv dw (items sv ih)
  exact ⟨fun s => items s fun kv _ => value kv.2, value⟩

theorem byKeyValue_leaf (ks : Option (String → Bool)) (root k : String) (v w : JVal) (hl : IsLeaf v)
    (st : ByKeySt) :
    byKeyValue ks root k v w st =
      match ks with
      | none => { st with skipped := st.skipped ++ [root ++ k] }
      | some f =>
        if f (root ++ k) then { st with dst := setKV k v st.dst, wrote := true }
        else { st with skipped := st.skipped ++ [root ++ k] } := by
  cases v <;> first | exact hl.elim | (cases ks <;> rfl)

theorem byKeyValue_of_objs (ks : Option (String → Bool)) (root k : String) (sv dw : Doc) (st : ByKeySt) :
    byKeyValue ks root k (.obj sv) (.obj dw) st =
      { byKeyItems ks (root ++ k ++ ".") sv { st with dst := dw } with
        dst := setKV k (.obj (byKeyItems ks (root ++ k ++ ".") sv { st with dst := dw }).dst) st.dst } := by
  simp only [byKeyValue]

/-- a mapping in the source facing a non-mapping: nothing to iterate over, or a TypeError -/
theorem byKeyValue_of_obj_leaf (ks : Option (String → Bool)) (root k : String) (sv : Doc) (w : JVal)
    (hw : IsLeaf w) (st : ByKeySt) :
    byKeyValue ks root k (.obj sv) w st =
      match sv with
      | [] => st
      | _ :: _ => { st with typeErr := true } := by
  cases w <;> first | exact hw.elim | (cases sv <;> simp only [byKeyValue])

/-- the body of the `for key, value in src.items()` loop for one item -/
def byKeyStep (ks : Option (String → Bool)) (root k : String) (v : JVal) (st : ByKeySt) : ByKeySt :=
  match lookupKV k st.dst with
  | none => { st with dst := setKV k v st.dst, wrote := true }
  | some w => if pyEq w v then st else byKeyValue ks root k v w st

theorem byKeyStep_of_ne {ks : Option (String → Bool)} {root k : String} {v w : JVal} {st : ByKeySt}
    (h : lookupKV k st.dst = some w) (hne : pyEq w v = false) :
    byKeyStep ks root k v st = byKeyValue ks root k v w st := by
  simp only [byKeyStep, h, hne, Bool.false_eq_true, if_false]

theorem byKeyItems_cons (ks : Option (String → Bool)) (root k : String) (v : JVal) (tl : Doc) (st : ByKeySt) :
    byKeyItems ks root ((k, v) :: tl) st =
      if st.typeErr then st else byKeyItems ks root tl (byKeyStep ks root k v st) := by
  by_cases ht : st.typeErr = true
  · simp [byKeyItems, ht]
  · cases hl : lookupKV k st.dst with
    | none => simp [byKeyItems, byKeyStep, ht, hl]
    | some w => by_cases he : pyEq w v = true <;> simp [byKeyItems, byKeyStep, ht, hl, he]

theorem byKeyItems_typeErr_mono (ks : Option (String → Bool)) (root : String) (items : Doc) :
    ∀ st : ByKeySt, st.typeErr = true → byKeyItems ks root items st = st := by
  intro st h
  cases items with
  | nil => rfl
  | cons hd tl => rw [byKeyItems_cons, if_pos h]

theorem byKeyItems_typeErr_false (ks : Option (String → Bool)) (root : String) (items : Doc) (st : ByKeySt)
    (h : (byKeyItems ks root items st).typeErr = false) : st.typeErr = false := by
  cases hst : st.typeErr with
  | false => rfl
  | true => rw [byKeyItems_typeErr_mono ks root items st hst, hst] at h; cases h

/-! ### one step of ByKey only touches its own key -/

theorem byKeyValue_dst (ks : Option (String → Bool)) (root k : String) (v w : JVal) (st : ByKeySt) :
    (byKeyValue ks root k v w st).dst = st.dst ∨ ∃ u, (byKeyValue ks root k v w st).dst = setKV k u st.dst := by
  rcases isLeaf_or_obj v with hv | ⟨sv, rfl⟩
  · rw [byKeyValue_leaf ks root k v w hv]
    cases ks with
    | none => exact .inl rfl
    | some f =>
      dsimp only
      split
      · exact .inr ⟨_, rfl⟩
      · exact .inl rfl
  · rcases isLeaf_or_obj w with hw | ⟨dw, rfl⟩
    · rw [byKeyValue_of_obj_leaf ks root k sv w hw]
      cases sv <;> exact .inl rfl
    · exact .inr ⟨_, rfl⟩

theorem byKeyValue_other (ks : Option (String → Bool)) (root k j : String) (h : j ≠ k) (v w : JVal)
    (st : ByKeySt) : lookupKV j (byKeyValue ks root k v w st).dst = lookupKV j st.dst := by
  rcases byKeyValue_dst ks root k v w st with he | ⟨u, he⟩ <;> rw [he]
  exact lookupKV_setKV_other h _ _

theorem byKeyStep_other (ks : Option (String → Bool)) (root k j : String) (h : j ≠ k) (v : JVal)
    (st : ByKeySt) : lookupKV j (byKeyStep ks root k v st).dst = lookupKV j st.dst := by
  unfold byKeyStep
  split
  · exact lookupKV_setKV_other h _ _
  · split
    · rfl
    · exact byKeyValue_other ks root k j h _ _ st

theorem byKeyItems_other (ks : Option (String → Bool)) (root j : String) (items : Doc) :
    ∀ st : ByKeySt, j ∉ keys items →
    lookupKV j (byKeyItems ks root items st).dst = lookupKV j st.dst := by
  induction items with
  | nil => intro st _; rfl
  | cons hd tl ih =>
    intro st hj
    obtain ⟨k, v⟩ := hd
    have hj' : j ≠ k ∧ j ∉ keys tl := not_or.mp (mt List.mem_cons.mpr hj)
    rw [byKeyItems_cons]
    split
    · rfl
    · rw [ih _ hj'.2, byKeyStep_other ks root k j hj'.1]

/-! ### DocSync.update -/

theorem updateItems_other (j : String) (items : Doc) : ∀ d : Doc, j ∉ keys items →
    lookupKV j (updateItems items d) = lookupKV j d := by
  induction items with
  | nil => intro d _; simp [updateItems]
  | cons hd tl ih =>
    intro d hj
    obtain ⟨k, v⟩ := hd
    simp only [keys, List.map, List.mem_cons, not_or] at hj
    simp only [updateItems]
    rw [ih _ hj.2, lookupKV_setKV_other hj.1]

theorem updateItems_get (j : String) (v : JVal) (items : Doc) : ∀ d : Doc, (keys items).Nodup →
    lookupKV j items = some v → lookupKV j (updateItems items d) = some v := by
  induction items with
  | nil => intro d _ h; simp [lookupKV] at h
  | cons hd tl ih =>
    intro d hnd h
    obtain ⟨k, v'⟩ := hd
    have hnd' : (keys tl).Nodup := (List.nodup_cons.mp hnd).2
    have hk : k ∉ keys tl := (List.nodup_cons.mp hnd).1
    simp only [updateItems]
    by_cases hjk : j = k
    · subst hjk
      simp only [lookupKV, if_true, Option.some.injEq] at h
      subst h
      rw [updateItems_other j tl _ hk, lookupKV_setKV_same]
    · simp only [lookupKV, hjk, if_false] at h
      exact ih _ hnd' h

/-! ### conflicts once recorded stay recorded -/

theorem byKeyValue_leaf_grow (ks : Option (String → Bool)) (x root k : String) (v w : JVal) (hv : IsLeaf v)
    (st : ByKeySt) (hx : x ∈ st.skipped) : x ∈ (byKeyValue ks root k v w st).skipped := by
  rw [byKeyValue_leaf ks root k v w hv]
  cases ks with
  | none => exact List.mem_append_left _ hx
  | some f =>
    dsimp only
    split
    · exact hx
    · exact List.mem_append_left _ hx

theorem byKey_skipped_grow (ks : Option (String → Bool)) (x : String) :
    (∀ items root st, x ∈ st.skipped → x ∈ (byKeyItems ks root items st).skipped) ∧
    ∀ v w root k st, x ∈ st.skipped → x ∈ (byKeyValue ks root k v w st).skipped := by
  refine conf_induction ?nil ?cons ?leaf ?obj_leaf ?obj_obj
  case nil => exact fun _ _ hx => hx
  case cons =>
    intro k v tl hv htl root st hx
    rw [byKeyItems_cons]
    split
    · exact hx
    · refine htl root _ ?_
      unfold byKeyStep
      split
      · exact hx
      · split
        · exact hx
        · exact hv _ root k st hx
  case leaf => exact fun v w hv root k => byKeyValue_leaf_grow ks x root k v w hv
  case obj_leaf =>
    intro sv w hw root k st hx
    rw [byKeyValue_of_obj_leaf ks root k sv w hw]
    cases sv <;> exact hx
  case obj_obj => exact fun sv dw hsv root k st hx => hsv _ _ hx

theorem byKeyValue_skipped_grow (ks : Option (String → Bool)) (x : String) :
      (root k : String) → (v w : JVal) → (st : ByKeySt) → x ∈ st.skipped →
      x ∈ (byKeyValue ks root k v w st).skipped :=
  fun root k v w => (byKey_skipped_grow ks x).2 v w root k

theorem byKeyItems_skipped_grow (ks : Option (String → Bool)) (x : String) :
      (root : String) → (items : List (String × JVal)) → (st : ByKeySt) → x ∈ st.skipped →
      x ∈ (byKeyItems ks root items st).skipped :=
  fun root items => (byKey_skipped_grow ks x).1 items root

theorem byKeyStep_skipped_grow (ks : Option (String → Bool)) (root k x : String) (v : JVal)
    (st : ByKeySt) (hx : x ∈ st.skipped) : x ∈ (byKeyStep ks root k v st).skipped := by
  unfold byKeyStep
  split
  · exact hx
  · split
    · exact hx
    · exact byKeyValue_skipped_grow ks x root k v _ st hx

/-! ### what ByKey does at one key -/

/-- the verdict of the key strategy; no strategy = not selected -/
def keySelected (ks : Option (String → Bool)) (key : String) : Bool :=
  match ks with
  | none => false
  | some f => f key

/-- the item `(j, v)` of the source is processed in some state whose destination still has the
    original value under `j`; what that one step leaves under `j` is final, and the conflicts it
    records stay recorded -/
theorem byKeyItems_at (ks : Option (String → Bool)) (root j : String) (v : JVal) (items : Doc) :
    ∀ st : ByKeySt, (keys items).Nodup → lookupKV j items = some v →
    (byKeyItems ks root items st).typeErr = false →
    ∃ stj : ByKeySt, lookupKV j stj.dst = lookupKV j st.dst ∧ stj.typeErr = false ∧
      (byKeyStep ks root j v stj).typeErr = false ∧
      lookupKV j (byKeyItems ks root items st).dst = lookupKV j (byKeyStep ks root j v stj).dst ∧
      (∀ x, x ∈ (byKeyStep ks root j v stj).skipped → x ∈ (byKeyItems ks root items st).skipped) := by
  induction items with
  | nil => intro st _ h; simp [lookupKV] at h
  | cons hd tl ih =>
    intro st hnd hs hte
    obtain ⟨k, v'⟩ := hd
    have hnd' : (keys tl).Nodup := (List.nodup_cons.mp hnd).2
    have hk : k ∉ keys tl := (List.nodup_cons.mp hnd).1
    have hst := byKeyItems_typeErr_false ks root _ st hte
    rw [byKeyItems_cons, hst] at hte ⊢
    simp only [Bool.false_eq_true, if_false] at hte ⊢
    by_cases hjk : j = k
    · subst hjk
      simp only [lookupKV, if_true, Option.some.injEq] at hs
      subst hs
      refine ⟨st, rfl, hst, byKeyItems_typeErr_false ks root tl _ hte, ?_, ?_⟩
      · exact byKeyItems_other ks root j tl _ hk
      · intro x hx; exact byKeyItems_skipped_grow ks x root tl _ hx
    · simp only [lookupKV, hjk, if_false] at hs
      obtain ⟨stj, h1, h2, h3, h4, h5⟩ := ih _ hnd' hs hte
      exact ⟨stj, by rw [h1, byKeyStep_other ks root k j hjk], h2, h3, h4, h5⟩

/-- a key on both sides with different, non-mapping source value: overwritten iff selected,
    recorded as skipped otherwise (`bykey_selective`, one level) -/
theorem byKeyItems_conflict (ks : Option (String → Bool)) (root j : String) (v w : JVal) (items : Doc)
    (st : ByKeySt) (hnd : (keys items).Nodup) (hs : lookupKV j items = some v) (hd : lookupKV j st.dst = some w)
    (hne : pyEq w v = false) (hl : IsLeaf v) (hte : (byKeyItems ks root items st).typeErr = false) :
    lookupKV j (byKeyItems ks root items st).dst = some (if keySelected ks (root ++ j) then v else w) ∧
    (keySelected ks (root ++ j) = false → (root ++ j) ∈ (byKeyItems ks root items st).skipped) := by
  obtain ⟨stj, h1, _, _, h4, h5⟩ := byKeyItems_at ks root j v items st hnd hs hte
  rw [byKeyStep_of_ne (h1.trans hd) hne, byKeyValue_leaf ks root j v w hl] at h4 h5
  cases ks with
  | none => exact ⟨h4.trans (h1.trans hd), fun _ => h5 _ (List.mem_append_right _ (List.mem_singleton.mpr rfl))⟩
  | some f =>
    rw [show keySelected (some f) (root ++ j) = f (root ++ j) from rfl]
    dsimp only at h4 h5
    cases hf : f (root ++ j) with
    | true =>
      rw [hf] at h4
      exact ⟨h4.trans (lookupKV_setKV_same _ _ _), fun h => nomatch h⟩
    | false =>
      rw [hf] at h4 h5
      exact ⟨h4.trans (h1.trans hd), fun _ => h5 _ (List.mem_append_right _ (List.mem_singleton.mpr rfl))⟩

/-! ### path level: conflicts at any depth -/

def docGet : Doc → List String → Option JVal
  | _, [] => none
  | d, [k] => lookupKV k d
  | d, k :: k' :: p =>
    match lookupKV k d with
    | some (.obj sub) => docGet sub (k' :: p)
    | _ => none

/-- `p` leads, through mappings present and different on both sides, to a key whose source value
    `v` is not a mapping and whose destination value `w` is not `==` to it; `key` is the dotted
    key handed to the key strategy and reported in `DocumentSyncConflict` -/
inductive DocConf : String → Doc → Doc → List String → JVal → JVal → String → Prop
  | leaf {root s d k v w} : (keys s).Nodup → lookupKV k s = some v → lookupKV k d = some w →
      pyEq w v = false → IsLeaf v → DocConf root s d [k] v w (root ++ k)
  | sub {root s d k sv dw k' p v w key} : (keys s).Nodup → lookupKV k s = some (.obj sv) →
      lookupKV k d = some (.obj dw) → pyEq (.obj dw) (.obj sv) = false →
      DocConf (root ++ k ++ ".") sv dw (k' :: p) v w key → DocConf root s d (k :: k' :: p) v w key

/-- `bykey_selective`: a conflicting key at any depth is overwritten iff the key strategy
    selects its dotted key; otherwise it keeps its value and the dotted key is recorded -/
theorem byKeyItems_selective (ks : Option (String → Bool)) {root : String} {s d : Doc} {p : List String}
    {v w : JVal} {key : String} (hc : DocConf root s d p v w key) :
    ∀ st : ByKeySt, st.dst = d → (byKeyItems ks root s st).typeErr = false →
    docGet (byKeyItems ks root s st).dst p = some (if keySelected ks key then v else w) ∧
    (keySelected ks key = false → key ∈ (byKeyItems ks root s st).skipped) := by
  induction hc with
  | leaf hnd hs hd hne hl =>
    intro st hst hte
    subst hst
    simp only [docGet]
    exact byKeyItems_conflict ks _ _ _ _ _ st hnd hs hd hne hl hte
  | @sub root s d k sv dw k' p v w key hnd hs hd hne _ ih =>
    intro st hst hte
    subst hst
    obtain ⟨stj, h1, h2, h3, h4, h5⟩ := byKeyItems_at ks root k (.obj sv) s st hnd hs hte
    rw [byKeyStep_of_ne (h1.trans hd) hne, byKeyValue_of_objs] at h3 h4 h5
    simp only at h3 h5
    have := ih { stj with dst := dw } rfl h3
    simp only [docGet, h4, lookupKV_setKV_same]
    exact ⟨this.1, fun hsel => h5 _ (this.2 hsel)⟩

/-! ### destination-only document keys, at any depth -/

/-- `p` names a key the source document does not have, below mappings present on both sides -/
inductive DocOnly : Doc → Doc → List String → Prop
  | top {s d k} : k ∉ keys s → DocOnly s d [k]
  | sub {s d k sv dw k' p} : (keys s).Nodup → lookupKV k s = some (.obj sv) → lookupKV k d = some (.obj dw) →
      DocOnly sv dw (k' :: p) → DocOnly s d (k :: k' :: p)

theorem docGet_congr_head {k : String} {d d' : Doc} (h : lookupKV k d' = lookupKV k d) (p : List String) :
    docGet d' (k :: p) = docGet d (k :: p) := by
  cases p with
  | nil => simpa [docGet] using h
  | cons k' q => simp only [docGet, h]

/-- ByKey never touches a key that only the destination has (`sync_dst_only_keys_untouched`) -/
theorem byKeyItems_dst_only (ks : Option (String → Bool)) {s d : Doc} {p : List String} (h : DocOnly s d p) :
    ∀ (root : String) (st : ByKeySt), st.dst = d → (byKeyItems ks root s st).typeErr = false →
    docGet (byKeyItems ks root s st).dst p = docGet d p := by
  induction h with
  | top hk =>
    intro root st hst _
    subst hst
    simp only [docGet]
    exact byKeyItems_other ks root _ _ st hk
  | @sub s d k sv dw k' p hnd hs hd _ ih =>
    intro root st hst hte
    subst hst
    obtain ⟨stj, h1, h2, h3, h4, _⟩ := byKeyItems_at ks root k (.obj sv) s st hnd hs hte
    by_cases hpe : pyEq (.obj dw) (.obj sv) = true
    · -- equal sub-documents: skipped as a whole
      have hstep : byKeyStep ks root k (.obj sv) stj = stj := by
        simp only [byKeyStep, h1, hd, hpe, if_true]
      rw [hstep] at h4
      exact docGet_congr_head (by rw [h4, h1]) _
    · rw [byKeyStep_of_ne (h1.trans hd) ((Bool.not_eq_true _).mp hpe), byKeyValue_of_objs] at h3 h4
      simp only at h3
      have := ih (root ++ k ++ ".") { stj with dst := dw } rfl h3
      simp only [docGet, h4, lookupKV_setKV_same, hd]
      exact this

/-! ### the strategies as a whole -/

/-- `DocSync.ByKey()` without key strategy raises exactly when a conflict was recorded, and the
    exception carries the recorded keys -/
theorem runDocSync_default_err (s d : Doc) :
    (runDocSync (.byKey none) s d).err =
      if (byKeyItems none "" s ⟨d, [], false, false⟩).typeErr then some .typeError
      else match (byKeyItems none "" s ⟨d, [], false, false⟩).skipped with
        | [] => none
        | k :: rest => some (.docConflict (k :: rest)) := by
  simp only [runDocSync]
  split
  · rfl
  · cases (byKeyItems none "" s ⟨d, [], false, false⟩).skipped <;> rfl

theorem runDocSync_strategy_err (f : String → Bool) (s d : Doc) :
    (runDocSync (.byKey (some f)) s d).err =
      if (byKeyItems (some f) "" s ⟨d, [], false, false⟩).typeErr then some .typeError else none := by
  simp only [runDocSync]
  split <;> rfl

theorem runDocSync_update (s d : Doc) (hnd : (keys s).Nodup) :
    (runDocSync .update s d).err = none ∧
    (∀ k v, lookupKV k s = some v → lookupKV k (runDocSync .update s d).doc = some v) ∧
    (∀ k, k ∉ keys s → lookupKV k (runDocSync .update s d).doc = lookupKV k d) := by
  simp only [runDocSync]
  exact ⟨trivial, fun k v h => updateItems_get k v s d hnd h, fun k h => updateItems_other k s d h⟩

/-! ### the backup-and-restore context -/

theorem str_append_tilde_ne (fn : String) : fn ≠ fn ++ "~" := by
  intro h
  have := congrArg String.length h
  simp [String.length_append] at this

theorem docOf_setE_other {fn n : Name} (h : fn ≠ n) (c : Node) (es : Entries) :
    docOf fn (setE n c es) = docOf fn es := by
  simp [docOf, getE_setE_other h]

theorem docOf_delE_other {fn n : Name} (h : fn ≠ n) (es : Entries) :
    docOf fn (delE n es) = docOf fn es := by
  simp [docOf, getE_delE_other h]

theorem docOf_nil_of_not_file {fn : Name} {D : Entries}
    (h : ((docOf fn D).isEmpty || !isFile fn D) = true) : docOf fn D = [] := by
  cases hg : getE fn D with
  | none => simp [docOf, hg]
  | some c =>
    cases c with
    | dir x => simp [docOf, hg]
    | file m => simpa [isFile, hg] using h

theorem isFile_of_docOf_ne {fn : Name} {D : Entries} (h : (docOf fn D).isEmpty = false) :
    isFile fn D = true := by
  cases hi : isFile fn D with
  | true => rfl
  | false => simp [docOf_nil_of_not_file (fn := fn) (D := D) (by simp [hi])] at h

theorem docOf_docFile (fn : Name) (now : Nat) (d : Doc) (es : Entries) :
    docOf fn (setE fn (docFile now d) es) = d := by
  simp [docOf, getE_setE_same, docFile]

/-- `nosync_none`: NO_SYNC (and COPY) never touch a document through the document merge -/
theorem syncDoc_noSync (o : Opts) (fn : Name) (src : Entries) (a : Acc) (h : o.docSync = .noSync ∨ o.docSync = .copy) :
    syncDoc o fn src a = ⟨a.d, a.log, none⟩ := by
  unfold syncDoc
  rcases h with h | h <;> simp [h]

/-! ### what the document merge logs and which names it writes -/

/-- `b` continues `a` by steps that write no other names than `fn` and `fn ++ "~"` -/
def DocExt (dry : Bool) (fn : Name) (a b : Acc) : Prop :=
  Ext dry a b ∧ ∀ n, n ≠ fn → n ≠ fn ++ "~" → getE n b.d = getE n a.d

theorem DocExt.refl (dry : Bool) (fn : Name) (a : Acc) : DocExt dry fn a a :=
  ⟨Ext.refl _ _, fun _ _ _ => rfl⟩

theorem DocExt.pPut {dry : Bool} {fn : Name} {a b : Acc} (h : DocExt dry fn a b) {n : Name}
    (hn : n = fn ∨ n = fn ++ "~") (c : Node) : DocExt dry fn a (pPut dry n c b) :=
  ⟨h.1.trans (Ext.pPut _ _ _ _), fun m h1 h2 =>
    (getE_pPut_other (by rcases hn with rfl | rfl <;> assumption) _ _ _).trans (h.2 m h1 h2)⟩

theorem DocExt.pDel {dry : Bool} {fn : Name} {a b : Acc} (h : DocExt dry fn a b) {n : Name}
    (hn : n = fn ∨ n = fn ++ "~") : DocExt dry fn a (pDel dry n b) :=
  ⟨h.1.trans (Ext.pDel _ _ _), fun m h1 h2 =>
    (getE_pDel_other (by rcases hn with rfl | rfl <;> assumption) _ _).trans (h.2 m h1 h2)⟩

theorem withBackup_docExt (o : Opts) (fn : Name) (orig : Node) (r : DocRes) (a : Acc) :
    DocExt o.dry fn a (withBackup o fn orig r a).acc := by
  have h1 := (DocExt.refl o.dry fn a).pPut (.inr rfl) orig
  unfold withBackup
  dsimp only
  split <;> split
  · exact ((h1.pPut (.inl rfl) _).pPut (.inl rfl) _).pDel (.inr rfl)
  · exact (h1.pPut (.inl rfl) _).pDel (.inr rfl)
  · exact (h1.pPut (.inl rfl) _).pDel (.inr rfl)
  · exact h1.pDel (.inr rfl)

theorem inMemory_docExt (o : Opts) (fn : Name) (d : Doc) (r : DocRes) (a : Acc) :
    DocExt o.dry fn a (inMemory o fn d r a).acc := by
  unfold inMemory
  split <;> dsimp only <;> split
  · exact (DocExt.refl _ _ _).pPut (.inl rfl) _
  · exact DocExt.refl _ _ _
  · exact (DocExt.refl _ _ _).pPut (.inl rfl) _
  · exact DocExt.refl _ _ _

theorem mergeDocs_cases (o : Opts) (ds : DocSync) (fn : Name) (src : Entries) (a : Acc) :
    (pyEq (.obj (docOf fn src)) (.obj (docOf fn a.d)) = true ∧ mergeDocs o ds fn src a = a.res none)
    ∨ (pyEq (.obj (docOf fn src)) (.obj (docOf fn a.d)) = false ∧
        ((docOf fn a.d).isEmpty || !isFile fn a.d) = true ∧
        mergeDocs o ds fn src a =
          inMemory o fn (docOf fn a.d) (runDocSync ds (docOf fn src) (docOf fn a.d)) a)
    ∨ (pyEq (.obj (docOf fn src)) (.obj (docOf fn a.d)) = false ∧
        ((docOf fn a.d).isEmpty || !isFile fn a.d) = false ∧ isFile (fn ++ "~") a.d = true ∧
        mergeDocs o ds fn src a = a.res (some .backupExists))
    ∨ (∃ orig, pyEq (.obj (docOf fn src)) (.obj (docOf fn a.d)) = false ∧
        ((docOf fn a.d).isEmpty || !isFile fn a.d) = false ∧ isFile (fn ++ "~") a.d = false ∧
        getE fn a.d = some orig ∧
        mergeDocs o ds fn src a = withBackup o fn orig (runDocSync ds (docOf fn src) (docOf fn a.d)) a) := by
  cases h1 : pyEq (.obj (docOf fn src)) (.obj (docOf fn a.d)) with
  | true => exact .inl ⟨rfl, by simp only [mergeDocs, h1, if_true]⟩
  | false =>
    cases h2 : ((docOf fn a.d).isEmpty || !isFile fn a.d) with
    | true => exact .inr (.inl ⟨rfl, rfl, by simp only [mergeDocs, h1, h2, if_true, Bool.false_eq_true, if_false]⟩)
    | false =>
      cases h3 : isFile (fn ++ "~") a.d with
      | true =>
        exact .inr (.inr (.inl ⟨rfl, rfl, rfl, by
          simp only [mergeDocs, h1, h2, h3, if_true, Bool.false_eq_true, if_false]⟩))
      | false =>
        cases h4 : getE fn a.d with
        | none => simp [isFile, h4] at h2
        | some orig =>
          exact .inr (.inr (.inr ⟨orig, rfl, rfl, rfl, rfl, by
            simp only [mergeDocs, h1, h2, h3, h4, Bool.false_eq_true, if_false]⟩))

theorem mergeDocs_docExt (o : Opts) (ds : DocSync) (fn : Name) (src : Entries) (a : Acc) :
    DocExt o.dry fn a (mergeDocs o ds fn src a).acc := by
  rcases mergeDocs_cases o ds fn src a with ⟨_, h⟩ | ⟨_, _, h⟩ | ⟨_, _, _, h⟩ | ⟨orig, _, _, _, _, h⟩ <;> rw [h]
  · exact DocExt.refl _ _ _
  · exact inMemory_docExt o fn _ _ a
  · exact DocExt.refl _ _ _
  · exact withBackup_docExt o fn _ _ a

theorem syncDoc_docExt (o : Opts) (fn : Name) (src : Entries) (a : Acc) :
    DocExt o.dry fn a (syncDoc o fn src a).acc := by
  unfold syncDoc
  split
  · exact DocExt.refl _ _ _
  · exact DocExt.refl _ _ _
  · exact mergeDocs_docExt o _ fn src a

theorem getE_syncDoc_other (o : Opts) (fn : Name) (src : Entries) (a : Acc) (n : Name)
    (h1 : n ≠ fn) (h2 : n ≠ fn ++ "~") : getE n (syncDoc o fn src a).d = getE n a.d :=
  (syncDoc_docExt o fn src a).2 n h1 h2

/-! ### the outcome depends on the two documents and two file tests only -/

def mergeErr (ds : DocSync) (s d : Doc) (isf isb : Bool) : Option Err :=
  if pyEq (.obj s) (.obj d) then none
  else if d.isEmpty || !isf then (runDocSync ds s d).err
  else if isb then some .backupExists
  else (runDocSync ds s d).err

theorem withBackup_err (o : Opts) (fn : Name) (orig : Node) (r : DocRes) (a : Acc) :
    (withBackup o fn orig r a).err = r.err := by
  unfold withBackup
  cases r.err <;> rfl

theorem inMemory_err (o : Opts) (fn : Name) (d : Doc) (r : DocRes) (a : Acc) :
    (inMemory o fn d r a).err = r.err := by
  unfold inMemory
  cases r.err <;> rfl

theorem mergeDocs_err (o : Opts) (ds : DocSync) (fn : Name) (src : Entries) (a : Acc) :
    (mergeDocs o ds fn src a).err =
      mergeErr ds (docOf fn src) (docOf fn a.d) (isFile fn a.d) (isFile (fn ++ "~") a.d) := by
  unfold mergeErr
  rcases mergeDocs_cases o ds fn src a with ⟨h1, h⟩ | ⟨h1, h2, h⟩ | ⟨h1, h2, h3, h⟩ | ⟨orig, h1, h2, h3, _, h⟩ <;>
    rw [h, h1]
  · rfl
  · rw [h2]; exact inMemory_err o fn _ _ a
  · rw [h2, h3]; rfl
  · rw [h2, h3]; exact withBackup_err o fn _ _ a

def syncDocErr (ds : DocSync) (s d : Doc) (isf isb : Bool) : Option Err :=
  match ds with
  | .noSync => none
  | .copy => none
  | ds => mergeErr ds s d isf isb

theorem syncDoc_err (o : Opts) (fn : Name) (src : Entries) (a : Acc) :
    (syncDoc o fn src a).err =
      syncDocErr o.docSync (docOf fn src) (docOf fn a.d) (isFile fn a.d) (isFile (fn ++ "~") a.d) := by
  unfold syncDoc syncDocErr
  cases o.docSync with
  | noSync => rfl
  | copy => rfl
  | update => exact mergeDocs_err o _ fn src a
  | byKey ks => exact mergeDocs_err o _ fn src a

/-! ### the file backup, in a real run -/

theorem withBackup_real (o : Opts) (fn : Name) (orig : Node) (r : DocRes) (a : Acc) (hdry : o.dry = false) :
    (withBackup o fn orig r a).d =
      match r.err with
      | some _ => delE (fn ++ "~") (setE fn orig
          (if r.wrote then setE fn (docFile o.now r.doc) (setE (fn ++ "~") orig a.d) else setE (fn ++ "~") orig a.d))
      | none => delE (fn ++ "~")
          (if r.wrote then setE fn (docFile o.now r.doc) (setE (fn ++ "~") orig a.d) else setE (fn ++ "~") orig a.d) := by
  unfold withBackup
  rw [hdry]
  cases r.err <;> cases r.wrote <;> rfl

theorem withBackup_rollback (o : Opts) (fn : Name) (orig : Node) (r : DocRes) (a : Acc) (e : Err)
    (he : r.err = some e) (hg : getE fn a.d = some orig) (hb : getE (fn ++ "~") a.d = none) :
    (withBackup o fn orig r a).d = a.d ∧ (withBackup o fn orig r a).err = some e := by
  refine ⟨?_, (withBackup_err o fn orig r a).trans he⟩
  cases hdry : o.dry with
  | true => exact (hdry ▸ (withBackup_docExt o fn orig r a).1).of_dry.1
  | false =>
    have hne' := str_append_tilde_ne fn
    -- writing `orig` back over whatever was written, then dropping the backup, undoes both
    have key : ∀ es : Entries, getE fn es = some orig → getE (fn ++ "~") es = none →
        delE (fn ++ "~") (setE fn orig (setE (fn ++ "~") orig es)) = es := by
      intro es h1 h2
      rw [setE_getE (c := orig) (by rw [getE_setE_other hne']; exact h1), delE_setE_absent _ h2]
    rw [withBackup_real o fn orig r a hdry, he]
    cases r.wrote
    · exact key a.d hg hb
    · exact (congrArg _ (setE_setE _ _ _ _)).trans (key a.d hg hb)

theorem withBackup_ok (o : Opts) (fn : Name) (orig : Node) (r : DocRes) (a : Acc)
    (he : r.err = none) (hdry : o.dry = false) :
    (withBackup o fn orig r a).err = none ∧
    getE (fn ++ "~") (withBackup o fn orig r a).d = none ∧
    docOf fn (withBackup o fn orig r a).d = (if r.wrote then r.doc else docOf fn a.d) ∧
    (∀ n, n ≠ fn → n ≠ fn ++ "~" → getE n (withBackup o fn orig r a).d = getE n a.d) := by
  have hne' := str_append_tilde_ne fn
  refine ⟨(withBackup_err o fn orig r a).trans he, ?_, ?_, (withBackup_docExt o fn orig r a).2⟩
  · rw [withBackup_real o fn orig r a hdry, he]
    exact getE_delE_same _ _
  · rw [withBackup_real o fn orig r a hdry, he]
    cases r.wrote
    · exact (docOf_delE_other hne' _).trans (docOf_setE_other hne' _ _)
    · exact (docOf_delE_other hne' _).trans (docOf_docFile _ _ _ _)

/-- `doc_rollback`: whenever the document merge of a non-empty destination document raises
    (DocumentSyncConflict, or anything else inside the backup context), the destination directory
    — the document file in particular, node for node — is what it was before.  `hnodir` is an
    artefact of the model: a directory under the backup's name is not modelled. -/
theorem mergeDocs_rollback (o : Opts) (ds : DocSync) (fn : Name) (src : Entries) (a : Acc) (e : Err)
    (h : (mergeDocs o ds fn src a).err = some e) (hne : (docOf fn a.d).isEmpty = false)
    (hnodir : ∀ x, getE (fn ++ "~") a.d ≠ some (.dir x)) :
    (mergeDocs o ds fn src a).d = a.d := by
  rcases mergeDocs_cases o ds fn src a with ⟨_, he⟩ | ⟨_, h2, _⟩ | ⟨_, _, _, he⟩ | ⟨orig, _, _, h3, hg, he⟩
  · rw [he]
  · rw [docOf_nil_of_not_file h2] at hne; cases hne
  · rw [he]
  · rw [he, withBackup_err] at h
    rw [he]
    -- the backup name must be free: a directory of that name is not modelled
    cases hb : getE (fn ++ "~") a.d with
    | none => exact (withBackup_rollback o fn orig _ a e h hg hb).1
    | some c =>
      cases c with
      | file m => simp [isFile, hb] at h3
      | dir x => exact absurd hb (hnodir x)

end Signac.Sync
