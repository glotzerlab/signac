/-
  Full idempotence of the sync model: the document merges (`DocSync.update`, `DocSync.ByKey` with
  any key strategy, at any nesting depth), the merge under backup-and-restore, a whole job-level
  sync with any document strategy, the clone-or-sync loop of the project-level sync, and every
  entry point.  Core only.

  Every layer above the ByKey loop has the same shape: a predicate "the destination is stable"
  (`DocStable`, `WalkQuiet`, `JobStable`, `JobsStable`, `ProjStable`) under which a run is the
  identity (`…_noop`) and which a successful real run establishes (`…_stable`).  For the loop
  itself `Quiet` describes the result of the second pass directly (`byKey_quiet`).

  The statement without hypotheses is false of the model (see Properties/C13.lean for the
  witnesses); the hypotheses used here are
    * `DocPatOk o`            — the exclusion table matches the job document file name and its
                                backup name (true of `re.match(FN_DOCUMENT, ·)`), so that the file
                                walk and the document merge do not fight over the document file;
    * `NodupKeysObj (doc)`    — the *source* documents have pairwise distinct keys in every mapping
                                (true of everything `json.loads` returns).
-/
import Signac.Proofs.SyncIdem
import Signac.Proofs.SchemaPyEq
namespace Signac.Sync

/-! ### values whose mappings have distinct keys -/

theorem pyEqList_refl : ∀ (xs : List JVal), NodupKeysList xs → pyEqList xs xs = true :=
  fun _ h => Signac.pyEqList_refl fun x hx => pyEq_refl x (NodupKeysList_mem h x hx)

theorem pyEq_refl_obj : ∀ (kvs : List (String × JVal)), NodupKeysObj kvs →
    ∀ kv ∈ kvs, pyEq kv.2 kv.2 = true :=
  fun _ h kv hkv => pyEq_refl kv.2 (NodupKeysObj_mem h kv hkv)

theorem NodupKeysObj_lookup {kvs : List (String × JVal)} (h : NodupKeysObj kvs) {k : String} {v : JVal}
    (hl : lookupKV k kvs = some v) : NodupKeysVal v :=
  NodupKeysObj_mem h (k, v) (lookupKV_mem hl)

/-! ### setKV -/

theorem setKV_self {k : String} {v : JVal} {d : Doc} (h : lookupKV k d = some v) : setKV k v d = d := by
  induction d with
  | nil => cases h
  | cons hd tl ih =>
    simp only [lookupKV] at h
    split at h
    · cases h; simp [setKV, *]
    · simp [setKV, Ne.symm ‹_›, ih h]

theorem setKV_absent {k : String} {v : JVal} {d : Doc} (h : lookupKV k d = none) : setKV k v d = d ++ [(k, v)] := by
  induction d with
  | nil => rfl
  | cons hd tl ih =>
    simp only [lookupKV] at h
    split at h
    · cases h
    · simp [setKV, Ne.symm ‹_›, ih h]

theorem lookupKV_append_none {k : String} {d e : Doc} (h : lookupKV k d = none) :
    lookupKV k (d ++ e) = lookupKV k e := by
  rw [lookupKV_append, h]

/-! ### `DocSync.update` is idempotent -/

theorem updateItems_idem (s : Doc) : ∀ d : Doc, (keys s).Nodup →
    updateItems s (updateItems s d) = updateItems s d := by
  induction s with
  | nil => intro d _; rfl
  | cons hd tl ih =>
    intro d hnd
    obtain ⟨k, v⟩ := hd
    have hk : k ∉ keys tl := (List.nodup_cons.mp hnd).1
    simp only [updateItems]
    have : lookupKV k (updateItems tl (setKV k v d)) = some v := by
      rw [updateItems_other k tl _ hk, lookupKV_setKV_same]
    rw [setKV_self this]
    exact ih _ (List.nodup_cons.mp hnd).2

theorem updateItems_fresh (s : Doc) : ∀ d : Doc, (keys s).Nodup → (∀ k, k ∈ keys s → lookupKV k d = none) →
    updateItems s d = d ++ s := by
  induction s with
  | nil => intro d _ _; simp [updateItems]
  | cons hd tl ih =>
    intro d hnd hfree
    obtain ⟨k, v⟩ := hd
    have hk : k ∉ keys tl := (List.nodup_cons.mp hnd).1
    simp only [updateItems]
    rw [setKV_absent (hfree k (by simp [keys])), ih _ (List.nodup_cons.mp hnd).2]
    · simp
    · intro k' hk'
      have hne : k' ≠ k := fun e => hk (e ▸ hk')
      rw [lookupKV_append_none (hfree k' (by simp [keys, hk']))]
      simp [lookupKV, hne]

/-! ### `DocSync.ByKey` is idempotent -/

theorem byKeyValue_leaf_sel (ks : Option (String → Bool)) (root k : String) (v w : JVal) (hl : IsLeaf v)
    (st : ByKeySt) :
    byKeyValue ks root k v w st =
      if keySelected ks (root ++ k) then { st with dst := setKV k v st.dst, wrote := true }
      else { st with skipped := st.skipped ++ [root ++ k] } := by
  rw [byKeyValue_leaf ks root k v w hl st]
  cases ks <;> rfl

/-- What the second pass of ByKey over the same source leaves in `r`: nothing written (`w` is the
    flag it started with), nothing changed (`D` is the document it started with), no type error.
    A key the first pass skipped is skipped again, so the recorded keys stay what they were (`sk`)
    only if the first pass (its final state is `first`) recorded none — the case in which `ByKey`
    without key strategy raises nothing. -/
structure Quiet (r : ByKeySt) (D : Doc) (sk : List String) (w : Bool) (first : ByKeySt) : Prop where
  dst : r.dst = D
  typeErr : r.typeErr = false
  wrote : r.wrote = w
  skipped : first.skipped = [] → r.skipped = sk

theorem Quiet.eta {r first : ByKeySt} {D : Doc} {sk : List String} {w : Bool} (h : Quiet r D sk w first) :
    r = ⟨D, r.skipped, w, false⟩ := by
  cases r
  cases h.dst; cases h.typeErr; cases h.wrote
  rfl

theorem skipped_nil_of_end {ks : Option (String → Bool)} {root : String} {items : Doc} {st : ByKeySt}
    (h : (byKeyItems ks root items st).skipped = []) : st.skipped = [] := by
  cases hs : st.skipped with
  | nil => rfl
  | cons x xs =>
    have := byKeyItems_skipped_grow ks x root items st (by simp [hs])
    rw [h] at this
    cases this

/-- The second pass is quiet, for the loop and for one item `(k, v)` whose first pass went through
    `byKeyValue` (key on both sides, values not `==`): processing the same source again in any
    state whose destination has, under the source's keys, what the first pass left there. -/
theorem byKey_quiet (ks : Option (String → Bool)) :
    (∀ s, NodupKeysObj s → ∀ (root : String) (st : ByKeySt) (D : Doc) (sk : List String) (wr : Bool),
      (byKeyItems ks root s st).typeErr = false →
      (∀ k, k ∈ keys s → lookupKV k D = lookupKV k (byKeyItems ks root s st).dst) →
      Quiet (byKeyItems ks root s ⟨D, sk, wr, false⟩) D sk wr (byKeyItems ks root s st)) ∧
    (∀ v w, NodupKeysVal v → ∀ (root k : String) (st : ByKeySt),
      (byKeyValue ks root k v w st).typeErr = false → lookupKV k st.dst = some w → pyEq w v = false →
      ∀ (D : Doc) (sk : List String) (wr : Bool),
      lookupKV k D = lookupKV k (byKeyValue ks root k v w st).dst →
      Quiet (byKeyStep ks root k v ⟨D, sk, wr, false⟩) D sk wr (byKeyValue ks root k v w st)) := by
  refine conf_induction ?nil ?cons ?leaf ?obj_leaf ?obj_obj
  case nil => exact fun _ _ _ _ _ _ _ _ => ⟨rfl, rfl, rfl, fun _ => rfl⟩
  case cons =>
    intro k v tl ihv ihtl hs root st D sk wr hte hD
    have hk : k ∉ keys tl := fun hm => by
      obtain ⟨kv, hkv, e⟩ := List.mem_map.mp hm
      exact hs.1 kv hkv e
    have cons : ∀ st' : ByKeySt, st'.typeErr = false →
        byKeyItems ks root ((k, v) :: tl) st' = byKeyItems ks root tl (byKeyStep ks root k v st') :=
      fun st' h => by rw [byKeyItems_cons, h]; rfl
    have hst := byKeyItems_typeErr_false ks root _ st hte
    rw [cons st hst] at hte hD ⊢
    rw [cons _ rfl]
    have hDk : lookupKV k D = lookupKV k (byKeyStep ks root k v st).dst := by
      rw [hD k (by simp [keys]), byKeyItems_other ks root k tl _ hk]
    -- the body of the loop is quiet, whichever branch the first pass took
    have hstep : Quiet (byKeyStep ks root k v ⟨D, sk, wr, false⟩) D sk wr (byKeyStep ks root k v st) := by
      have hte1 := byKeyItems_typeErr_false ks root tl _ hte
      cases hl : lookupKV k st.dst with
      | none =>
        simp only [byKeyStep, hl, lookupKV_setKV_same] at hDk ⊢
        simp only [hDk, pyEq_refl v hs.2.1, if_true]
        exact ⟨rfl, rfl, rfl, fun _ => rfl⟩
      | some w =>
        cases he : pyEq w v with
        | true =>
          simp only [byKeyStep, hl, he, if_true] at hDk ⊢
          simp only [hDk, he, if_true]
          exact ⟨rfl, rfl, rfl, fun _ => rfl⟩
        | false =>
          have e1 : byKeyStep ks root k v st = byKeyValue ks root k v w st := by
            simp only [byKeyStep, hl, he, Bool.false_eq_true, if_false]
          rw [e1] at hDk hte1 ⊢
          exact ihv w hs.2.1 root k st hte1 hl he D sk wr hDk
    have htl := ihtl hs.2.2 root (byKeyStep ks root k v st) D
      (byKeyStep ks root k v ⟨D, sk, wr, false⟩).skipped wr hte (fun k' hk' => hD k' (by simp [keys, hk']))
    rw [hstep.eta]
    exact ⟨htl.dst, htl.typeErr, htl.wrote, fun h => (htl.skipped h).trans (hstep.skipped (skipped_nil_of_end h))⟩
  case leaf =>
    -- overwritten (then `==` the second time) or skipped (then skipped again)
    intro v w hleaf hv root k st _ hl hne D sk wr hD
    rw [byKeyValue_leaf_sel ks root k v w hleaf st] at hD ⊢
    cases hsel : keySelected ks (root ++ k) with
    | true =>
      simp only [hsel, if_true, lookupKV_setKV_same] at hD ⊢
      simp only [byKeyStep, hD, pyEq_refl v hv, if_true]
      exact ⟨rfl, rfl, rfl, fun _ => rfl⟩
    | false =>
      simp only [hsel, Bool.false_eq_true, if_false, hl] at hD ⊢
      simp only [byKeyStep, hD, hne, Bool.false_eq_true, if_false, byKeyValue_leaf_sel ks root k v w hleaf, hsel]
      exact ⟨rfl, rfl, rfl, fun h => by simp at h⟩
  case obj_leaf =>
    -- only an empty source mapping passes, silently, both times
    intro sv w hw _ root k st hte hl hne D sk wr hD
    rw [byKeyValue_of_obj_leaf ks root k sv w hw st] at hte hD ⊢
    cases sv with
    | cons x xs => cases hte
    | nil =>
      dsimp only at hD ⊢
      rw [hl] at hD
      simp only [byKeyStep, hD, hne, Bool.false_eq_true, if_false, byKeyValue_of_obj_leaf ks root k [] w hw]
      exact ⟨rfl, rfl, rfl, fun _ => rfl⟩
  case obj_obj =>
    intro sv dw ih hv root k st hte hl hne D sk wr hD
    rw [byKeyValue_of_objs] at hte hD ⊢
    simp only [lookupKV_setKV_same] at hte hD
    simp only [byKeyStep, hD]
    split
    · exact ⟨rfl, rfl, rfl, fun _ => rfl⟩
    · rw [byKeyValue_of_objs]
      have q := ih hv (root ++ k ++ ".") { st with dst := dw } _ sk wr hte (fun _ _ => rfl)
      exact ⟨by simp only [q.dst]; exact setKV_self hD, q.typeErr, q.wrote, q.skipped⟩

theorem byKeyValue_quiet (ks : Option (String → Bool)) :
    (v : JVal) → NodupKeysVal v → ∀ (root k : String) (w : JVal) (st : ByKeySt),
    (byKeyValue ks root k v w st).typeErr = false → lookupKV k st.dst = some w → pyEq w v = false →
    ∀ (D : Doc) (sk : List String) (wr : Bool),
    lookupKV k D = lookupKV k (byKeyValue ks root k v w st).dst →
    Quiet (byKeyStep ks root k v ⟨D, sk, wr, false⟩) D sk wr (byKeyValue ks root k v w st) :=
  fun v hv root k w st => (byKey_quiet ks).2 v w hv root k st

theorem byKeyItems_quiet (ks : Option (String → Bool)) (s : Doc) (hs : NodupKeysObj s) (root : String)
    (st : ByKeySt) (hte : (byKeyItems ks root s st).typeErr = false) (D : Doc) (sk : List String) (wr : Bool)
    (hD : ∀ k, k ∈ keys s → lookupKV k D = lookupKV k (byKeyItems ks root s st).dst) :
    Quiet (byKeyItems ks root s ⟨D, sk, wr, false⟩) D sk wr (byKeyItems ks root s st) :=
  (byKey_quiet ks).1 s hs root st D sk wr hte hD

/-! ### the document strategies as a whole -/

theorem byKeyItems_fresh_dst (ks : Option (String → Bool)) (root : String) (items : Doc) :
    ∀ st : ByKeySt, (keys items).Nodup → (∀ k, k ∈ keys items → lookupKV k st.dst = none) →
    st.typeErr = false → (byKeyItems ks root items st).dst = st.dst ++ items := by
  induction items with
  | nil => intro st _ _ h; simp [byKeyItems]
  | cons hd tl ih =>
    intro st hnd hfree hte
    obtain ⟨k, v⟩ := hd
    have hk : k ∉ keys tl := (List.nodup_cons.mp hnd).1
    have h0 : lookupKV k st.dst = none := hfree k (by simp [keys])
    rw [byKeyItems_cons, hte]
    simp only [Bool.false_eq_true, if_false, byKeyStep, h0]
    rw [ih ⟨setKV k v st.dst, st.skipped, true, st.typeErr⟩ (List.nodup_cons.mp hnd).2 ?_ hte]
    · simp [setKV_absent h0]
    · intro k' hk'
      have : k' ≠ k := fun e => hk (e ▸ hk')
      simp only
      rw [lookupKV_setKV_other this]
      exact hfree k' (by simp [keys, hk'])

theorem runDocSync_fresh_doc (ds : DocSync) (s : Doc) (hnd : (keys s).Nodup)
    (hw : (runDocSync ds s []).wrote = true) (he : (runDocSync ds s []).err = none) :
    (runDocSync ds s []).doc = s := by
  cases ds with
  | byKey ks =>
    have h1 := byKeyItems_fresh ks "" s ⟨[], [], false, false⟩ hnd (by intro k _; rfl) rfl
    have h2 := byKeyItems_fresh_dst ks "" s ⟨[], [], false, false⟩ hnd (by intro k _; rfl) rfl
    simp only [runDocSync, h1.1, h1.2]
    cases ks <;> simpa using h2
  | update =>
    simp only [runDocSync]
    simpa using updateItems_fresh s [] hnd (by intro k _; rfl)
  | noSync => cases hw
  | copy => cases hw

theorem runDocSync_byKey_typeErr {ks : Option (String → Bool)} {s d : Doc}
    (h : (runDocSync (.byKey ks) s d).err = none) :
    (byKeyItems ks "" s ⟨d, [], false, false⟩).typeErr = false := by
  cases ht : (byKeyItems ks "" s ⟨d, [], false, false⟩).typeErr with
  | false => rfl
  | true => simp [runDocSync, ht] at h

/-- `ByKey` as a whole when its loop ended in `r` without a type error: the loop's document and
    flag; without key strategy the recorded conflicts are raised -/
theorem runDocSync_byKey {ks : Option (String → Bool)} {s d : Doc} {r : ByKeySt}
    (hr : byKeyItems ks "" s ⟨d, [], false, false⟩ = r) (hte : r.typeErr = false) :
    runDocSync (.byKey ks) s d =
      ⟨r.dst, r.wrote, if ks.isNone && !r.skipped.isEmpty then some (.docConflict r.skipped) else none⟩ := by
  simp only [runDocSync, hr, hte, Bool.false_eq_true, if_false]
  cases ks <;> cases r.skipped <;> rfl

/-- **Idempotence of the document merge alone** (`DocSync.update`, `DocSync.ByKey(ks)` for every
    key strategy `ks`, NO_SYNC, COPY; any nesting depth): if merging the source document `s` into
    `d` raised nothing, merging `s` into the merged document raises nothing and changes nothing. -/
theorem runDocSync_idem (ds : DocSync) (s d : Doc) (hs : NodupKeysObj s)
    (h : (runDocSync ds s d).err = none) :
    (runDocSync ds s (runDocSync ds s d).doc).err = none ∧
    (runDocSync ds s (runDocSync ds s d).doc).doc = (runDocSync ds s d).doc := by
  cases ds with
  | byKey ks =>
    have hte := runDocSync_byKey_typeErr h
    have q := byKeyItems_quiet ks s hs "" ⟨d, [], false, false⟩ hte
      (byKeyItems ks "" s ⟨d, [], false, false⟩).dst [] false (fun _ _ => rfl)
    rw [runDocSync_byKey rfl hte] at h ⊢
    rw [runDocSync_byKey rfl q.typeErr]
    refine ⟨?_, q.dst⟩
    cases ks with
    | some f => rfl
    | none =>
      cases hk : (byKeyItems none "" s ⟨d, [], false, false⟩).skipped with
      | cons x xs => simp [hk] at h
      | nil => simp [q.skipped hk]
  | update => exact ⟨rfl, updateItems_idem s d (NodupKeysObj_keys hs)⟩
  | noSync => exact ⟨rfl, rfl⟩
  | copy => exact ⟨rfl, rfl⟩


/-! ### the merge under backup-and-restore -/

/-- A directory in which the document merge from the source document `s`, run with the same
    options (the same clock `o.now` in particular), has nothing to do: the documents are `==`
    (`mergeDocs` returns at once), or the strategy raises nothing and
    * what it writes is the document file that is there, mtime `o.now` included (`update` always
      "writes": its second `pPut` is the identity only for that reason),
    * the backup name is free where the file backup is taken (non-empty document). -/
def DocStable (o : Opts) (ds : DocSync) (fn : Name) (s : Doc) (D : Entries) : Prop :=
  pyEq (.obj s) (.obj (docOf fn D)) = true ∨
  ((runDocSync ds s (docOf fn D)).err = none ∧
   ((runDocSync ds s (docOf fn D)).wrote = true →
      getE fn D = some (docFile o.now (runDocSync ds s (docOf fn D)).doc)) ∧
   ((docOf fn D).isEmpty = false → getE (fn ++ "~") D = none))

theorem DocStable.congr {o : Opts} {ds : DocSync} {fn : Name} {s : Doc} {D D' : Entries}
    (h1 : getE fn D' = getE fn D) (h2 : getE (fn ++ "~") D' = getE (fn ++ "~") D)
    (h : DocStable o ds fn s D) : DocStable o ds fn s D' := by
  have hd : docOf fn D' = docOf fn D := by simp only [docOf, h1]
  simpa only [DocStable, hd, h1, h2] using h

theorem pPut_same {n : Name} {c : Node} {a : Acc} (dry : Bool) (h : getE n a.d = some c) :
    (pPut dry n c a).d = a.d := by
  cases dry with
  | true => rfl
  | false => exact setE_getE h

theorem withBackup_noop {o : Opts} {fn : Name} {orig : Node} {r : DocRes} {a : Acc}
    (hg : getE fn a.d = some orig) (hb : getE (fn ++ "~") a.d = none) (he : r.err = none)
    (hw : r.wrote = true → orig = docFile o.now r.doc) : (withBackup o fn orig r a).d = a.d := by
  unfold withBackup
  simp only [he]
  cases hdry : o.dry with
  | true => split <;> rfl
  | false =>
    have e : setE fn orig (setE (fn ++ "~") orig a.d) = setE (fn ++ "~") orig a.d :=
      setE_getE (by rw [getE_setE_other (str_append_tilde_ne fn)]; exact hg)
    split
    · simp only [pPut, pDel, Bool.false_eq_true, if_false, ← hw ‹_›, e]
      exact delE_setE_absent _ hb
    · exact delE_setE_absent _ hb

theorem mergeDocs_noop (o : Opts) (ds : DocSync) (fn : Name) (src D : Entries)
    (h : DocStable o ds fn (docOf fn src) D) (l : List Step) :
    (mergeDocs o ds fn src ⟨D, l⟩).d = D ∧ (mergeDocs o ds fn src ⟨D, l⟩).err = none := by
  rcases mergeDocs_cases o ds fn src ⟨D, l⟩ with ⟨_, e⟩ | hc
  · rw [e]; exact ⟨rfl, rfl⟩
  rcases h with h | ⟨he, hw, hb⟩
  · rcases hc with ⟨hpe, _⟩ | ⟨hpe, _⟩ | ⟨_, hpe, _⟩ <;> rw [hpe] at h <;> cases h
  have hne : ((docOf fn D).isEmpty || !isFile fn D) = false → (docOf fn D).isEmpty = false :=
    fun hc => (Bool.or_eq_false_iff.mp hc).1
  rcases hc with ⟨-, -, e⟩ | ⟨-, hc, hbf, -⟩ | ⟨orig, -, hc, -, hg, e⟩
  · -- in-memory backup
    rw [e, inMemory_err]
    refine ⟨?_, he⟩
    unfold inMemory
    simp only [he]
    split
    · exact pPut_same o.dry (hw ‹_›)
    · rfl
  · -- a stale backup file: impossible, the backup name is free
    simp [isFile, hb (hne hc)] at hbf
  · -- file backup
    rw [e, withBackup_err]
    exact ⟨withBackup_noop hg (hb (hne hc)) he fun h => Option.some.inj (hg.symm.trans (hw h)), he⟩

theorem withBackup_get_fn (o : Opts) (fn : Name) (orig : Node) (r : DocRes) (a : Acc)
    (he : r.err = none) (hdry : o.dry = false) (hw : r.wrote = true) :
    getE fn (withBackup o fn orig r a).d = some (docFile o.now r.doc) := by
  unfold withBackup
  simp only [he, hdry, hw, if_true, pPut, pDel, Bool.false_eq_true, if_false]
  rw [getE_delE_other (str_append_tilde_ne fn), getE_setE_same]

theorem mergeDocs_stable (o : Opts) (hdry : o.dry = false) (ds : DocSync) (fn : Name) (src : Entries) (a : Acc)
    (hs : NodupKeysObj (docOf fn src)) (hok : (mergeDocs o ds fn src a).err = none) :
    DocStable o ds fn (docOf fn src) (mergeDocs o ds fn src a).d := by
  rcases mergeDocs_cases o ds fn src a with ⟨hpe, e⟩ | ⟨-, hc, e⟩ | ⟨-, -, -, e⟩ | ⟨orig, -, -, -, -, e⟩ <;>
    rw [e] at hok ⊢
  · exact .inl hpe
  · -- what was written into the empty document is the source document
    have hd := docOf_nil_of_not_file hc
    rw [hd] at hok ⊢
    rw [inMemory_err] at hok
    unfold inMemory
    simp only [hok]
    by_cases hwr : (runDocSync ds (docOf fn src) []).wrote = true
    · left
      simp only [hwr, if_true, pPut, hdry, Bool.false_eq_true, if_false]
      rw [docOf_docFile, runDocSync_fresh_doc ds _ (NodupKeysObj_keys hs) hwr hok]
      exact pyEq_refl (.obj (docOf fn src)) hs
    · right
      simp only [hwr, Bool.false_eq_true, if_false, hd]
      exact ⟨hok, fun h => h.elim, fun h => by simp at h⟩
  · cases hok
  · -- the merged document is a fixed point of the merge, and the backup is gone
    rw [withBackup_err] at hok
    obtain ⟨-, hb, hdoc, -⟩ := withBackup_ok o fn orig _ a hok hdry
    right
    by_cases hwr : (runDocSync ds (docOf fn src) (docOf fn a.d)).wrote = true
    · rw [hdoc, if_pos hwr]
      have A := runDocSync_idem ds _ (docOf fn a.d) hs hok
      exact ⟨A.1, fun _ => by rw [A.2]; exact withBackup_get_fn o fn _ _ a hok hdry hwr, fun _ => hb⟩
    · rw [hdoc, if_neg hwr]
      exact ⟨hok, fun h => absurd h hwr, fun _ => hb⟩


theorem syncDoc_cases (o : Opts) (fn : Name) (src : Entries) (a : Acc) :
    ((o.docSync = .noSync ∨ o.docSync = .copy) ∧ syncDoc o fn src a = ⟨a.d, a.log, none⟩) ∨
    (o.docSync ≠ .noSync ∧ o.docSync ≠ .copy ∧ o.docSync.isCopy = false ∧
      syncDoc o fn src a = mergeDocs o o.docSync fn src a) := by
  unfold syncDoc
  cases o.docSync with
  | noSync => exact .inl ⟨.inl rfl, rfl⟩
  | copy => exact .inl ⟨.inr rfl, rfl⟩
  | _ => exact .inr ⟨nofun, nofun, rfl, rfl⟩

/-- the same for `syncDoc` -/
def SyncDocStable (o : Opts) (fn : Name) (s : Doc) (D : Entries) : Prop :=
  o.docSync = .noSync ∨ o.docSync = .copy ∨ DocStable o o.docSync fn s D

theorem SyncDocStable.congr {o : Opts} {fn : Name} {s : Doc} {D D' : Entries}
    (h1 : getE fn D' = getE fn D) (h2 : getE (fn ++ "~") D' = getE (fn ++ "~") D)
    (h : SyncDocStable o fn s D) : SyncDocStable o fn s D' :=
  h.imp_right (Or.imp_right (DocStable.congr h1 h2))

theorem syncDoc_noop (o : Opts) (fn : Name) (src D : Entries)
    (h : SyncDocStable o fn (docOf fn src) D) (l : List Step) :
    (syncDoc o fn src ⟨D, l⟩).d = D ∧ (syncDoc o fn src ⟨D, l⟩).err = none := by
  rcases syncDoc_cases o fn src ⟨D, l⟩ with ⟨-, e⟩ | ⟨h1, h2, -, e⟩
  · rw [e]; exact ⟨rfl, rfl⟩
  · rw [e]; exact mergeDocs_noop o _ fn src D ((h.resolve_left h1).resolve_left h2) l

/-- hypothesis on a source document: read only when the strategy merges -/
def DocHyp (o : Opts) (s : Doc) : Prop :=
  o.docSync = .noSync ∨ o.docSync = .copy ∨ NodupKeysObj s

theorem syncDoc_stable (o : Opts) (hdry : o.dry = false) (fn : Name) (src : Entries) (a : Acc)
    (hs : DocHyp o (docOf fn src)) (hok : (syncDoc o fn src a).err = none) :
    SyncDocStable o fn (docOf fn src) (syncDoc o fn src a).d := by
  rcases syncDoc_cases o fn src a with ⟨h, -⟩ | ⟨-, -, -, e⟩
  · exact h.elim .inl (.inr ∘ .inl)
  · rw [e] at hok ⊢
    exact hs.imp_right (Or.imp_right fun hs => mergeDocs_stable o hdry _ fn src a hs hok)

/-- **Idempotence of the document synchronisation of one directory** (job or project root), with
    the backup-and-restore context: after a successful real `syncDoc`, a second one on the result
    changes nothing and succeeds. -/
theorem syncDoc_idem (o : Opts) (hdry : o.dry = false) (fn : Name) (src : Entries) (a : Acc)
    (hs : DocHyp o (docOf fn src)) (hok : (syncDoc o fn src a).err = none) (l : List Step) :
    (syncDoc o fn src ⟨(syncDoc o fn src a).d, l⟩).d = (syncDoc o fn src a).d ∧
    (syncDoc o fn src ⟨(syncDoc o fn src a).d, l⟩).err = none :=
  syncDoc_noop o fn src _ (syncDoc_stable o hdry fn src a hs hok) l

/-! ### the merge never creates a directory -/

theorem getE_delE (m n : Name) (es : Entries) : getE m (delE n es) = if m = n then none else getE m es := by
  by_cases h : m = n
  · subst h; simp [getE_delE_same]
  · simp [h, getE_delE_other h]

theorem dir_of_pPut_file {n k : Name} {x : Entries} {dry : Bool} {m : FMeta} {a : Acc}
    (h : getE n (pPut dry k (.file m) a).d = some (.dir x)) : getE n a.d = some (.dir x) := by
  cases dry with
  | true => exact h
  | false =>
    simp only [pPut, Bool.false_eq_true, if_false, getE_setE] at h
    split at h
    · cases h
    · exact h

theorem dir_of_pDel {n k : Name} {x : Entries} {dry : Bool} {a : Acc}
    (h : getE n (pDel dry k a).d = some (.dir x)) : getE n a.d = some (.dir x) := by
  cases dry with
  | true => exact h
  | false =>
    simp only [pDel, Bool.false_eq_true, if_false, getE_delE] at h
    split at h
    · cases h
    · exact h

/-- the document merge writes regular files and deletes: whatever is a directory afterwards was
    that directory before -/
theorem getE_syncDoc_dir (o : Opts) (fn : Name) (src : Entries) (a : Acc) (n : Name) (x : Entries)
    (h : getE n (syncDoc o fn src a).d = some (.dir x)) : getE n a.d = some (.dir x) := by
  rcases syncDoc_cases o fn src a with ⟨-, e⟩ | ⟨-, -, -, e⟩ <;> rw [e] at h
  · exact h
  rcases mergeDocs_cases o o.docSync fn src a with ⟨-, e⟩ | ⟨-, -, e⟩ | ⟨-, -, -, e⟩ | ⟨orig, -, hc, -, hg, e⟩ <;>
    rw [e] at h
  · exact h
  · unfold inMemory at h
    split at h <;> dsimp only at h <;> split at h
    · exact dir_of_pPut_file h
    · exact h
    · exact dir_of_pPut_file h
    · exact h
  · exact h
  · -- the file backup is taken of a regular file
    obtain ⟨m, rfl⟩ : ∃ m, orig = .file m := by
      cases orig with
      | file m => exact ⟨m, rfl⟩
      | dir x => simp [isFile, hg, docOf] at hc
    unfold withBackup at h
    dsimp only at h
    split at h <;> split at h
    · exact dir_of_pPut_file (dir_of_pPut_file (dir_of_pPut_file (dir_of_pDel h)))
    · exact dir_of_pPut_file (dir_of_pPut_file (dir_of_pDel h))
    · exact dir_of_pPut_file (dir_of_pPut_file (dir_of_pDel h))
    · exact dir_of_pPut_file (dir_of_pDel h)


/-! ### one job -/

/-- hypothesis on one source job: read only when the document strategy merges -/
def JobHyp (o : Opts) (sjob : Entries) : Prop :=
  o.docSync = .noSync ∨ o.docSync = .copy ∨
    (DocPatOk o ∧ NodupKeysObj (docOf Extracted.FN_JOB_DOCUMENT sjob))

theorem JobHyp.docHyp {o : Opts} {sjob : Entries} (h : JobHyp o sjob) :
    DocHyp o (docOf Extracted.FN_JOB_DOCUMENT sjob) :=
  h.imp_right (Or.imp_right And.right)

/-- a destination job directory in which `sync_jobs` from `sjob` has nothing to do -/
def JobStable (o : Opts) (sjob D : Entries) : Prop :=
  WalkQuiet o [] sjob D ∧
  SyncDocStable o Extracted.FN_JOB_DOCUMENT (docOf Extracted.FN_JOB_DOCUMENT sjob) D

theorem syncJobDirs_eq_of_walk_ok (o : Opts) (sjob djob : Entries)
    (h : (walkDir o [] (.dir sjob) djob).err = none) :
    syncJobDirs o sjob djob =
      syncDoc o Extracted.FN_JOB_DOCUMENT sjob
        ⟨(walkDir o [] (.dir sjob) djob).d, (walkDir o [] (.dir sjob) djob).log⟩ := by
  unfold syncJobDirs
  dsimp only
  rw [h]

theorem syncJobDirs_noop (o : Opts) (sjob D : Entries) (h : JobStable o sjob D) :
    (syncJobDirs o sjob D).d = D ∧ (syncJobDirs o sjob D).err = none := by
  rw [syncJobDirs_eq_of_walk_ok o sjob D h.1.noop.2, h.1.noop.1]
  exact syncDoc_noop o _ sjob D h.2 _

/-- after a successful real `sync_jobs` the destination job is stable: the walk's result is quiet,
    and the document merge, which leaves the names the walk looks at alone, keeps it quiet -/
theorem syncJobDirs_stable (o : Opts) (hdry : o.dry = false) (sjob djob : Entries)
    (hwf : WFEntries sjob) (H : JobHyp o sjob) (hok : (syncJobDirs o sjob djob).err = none) :
    JobStable o sjob (syncJobDirs o sjob djob).d := by
  have hwok := syncJobDirs_walk_ok o sjob djob hok
  have hq := walk_quiet o hdry sjob [] djob hwf hwok
  rw [syncJobDirs_eq_of_walk_ok o sjob djob hwok] at hok ⊢
  refine ⟨?_, syncDoc_stable o hdry _ sjob _ H.docHyp hok⟩
  rcases syncDoc_cases o Extracted.FN_JOB_DOCUMENT sjob
    ⟨(walkDir o [] (.dir sjob) djob).d, (walkDir o [] (.dir sjob) djob).log⟩ with ⟨-, e⟩ | ⟨h1, h2, hic, -⟩
  · rw [e]; exact hq
  · -- the document file and its backup, the only names the merge writes, are excluded from the walk
    obtain ⟨hp, -⟩ := (H.resolve_left h1).resolve_left h2
    refine hq.of_agree (fun n hx => getE_syncDoc_other o _ sjob _ n ?_ ?_)
      (fun n x h => getE_syncDoc_dir o _ sjob _ n x h) <;>
    · rintro rfl
      simp [excluded, hp.doc, hp.bak, hic] at hx

/-- **Idempotence of a whole job-level sync** (`sync_jobs` on two existing job directories: file
    walk, then document merge under backup) for every file strategy and every document strategy. -/
theorem syncJobDirs_idem (o : Opts) (hdry : o.dry = false) (sjob djob : Entries)
    (hwf : WFEntries sjob) (H : JobHyp o sjob) (hok : (syncJobDirs o sjob djob).err = none) :
    (syncJobDirs o sjob (syncJobDirs o sjob djob).d).d = (syncJobDirs o sjob djob).d ∧
    (syncJobDirs o sjob (syncJobDirs o sjob djob).d).err = none :=
  syncJobDirs_noop o sjob _ (syncJobDirs_stable o hdry sjob djob hwf H hok)


/-! ### a cloned job is stable -/

theorem docOf_cloneJob (o : Opts) (sjob : Entries) :
    docOf Extracted.FN_JOB_DOCUMENT (cloneJob o sjob) = docOf Extracted.FN_JOB_DOCUMENT sjob := by
  have hi : cloneIgnored o Extracted.FN_JOB_DOCUMENT = false := by simp [cloneIgnored]
  simp only [docOf, cloneJob, getE_copyTop, hi, Bool.false_eq_true, if_false]
  cases getE Extracted.FN_JOB_DOCUMENT sjob with
  | none => rfl
  | some c => cases c <;> rfl

theorem clone_stable (o : Opts) (sjob : Entries) (hwf : WFEntries sjob)
    (H : DocHyp o (docOf Extracted.FN_JOB_DOCUMENT sjob)) : JobStable o sjob (cloneJob o sjob) := by
  have hign : ∀ n, o.userExcl n = true → excluded o n = true := fun n h => by simp [excluded, h]
  refine ⟨.of_copy (getE_copyTop o.now _ o.userExcl · sjob) (fun n h => hign n ?_) hwf.nodup
    fun n sch hs => copy_quiet o o.userExcl hign sch _ (hwf.sub hs), H.imp_right (Or.imp_right fun hs => .inl ?_)⟩
  · simp only [cloneIgnored, Bool.and_eq_true] at h
    exact h.1.1
  · rw [docOf_cloneJob]
    exact pyEq_refl (.obj _) hs


/-! ### the loop over the jobs -/

/-- every selected source job of `l` is, in the workspace of `D`, a stable job directory or a
    plain file (which the loop skips) -/
def JobsStable (o : Opts) (l : List (Name × Node)) (D : Entries) : Prop :=
  ∀ id sjob, (id, Node.dir sjob) ∈ l → selected o id = true →
    (∃ djob, getE id (wsOf D) = some (.dir djob) ∧ JobStable o sjob djob) ∨
    (∃ m, getE id (wsOf D) = some (.file m))

theorem wsOf_of_getE {D ws : Entries} (h : getE WS D = some (.dir ws)) : wsOf D = ws := by
  simp [wsOf, h]

theorem syncJobs_noop (o : Opts) (D : Entries) (l : List (Name × Node)) :
    JobsStable o l D → ∀ lg, (syncJobs o l ⟨D, lg⟩).d = D ∧ (syncJobs o l ⟨D, lg⟩).err = none := by
  induction l with
  | nil => intro _ lg; exact ⟨rfl, rfl⟩
  | cons hd tl ih =>
    intro h lg
    obtain ⟨id, sn⟩ := hd
    have ih' := ih (fun id' sj hm => h id' sj (List.mem_cons_of_mem _ hm))
    rcases syncJobs_cons_all o id sn ⟨D, lg⟩ with ⟨-, e⟩ | ⟨sjob, ws, rfl, hws, hsel, hj, -⟩ |
      ⟨sjob, ws, djob, rfl, hws, hsel, hj, e⟩
    · rw [e]; exact ih' lg
    · -- a stable destination has every selected source job
      rcases h id sjob List.mem_cons_self hsel with ⟨_, hj', _⟩ | ⟨_, hj'⟩ <;>
        rw [wsOf_of_getE hws, hj] at hj' <;> cases hj'
    · rcases h id sjob List.mem_cons_self hsel with ⟨_, hj', hst⟩ | ⟨_, hj'⟩ <;>
        rw [wsOf_of_getE hws, hj] at hj' <;> cases hj'
      have hno := syncJobDirs_noop o sjob djob hst
      rw [e, hno.2]
      simp only [jobAcc, hno.1, setE_getE hj, setE_getE hws]
      exact ih' _

theorem syncJobs_no_ws (o : Opts) (l : List (Name × Node)) (a : Acc)
    (h : ∀ ws, getE WS a.d ≠ some (.dir ws)) : syncJobs o l a = ⟨a.d, a.log, none⟩ := by
  rw [syncJobs_eq, foldE_noop fun x _ => ?_]
  rcases syncJobs_cons_all o x.1 x.2 a with ⟨-, e⟩ | ⟨_, ws, -, hws, -⟩ | ⟨_, ws, _, -, hws, -⟩
  · exact jobStep_of_ok e
  · exact absurd hws (h ws)
  · exact absurd hws (h ws)

theorem wsOf_no_ws {D : Entries} (h : ∀ ws, getE WS D ≠ some (.dir ws)) : wsOf D = [] := by
  unfold wsOf
  cases hg : getE WS D with
  | none => rfl
  | some c =>
    cases c with
    | file m => rfl
    | dir ws => exact absurd hg (h ws)

theorem syncJobs_stable (o : Opts) (hdry : o.dry = false) (l : List (Name × Node)) :
    (names l).Nodup → (∀ id sjob, (id, Node.dir sjob) ∈ l → WFEntries sjob ∧ JobHyp o sjob) →
    ∀ a : Acc, (∃ ws, getE WS a.d = some (.dir ws)) → (syncJobs o l a).err = none →
    JobsStable o l (syncJobs o l a).d := by
  induction l with
  | nil => intro _ _ a _ _ id sjob hm; cases hm
  | cons hd tl ih =>
    intro hnd hH a hwsx hok
    obtain ⟨k, sn⟩ := hd
    have hk : k ∉ names tl := (List.nodup_cons.mp hnd).1
    have hno : ∀ sn, (k, sn) ∈ tl → selected o k = false :=
      fun sn hm => absurd (List.mem_map_of_mem (f := Prod.fst) hm) hk
    -- the tail, from whatever state the head leaves
    have tailOnly : ∀ a' : Acc, syncJobs o ((k, sn) :: tl) a = syncJobs o tl a' →
        (∃ ws', getE WS a'.d = some (.dir ws')) →
        (∀ sjob, sn = .dir sjob → selected o k = true →
          (∃ djob, getE k (wsOf a'.d) = some (.dir djob) ∧ JobStable o sjob djob) ∨
          (∃ m, getE k (wsOf a'.d) = some (.file m))) →
        JobsStable o ((k, sn) :: tl) (syncJobs o ((k, sn) :: tl) a).d := by
      intro a' e hws' hhead
      rw [e] at hok ⊢
      have ihh := ih (List.nodup_cons.mp hnd).2 (fun id sj hm => hH id sj (List.mem_cons_of_mem _ hm)) a' hws' hok
      intro id sjob hm hsel
      rcases List.mem_cons.mp hm with he | hm'
      · cases he
        rw [syncJobs_job_other o k tl hno a']
        exact hhead sjob rfl hsel
      · exact ihh id sjob hm' hsel
    rcases syncJobs_cons_all o k sn a with ⟨hskip, e⟩ | ⟨sjob, ws, rfl, hws, hsel, hj, -, e⟩ |
      ⟨sjob, ws, djob, rfl, hws, hsel, hj, e⟩
    · -- passed over: a plain file is in the way (the run is real)
      refine tailOnly a (e tl) hwsx fun sjob hsn hsel => ?_
      obtain ⟨ws, hws⟩ := hwsx
      rcases hskip sjob ws hsn hws hsel with ⟨-, hd⟩ | ⟨m, hj⟩
      · rw [hdry] at hd; cases hd
      · exact .inr ⟨m, by rw [wsOf_of_getE hws]; exact hj⟩
    · have hsk := hH k sjob List.mem_cons_self
      refine tailOnly _ (e tl) ⟨_, getE_setE_same _ _ _⟩ ?_
      rintro _ ⟨⟩ -
      exact .inl ⟨_, by simp only [jobAcc, wsOf_setE_WS, getE_setE_same], clone_stable o sjob hsk.1 hsk.2.docHyp⟩
    · have hsk := hH k sjob List.mem_cons_self
      rw [e tl] at hok
      cases he : (syncJobDirs o sjob djob).err with
      | some err => simp [he] at hok
      | none =>
        refine tailOnly _ (by rw [e tl, he]) ⟨_, getE_setE_same _ _ _⟩ ?_
        rintro _ ⟨⟩ -
        exact .inl ⟨_, by simp only [jobAcc, wsOf_setE_WS, getE_setE_same],
          syncJobDirs_stable o hdry sjob djob hsk.1 hsk.2 he⟩

/-! ### the project-level sync -/

/-- hypotheses on the source project: read only when the document strategy merges -/
def SyncHyp (o : Opts) (src : Entries) : Prop :=
  DocHyp o (docOf Extracted.FN_PROJECT_DOCUMENT src) ∧
  ∀ id sjob, getE id (wsOf src) = some (.dir sjob) → JobHyp o sjob

/-- A destination project in which `sync_projects` from `src` has nothing to do.  The model's job
    loop skips every job when the destination has no `workspace` directory (a case the code does
    not reach); that case is kept so that the statement needs no hypothesis on the destination. -/
def ProjStable (o : Opts) (src D : Entries) : Prop :=
  (o.checkSchema && o.gate) = false ∧
  SyncDocStable o Extracted.FN_PROJECT_DOCUMENT (docOf Extracted.FN_PROJECT_DOCUMENT src) D ∧
  ((∀ ws, getE WS D ≠ some (.dir ws)) ∨ JobsStable o (wsOf src) D)

theorem syncProjects_noop (o : Opts) (src D : Entries) (h : ProjStable o src D) :
    (syncProjects o src D).d = D ∧ (syncProjects o src D).err = none := by
  obtain ⟨hg, hdoc, hjobs⟩ := h
  have hd := syncDoc_noop o _ src D hdoc []
  unfold syncProjects
  simp only [hg, Bool.false_eq_true, if_false, hd.2, hd.1]
  rcases hjobs with hno | hst
  · rw [syncJobs_no_ws o _ ⟨D, _⟩ hno]; exact ⟨rfl, rfl⟩
  · exact syncJobs_noop o D _ hst _

theorem WFEntries_wsOf {src : Entries} (h : WFEntries src) : WFEntries (wsOf src) := by
  unfold wsOf
  cases hg : getE WS src with
  | none => simp [WFEntries]
  | some c =>
    cases c with
    | file m => simp [WFEntries]
    | dir js => exact h.sub hg

theorem syncProjects_stable (o : Opts) (hdry : o.dry = false) (src dst : Entries) (hwf : WFEntries src)
    (H : SyncHyp o src) (hok : (syncProjects o src dst).err = none) :
    ProjStable o src (syncProjects o src dst).d := by
  have hg : (o.checkSchema && o.gate) = false := by
    cases h : (o.checkSchema && o.gate) with
    | false => rfl
    | true => simp [syncProjects, h] at hok
  obtain ⟨hdok, e⟩ := syncProjects_ok o src dst hok
  rw [e] at hok ⊢
  have hws := WFEntries_wsOf hwf
  refine ⟨hg, (syncDoc_stable o hdry _ src ⟨dst, []⟩ H.1 hdok).congr
    (syncJobs_root_other o _ pdoc_ne_ws.symm _ _) (syncJobs_root_other o _ pdoc_bak_ne_ws.symm _ _), ?_⟩
  by_cases hx : ∃ ws, getE WS (syncDoc o Extracted.FN_PROJECT_DOCUMENT src ⟨dst, []⟩).d = some (.dir ws)
  · refine .inr (syncJobs_stable o hdry (wsOf src) hws.nodup (fun id sjob hm => ?_) _ hx hok)
    have hgj := getE_of_mem hws.nodup hm
    exact ⟨hws.sub hgj, H.2 id sjob hgj⟩
  · have hno : ∀ ws, getE WS (syncDoc o Extracted.FN_PROJECT_DOCUMENT src ⟨dst, []⟩).d ≠ some (.dir ws) :=
      fun ws h => hx ⟨ws, h⟩
    rw [syncJobs_no_ws o _ ⟨_, _⟩ hno]
    exact .inl hno

/-- **Idempotence of the project-level sync**: project document first, then the clone-or-sync
    loop over the selected source jobs. -/
theorem syncProjects_idem (o : Opts) (hdry : o.dry = false) (src dst : Entries) (hwf : WFEntries src)
    (H : SyncHyp o src) (hok : (syncProjects o src dst).err = none) :
    (syncProjects o src (syncProjects o src dst).d).d = (syncProjects o src dst).d ∧
    (syncProjects o src (syncProjects o src dst).d).err = none :=
  syncProjects_noop o src _ (syncProjects_stable o hdry src dst hwf H hok)

/-! ### `Job.sync` -/

theorem syncJobEntry_noop (o : Opts) (s d : Name) (c : Nat) (src D sjob ws dj : Entries)
    (hs : getE s (wsOf src) = some (.dir sjob)) (hws : getE WS D = some (.dir ws))
    (hj : getE d ws = some (.dir dj)) (hst : JobStable o sjob dj) :
    (syncJobEntry o s d c src D).d = D ∧ (syncJobEntry o s d c src D).err = none := by
  have hno := syncJobDirs_noop o sjob dj hst
  simp only [syncJobEntry, hs, hws, hj, hno.1, hno.2, setE_getE hj, setE_getE hws]
  exact ⟨trivial, trivial⟩

theorem syncJobEntry_idem (o : Opts) (hdry : o.dry = false) (s d : Name) (c : Nat) (src dst : Entries)
    (hwf : WFEntries src) (H : ∀ sjob, getE s (wsOf src) = some (.dir sjob) → JobHyp o sjob)
    (hok : (syncJobEntry o s d c src dst).err = none) :
    (syncJobEntry o s d c src (syncJobEntry o s d c src dst).d).d = (syncJobEntry o s d c src dst).d ∧
    (syncJobEntry o s d c src (syncJobEntry o s d c src dst).d).err = none := by
  -- when the first call changes nothing, the second is the same call
  have same : (syncJobEntry o s d c src dst).d = dst →
      (syncJobEntry o s d c src (syncJobEntry o s d c src dst).d).d = (syncJobEntry o s d c src dst).d ∧
      (syncJobEntry o s d c src (syncJobEntry o s d c src dst).d).err = none := by
    intro e
    rw [e]
    exact ⟨e, hok⟩
  -- when it synchronises into the job directory `d0`, the result is stable
  have synced : ∀ sjob ws d0 lg, getE s (wsOf src) = some (.dir sjob) →
      syncJobEntry o s d c src dst =
        ⟨setE WS (.dir (setE d (.dir (syncJobDirs o sjob d0).d) ws)) dst, lg, (syncJobDirs o sjob d0).err⟩ →
      (syncJobEntry o s d c src (syncJobEntry o s d c src dst).d).d = (syncJobEntry o s d c src dst).d ∧
      (syncJobEntry o s d c src (syncJobEntry o s d c src dst).d).err = none := by
    intro sjob ws d0 lg hs e
    rw [e] at hok ⊢
    exact syncJobEntry_noop o s d c src _ sjob _ _ hs (getE_setE_same _ _ _) (getE_setE_same _ _ _)
      (syncJobDirs_stable o hdry sjob _ ((WFEntries_wsOf hwf).sub hs) (H sjob hs) hok)
  cases hs : getE s (wsOf src) with
  | none => exact same (by simp [syncJobEntry, hs])
  | some sn =>
    cases sn with
    | file m => exact same (by simp [syncJobEntry, hs])
    | dir sjob =>
      cases hws : getE WS dst with
      | none => exact same (by simp [syncJobEntry, hs, hws])
      | some wsn =>
        cases wsn with
        | file m => exact same (by simp [syncJobEntry, hs, hws])
        | dir ws =>
          cases hj : getE d ws with
          | none =>
            exact synced sjob ws (initJob o.now c) _ hs
              (by simp only [syncJobEntry, hs, hws, hj, hdry, Bool.false_eq_true, if_false]; rfl)
          | some dn =>
            cases dn with
            | file m => exact same (by simp [syncJobEntry, hs, hws, hj])
            | dir djob => exact synced sjob ws djob _ hs (by simp only [syncJobEntry, hs, hws, hj]; rfl)

/-! ### every entry point -/

/-- **`sync_idempotent`, with its hypotheses**: after a successful real sync (project or job
    level, any file strategy, any document strategy, any key strategy, any tables), repeating the
    same call raises nothing and changes nothing. -/
theorem run_idem (o : Opts) (e : Entry) (w : World) (hwf : WFEntries w.src) (hdry : o.dry = false)
    (H : SyncHyp o w.src) (hok : (run o e w).err = none) :
    (run o e (w.after o e)).err = none ∧ (run o e (w.after o e)).d = (w.after o e).dst := by
  cases e with
  | project => exact (syncProjects_idem o hdry w.src w.dst hwf H hok).symm
  | job s d c => exact (syncJobEntry_idem o hdry s d c w.src w.dst hwf (fun sjob h => H.2 s sjob h) hok).symm

end Signac.Sync
