/-
  C06, corpus level: from a corpus of jobs (id, state point, optional document) to the documents
  `_build_index` yields, and back.  The only assumption on the data is that every mapping that
  sits inside a list has distinct keys (`Full.CorpusListsOK`); that all mappings do
  (`Full.CorpusKeysNodup`, true of every Python dict) and that lists hold no mappings at all
  (`CorpusFlat`) are special cases.
-/
import Signac.Proofs.QueryMain
import Signac.Proofs.QueryDoc
namespace Signac.Query
open Signac

/-! ### what is asked of the job data -/

mutual
  /-- job data in which lists hold no mappings (mappings may nest freely elsewhere) -/
  def dataFlat : JVal → Bool
    | .obj kvs => dataFlatKVs kvs
    | .arr xs => flatList xs
    | _ => true
  def dataFlatKVs : List (String × JVal) → Bool
    | [] => true
    | (_, v) :: rest => dataFlat v && dataFlatKVs rest
end

/-- the corpus' lists hold no mappings -/
def CorpusFlat (c : Corpus) : Prop := ∀ j ∈ c, dataFlat (fullDoc j) = true

namespace Full

mutual
  /-- job data in which every mapping that sits inside a list (at any depth) has distinct keys;
      mappings outside lists are only ever descended into, never compared, so nothing is asked of
      them.  Weaker than both `dataFlat` (no mappings in lists) and `keysOK`. -/
  def listsOK : JVal → Bool
    | .obj kvs => listsOKKVs kvs
    | .arr xs => keysOKList xs
    | _ => true
  def listsOKKVs : List (String × JVal) → Bool
    | [] => true
    | (_, v) :: rest => listsOK v && listsOKKVs rest
end

/-- Every mapping inside a list, anywhere in a job's state point and document, has pairwise
    distinct keys. -/
def CorpusListsOK (c : Corpus) : Prop := ∀ j ∈ c, listsOK (fullDoc j) = true

/-- Every mapping anywhere in a job's state point and document has pairwise distinct keys.
    This is an invariant of Python dicts (and of what `json.loads` returns), not a restriction on
    the data: it only excludes association lists of the model that no Python dict corresponds to. -/
def CorpusKeysNodup (c : Corpus) : Prop := ∀ j ∈ c, keysOK (fullDoc j) = true

theorem listsOK_lookup {kvs : List (String × JVal)} {n : String} {w : JVal} :
    listsOKKVs kvs = true → lookupKV n kvs = some w → listsOK w = true := by
  induction kvs with
  | nil => nofun
  | cons p rest ih =>
    obtain ⟨k, v⟩ := p
    intro hf h
    simp only [listsOKKVs, Bool.and_eq_true] at hf
    simp only [lookupKV] at h
    by_cases hk : n = k
    · rw [if_pos hk] at h; cases h; exact hf.1
    · rw [if_neg hk] at h; exact ih hf.2 h

theorem listsOK_getPath {nodes : List String} {d w : JVal} :
    listsOK d = true → getPath nodes d = some w → listsOK w = true :=
  getPath_preserves (Q := fun v => listsOK v = true) fun _ _ _ hf hl => listsOK_lookup hf hl

theorem okKey_of_listsOK {w : JVal} (h : listsOK w = true) : okKey (toIKey w) = true := by
  cases w with
  | arr xs => exact h
  | _ => rfl

mutual
  theorem listsOK_of_keysOK : ∀ (v : JVal), keysOK v = true → listsOK v = true
    | .null, _ => rfl
    | .bool _, _ => rfl
    | .int _, _ => rfl
    | .flt _ _ _, _ => rfl
    | .str _, _ => rfl
    | .arr xs, h => h
    | .obj kvs, h => by
      simp only [keysOK, Bool.and_eq_true] at h
      exact listsOKKVs_of_keysOK kvs h.2
  theorem listsOKKVs_of_keysOK : ∀ (kvs : List (String × JVal)), keysOKKVs kvs = true →
      listsOKKVs kvs = true
    | [], _ => rfl
    | (_, v) :: rest, h => by
      simp only [keysOKKVs, Bool.and_eq_true] at h
      simp only [listsOKKVs, Bool.and_eq_true]
      exact ⟨listsOK_of_keysOK v h.1, listsOKKVs_of_keysOK rest h.2⟩
end

mutual
  theorem listsOK_of_dataFlat : ∀ (v : JVal), dataFlat v = true → listsOK v = true
    | .null, _ => rfl
    | .bool _, _ => rfl
    | .int _, _ => rfl
    | .flt _ _ _, _ => rfl
    | .str _, _ => rfl
    | .arr xs, h => (keysOKList_iff xs).mpr (keysOK_of_flatList h)
    | .obj kvs, h => listsOKKVs_of_dataFlat kvs h
  theorem listsOKKVs_of_dataFlat : ∀ (kvs : List (String × JVal)), dataFlatKVs kvs = true →
      listsOKKVs kvs = true
    | [], _ => rfl
    | (_, v) :: rest, h => by
      simp only [dataFlatKVs, Bool.and_eq_true] at h
      simp only [listsOKKVs, Bool.and_eq_true]
      exact ⟨listsOK_of_dataFlat v h.1, listsOKKVs_of_dataFlat rest h.2⟩
end

theorem corpusListsOK_of_keysNodup {c : Corpus} (h : CorpusKeysNodup c) : CorpusListsOK c :=
  fun j hj => listsOK_of_keysOK _ (h j hj)

theorem corpusListsOK_of_flat {c : Corpus} (h : CorpusFlat c) : CorpusListsOK c :=
  fun j hj => listsOK_of_dataFlat _ (h j hj)

theorem listsOK_indexed {j : Job} (h : listsOK (fullDoc j) = true) (b : Bool) :
    listsOK (indexedDoc b j) = true := by
  cases b with
  | true => exact h
  | false =>
    cases hd : j.doc with
    | none => simpa [fullDoc, indexedDoc, hd] using h
    | some x =>
      simp only [fullDoc, indexedDoc, hd, listsOK, listsOKKVs, Bool.and_eq_true, Bool.and_true] at h ⊢
      exact h.1

end Full

/-! ### the indexed documents -/

theorem mem_indexedDocs {b : Bool} {c : Corpus} {i : JobId} {d : JVal} :
    (i, d) ∈ indexedDocs b c ↔ ∃ j ∈ c, j.id = i ∧ indexedDoc b j = d := by
  simp only [indexedDocs, List.mem_map, Prod.mk.injEq]

theorem Full.okAt_indexed {c : Corpus} (h : Full.CorpusListsOK c) (b : Bool) (nodes : List String) :
    Full.OkAt nodes (indexedDocs b c) := by
  intro i d w hd hw
  obtain ⟨j, hj, _, rfl⟩ := mem_indexedDocs.mp hd
  exact Full.okKey_of_listsOK (Full.listsOK_getPath (Full.listsOK_indexed (h j hj) b) hw)

theorem job_unique {c : Corpus} (h : (c.map (·.id)).Nodup) {j j' : Job} (hj : j ∈ c) (hj' : j' ∈ c)
    (he : j.id = j'.id) : j = j' := by
  induction c with
  | nil => cases hj
  | cons x xs ih =>
    simp only [List.map_cons, List.nodup_cons, List.mem_map, not_exists, not_and] at h
    rcases List.mem_cons.mp hj with e1 | m1
    · rcases List.mem_cons.mp hj' with e2 | m2
      · rw [e1, e2]
      · subst e1; exact absurd he.symm (h.1 j' m2)
    · rcases List.mem_cons.mp hj' with e2 | m2
      · subst e2; exact absurd he (h.1 j m1)
      · exact ih h.2 m1 m2

theorem uniqueIds_indexed {c : Corpus} (h : (c.map (·.id)).Nodup) (b : Bool) :
    UniqueIds (indexedDocs b c) := by
  intro i d d' hd hd'
  obtain ⟨j, hj, hji, rfl⟩ := mem_indexedDocs.mp hd
  obtain ⟨j', hj', hji', rfl⟩ := mem_indexedDocs.mp hd'
  rw [job_unique h hj hj' (hji.trans hji'.symm)]

/-! ### the clash-freeness hypothesis does not depend on whether documents are indexed -/

theorem typeStable_sp_only {c : Corpus} {n : String} {ns : List String} (hn : n ≠ "doc")
    (h : TypeStable (indexedDocs true c) (n :: ns)) : TypeStable (indexedDocs false c) (n :: ns) := by
  have key : ∀ j : Job, getPath (n :: ns) (indexedDoc false j) = getPath (n :: ns) (indexedDoc true j) := by
    intro j
    cases hd : j.doc with
    | none => simp only [indexedDoc, hd]
    | some x => simp only [indexedDoc, hd]; exact getPath_sp_only ns hn j.sp x
  intro i d w i' d' w' hd hd' hw hw' hs t
  obtain ⟨j, hj, hji, rfl⟩ := mem_indexedDocs.mp hd
  obtain ⟨j', hj', hji', rfl⟩ := mem_indexedDocs.mp hd'
  rw [key] at hw hw'
  exact h i _ w i' _ w' (mem_indexedDocs.mpr ⟨j, hj, hji, rfl⟩) (mem_indexedDocs.mpr ⟨j', hj', hji', rfl⟩)
    hw hw' hs t

theorem typeStable_atom_sp_only {c : Corpus} {k : String} (hk : rootOf k ≠ "doc") {nodes : List String}
    (ha : analyseKey k = .op nodes "$type") (h : TypeStable (indexedDocs true c) nodes) :
    TypeStable (indexedDocs false c) nodes := by
  rcases analyseKey_first k with ⟨n, hf, hroot⟩ | hbad
  · rw [ha] at hf
    cases nodes with
    | nil => simp [firstNode] at hf
    | cons m ms =>
      simp only [firstNode, Option.some.injEq] at hf
      subst hf
      refine typeStable_sp_only ?_ h
      rcases hroot with rfl | rfl
      · exact hk
      · decide
  · rw [hbad] at ha; cases ha

mutual
  theorem noClash_sp_only {c : Corpus} : ∀ f : Flt, ¬ "doc" ∈ rootKeys f →
      NoClash (indexedDocs true c) f → NoClash (indexedDocs false c) f
    | .mk atoms n a o, h, hc => by
      simp only [rootKeys, List.mem_append, not_or] at h
      obtain ⟨⟨⟨h1, h2⟩, h3⟩, h4⟩ := h
      obtain ⟨c1, c2, c3, c4⟩ := hc
      refine ⟨?_, noClashOpt_sp_only n h2 c2, noClashOptList_sp_only a h3 c3, noClashOptList_sp_only o h4 c4⟩
      intro kv hkv nodes ha
      obtain ⟨a', ha', hr⟩ := flatten_root atoms kv hkv
      refine typeStable_atom_sp_only ?_ ha (c1 kv hkv nodes ha)
      rw [hr]
      intro hd
      exact h1 (List.mem_map.mpr ⟨a', ha', hd⟩)
  theorem noClashOpt_sp_only {c : Corpus} : ∀ n : Option Flt, ¬ "doc" ∈ rootKeysOpt n →
      NoClashOpt (indexedDocs true c) n → NoClashOpt (indexedDocs false c) n
    | none, _, _ => trivial
    | some f, h, hc => noClash_sp_only f (by simpa [rootKeysOpt] using h) hc
  theorem noClashOptList_sp_only {c : Corpus} : ∀ a : Option (List Flt), ¬ "doc" ∈ rootKeysOptList a →
      NoClashOptList (indexedDocs true c) a → NoClashOptList (indexedDocs false c) a
    | none, _, _ => trivial
    | some fs, h, hc => noClashList_sp_only fs (by simpa [rootKeysOptList] using h) hc
  theorem noClashList_sp_only {c : Corpus} : ∀ fs : List Flt, ¬ "doc" ∈ rootKeysList fs →
      NoClashList (indexedDocs true c) fs → NoClashList (indexedDocs false c) fs
    | [], _, _ => trivial
    | f :: fs, h, hc => by
      simp only [rootKeysList, List.mem_append, not_or] at h
      exact ⟨noClash_sp_only f h.1 hc.1, noClashList_sp_only fs h.2 hc.2⟩
end

/-! ### exactness of `_find_job_ids` -/

/-- the filter is well-typed for the corpus: direct evaluation raises for no job, and not on a
    job without any data either (exceptions that do not depend on the jobs) -/
def WellTyped (P : Params) (c : Corpus) (f : Flt) : Prop :=
  (∀ j ∈ c, ∃ b, evalRef P (fullDoc j) f = .ok b) ∧ ∃ b, evalRef P (.obj []) f = .ok b

/-- F-6a excluded: no `$type` atom of the filter (at any depth) is applied to a key under which two
    jobs hold values of different Python type in one slot of the value index -/
def NoBoolIntClash (c : Corpus) (f : Flt) : Prop := NoClash (indexedDocs true c) f

namespace Full

/-- `Project._find_job_ids` for a split filter returns exactly the ids of the jobs whose own
    state point and document satisfy the filter under direct evaluation -/
theorem findFlt_exact_lists {P : Params} {c : Corpus} {f : Flt} (hids : (c.map (·.id)).Nodup)
    (hP : NearRespectsEq P) (hok : CorpusListsOK c) (hwt : WellTyped P c f)
    (hnc : NoBoolIntClash c f) :
    ∃ r, findFlt P c f = .ok r ∧
      ∀ i, i ∈ r ↔ ∃ j ∈ c, j.id = i ∧ evalRef P (fullDoc j) f = .ok true := by
  have hu := uniqueIds_indexed hids (includeDoc f)
  have hok := okAt_indexed hok (includeDoc f)
  have hw : WTon P (DocsAnd0 (indexedDocs (includeDoc f) c)) f := by
    rintro d (rfl | ⟨i, hd⟩)
    · exact hwt.2
    · obtain ⟨j, hj, _, rfl⟩ := mem_indexedDocs.mp hd
      rw [evalRef_indexed]; exact hwt.1 j hj
  have hn : NoClash (indexedDocs (includeDoc f) c) f := by
    cases hi : includeDoc f with
    | true => exact hnc
    | false => exact noClash_sp_only f (by simpa [includeDoc] using hi) hnc
  obtain ⟨r, hr, hsel⟩ := findResult_exact hu hP hok f hw hn
  refine ⟨r, hr, ?_⟩
  intro i
  rw [hsel i]
  constructor
  · rintro ⟨d, hd, he⟩
    obtain ⟨j, hj, hji, rfl⟩ := mem_indexedDocs.mp hd
    exact ⟨j, hj, hji, by rw [← evalRef_indexed]; exact he⟩
  · rintro ⟨j, hj, hji, he⟩
    exact ⟨_, mem_indexedDocs.mpr ⟨j, hj, hji, rfl⟩, by show evalRef P _ f = .ok true; rw [evalRef_indexed]; exact he⟩

theorem findFlt_mem_iff_lists {P : Params} {c : Corpus} {f : Flt} (hids : (c.map (·.id)).Nodup)
    (hP : NearRespectsEq P) (hok : CorpusListsOK c) (hwt : WellTyped P c f)
    (hnc : NoBoolIntClash c f) :
    ∃ r, findFlt P c f = .ok r ∧ (∀ i ∈ r, i ∈ c.map (·.id)) ∧
      ∀ j ∈ c, (j.id ∈ r ↔ evalRef P (fullDoc j) f = .ok true) := by
  obtain ⟨r, hr, h⟩ := findFlt_exact_lists hids hP hok hwt hnc
  refine ⟨r, hr, ?_, ?_⟩
  · intro i hi
    obtain ⟨j, hj, hji, _⟩ := (h i).mp hi
    exact List.mem_map.mpr ⟨j, hj, hji⟩
  · intro j hj
    rw [h j.id]
    constructor
    · rintro ⟨j', hj', he, hv⟩
      rw [job_unique hids hj hj' he.symm]; exact hv
    · intro hv; exact ⟨j, hj, rfl, hv⟩

end Full

/-- the three logical operators as filters of their own -/
def fNot (f : Flt) : Flt := .mk [] (some f) none none
def fAnd (f g : Flt) : Flt := .mk [] none (some [f, g]) none
def fOr (f g : Flt) : Flt := .mk [] none none (some [f, g])

theorem evalRef_fNot (P : Params) (d : JVal) (f : Flt) :
    evalRef P d (fNot f) = (match evalRef P d f with | .ok b => .ok (!b) | .error e => .error e) := by
  simp only [fNot, evalRef, flatten, evalAtoms, evalNot, evalAllOpt, evalAnyOpt]
  cases evalRef P d f <;> simp

theorem evalRef_fAnd (P : Params) (d : JVal) (f g : Flt) :
    evalRef P d (fAnd f g) = (match evalRef P d f, evalRef P d g with
      | .ok a, .ok b => .ok (a && b)
      | .error e, _ => .error e
      | .ok _, .error e => .error e) := by
  simp only [fAnd, evalRef, flatten, evalAtoms, evalNot, evalAllOpt, evalAnyOpt, evalAll]
  cases evalRef P d f <;> cases evalRef P d g <;> simp

theorem evalRef_fOr (P : Params) (d : JVal) (f g : Flt) :
    evalRef P d (fOr f g) = (match evalRef P d f, evalRef P d g with
      | .ok a, .ok b => .ok (a || b)
      | .error e, _ => .error e
      | .ok _, .error e => .error e) := by
  simp only [fOr, evalRef, flatten, evalAtoms, evalNot, evalAllOpt, evalAnyOpt, evalAny]
  cases evalRef P d f <;> cases evalRef P d g <;> simp

theorem wellTyped_fNot {P : Params} {c : Corpus} {f : Flt} (h : WellTyped P c (fNot f)) :
    WellTyped P c f := by
  constructor
  · intro j hj
    obtain ⟨b, hb⟩ := h.1 j hj
    rw [evalRef_fNot] at hb
    cases h1 : evalRef P (fullDoc j) f with
    | error e => rw [h1] at hb; cases hb
    | ok b1 => exact ⟨b1, rfl⟩
  · obtain ⟨b, hb⟩ := h.2
    rw [evalRef_fNot] at hb
    cases h1 : evalRef P (.obj []) f with
    | error e => rw [h1] at hb; cases hb
    | ok b1 => exact ⟨b1, rfl⟩

theorem ok_pair_of_match {x y : Except Err Bool} {g : Bool → Bool → Bool} {b : Bool}
    (h : (match x, y with
      | .ok a, .ok b => Except.ok (g a b)
      | .error e, _ => .error e
      | .ok _, .error e => .error e) = .ok b) : (∃ a, x = .ok a) ∧ (∃ a, y = .ok a) := by
  cases x with
  | error e => cases h
  | ok a => cases y with
    | error e => cases h
    | ok b' => exact ⟨⟨a, rfl⟩, ⟨b', rfl⟩⟩

theorem wellTyped_fAnd {P : Params} {c : Corpus} {f g : Flt} (h : WellTyped P c (fAnd f g)) :
    WellTyped P c f ∧ WellTyped P c g := by
  have key : ∀ d, (∃ b, evalRef P d (fAnd f g) = .ok b) →
      (∃ a, evalRef P d f = .ok a) ∧ (∃ a, evalRef P d g = .ok a) := by
    rintro d ⟨b, hb⟩
    rw [evalRef_fAnd] at hb
    exact ok_pair_of_match hb
  exact ⟨⟨fun j hj => (key _ (h.1 j hj)).1, (key _ h.2).1⟩, ⟨fun j hj => (key _ (h.1 j hj)).2, (key _ h.2).2⟩⟩

theorem wellTyped_fOr {P : Params} {c : Corpus} {f g : Flt} (h : WellTyped P c (fOr f g)) :
    WellTyped P c f ∧ WellTyped P c g := by
  have key : ∀ d, (∃ b, evalRef P d (fOr f g) = .ok b) →
      (∃ a, evalRef P d f = .ok a) ∧ (∃ a, evalRef P d g = .ok a) := by
    rintro d ⟨b, hb⟩
    rw [evalRef_fOr] at hb
    exact ok_pair_of_match hb
  exact ⟨⟨fun j hj => (key _ (h.1 j hj)).1, (key _ h.2).1⟩, ⟨fun j hj => (key _ (h.1 j hj)).2, (key _ h.2).2⟩⟩

/-! ### the logical operators on results -/

namespace Full
variable {P : Params} {c : Corpus} (hids : (c.map (·.id)).Nodup) (hP : NearRespectsEq P)
  (hok : CorpusListsOK c)
include hids hP hok

theorem find_local_lists {c' : Corpus} {f : Flt} {j : Job} (hj : j ∈ c) (hj' : j ∈ c')
    (hids' : (c'.map (·.id)).Nodup) (hok' : CorpusListsOK c')
    (hwt : WellTyped P c f) (hwt' : WellTyped P c' f)
    (hnc : NoBoolIntClash c f) (hnc' : NoBoolIntClash c' f) :
    ∃ r r', findFlt P c f = .ok r ∧ findFlt P c' f = .ok r' ∧ (j.id ∈ r ↔ j.id ∈ r') := by
  obtain ⟨r, hr, _, h⟩ := findFlt_mem_iff_lists hids hP hok hwt hnc
  obtain ⟨r', hr', _, h'⟩ := findFlt_mem_iff_lists hids' hP hok' hwt' hnc'
  exact ⟨r, r', hr, hr', by rw [h j hj, h' j hj']⟩

theorem not_compl_lists {f : Flt} (hwt : WellTyped P c (fNot f)) (hnc : NoBoolIntClash c (fNot f)) :
    ∃ rn rf, findFlt P c (fNot f) = .ok rn ∧ findFlt P c f = .ok rf ∧
      ∀ j ∈ c, (j.id ∈ rn ↔ j.id ∉ rf) := by
  obtain ⟨rn, hrn, _, hn⟩ := findFlt_mem_iff_lists hids hP hok hwt hnc
  have hwf := wellTyped_fNot hwt
  obtain ⟨rf, hrf, _, hf⟩ := findFlt_mem_iff_lists hids hP hok hwf hnc.2.1
  refine ⟨rn, rf, hrn, hrf, ?_⟩
  intro j hj
  rw [hn j hj, hf j hj, evalRef_fNot]
  obtain ⟨b, hb⟩ := hwf.1 j hj
  rw [hb]; cases b <;> simp

theorem and_inter_lists {f g : Flt} (hwt : WellTyped P c (fAnd f g)) (hnc : NoBoolIntClash c (fAnd f g)) :
    ∃ r rf rg, findFlt P c (fAnd f g) = .ok r ∧ findFlt P c f = .ok rf ∧ findFlt P c g = .ok rg ∧
      ∀ j ∈ c, (j.id ∈ r ↔ j.id ∈ rf ∧ j.id ∈ rg) := by
  obtain ⟨r, hr, _, h⟩ := findFlt_mem_iff_lists hids hP hok hwt hnc
  obtain ⟨hwf, hwg⟩ := wellTyped_fAnd hwt
  obtain ⟨rf, hrf, _, hf⟩ := findFlt_mem_iff_lists hids hP hok hwf hnc.2.2.1.1
  obtain ⟨rg, hrg, _, hg⟩ := findFlt_mem_iff_lists hids hP hok hwg hnc.2.2.1.2.1
  refine ⟨r, rf, rg, hr, hrf, hrg, ?_⟩
  intro j hj
  rw [h j hj, hf j hj, hg j hj, evalRef_fAnd]
  obtain ⟨a, ha⟩ := hwf.1 j hj
  obtain ⟨b, hb⟩ := hwg.1 j hj
  rw [ha, hb]; cases a <;> cases b <;> simp

theorem or_union_lists {f g : Flt} (hwt : WellTyped P c (fOr f g)) (hnc : NoBoolIntClash c (fOr f g)) :
    ∃ r rf rg, findFlt P c (fOr f g) = .ok r ∧ findFlt P c f = .ok rf ∧ findFlt P c g = .ok rg ∧
      ∀ j ∈ c, (j.id ∈ r ↔ j.id ∈ rf ∨ j.id ∈ rg) := by
  obtain ⟨r, hr, _, h⟩ := findFlt_mem_iff_lists hids hP hok hwt hnc
  obtain ⟨hwf, hwg⟩ := wellTyped_fOr hwt
  obtain ⟨rf, hrf, _, hf⟩ := findFlt_mem_iff_lists hids hP hok hwf hnc.2.2.2.1
  obtain ⟨rg, hrg, _, hg⟩ := findFlt_mem_iff_lists hids hP hok hwg hnc.2.2.2.2.1
  refine ⟨r, rf, rg, hr, hrf, hrg, ?_⟩
  intro j hj
  rw [h j hj, hf j hj, hg j hj, evalRef_fOr]
  obtain ⟨a, ha⟩ := hwf.1 j hj
  obtain ⟨b, hb⟩ := hwg.1 j hj
  rw [ha, hb]; cases a <;> cases b <;> simp

end Full

end Signac.Query
