/-
  Proofs/ViewChecks — what the checks of `create_linked_view` guarantee about an accepted
  link set (and hence: what makes it raise before any step).
-/
import Signac.Proofs.ViewSpec
namespace Signac.LV

theorem pathsUnique_iff (ps : List String) : pathsUnique ps = true ↔ ps.Nodup := by
  induction ps with
  | nil => simp [pathsUnique]
  | cons p ps ih => simp [pathsUnique, ih]

theorem keysUnique_iff (ks : List Path) : keysUnique ks = true ↔ ks.Nodup := by
  induction ks with
  | nil => simp [keysUnique]
  | cons k ks ih => simp [keysUnique, ih]

theorem mem_properPrefixes (p q : Path) :
    p ∈ properPrefixes q ↔ p ≠ [] ∧ properPrefix p q = true := by
  induction q generalizing p with
  | nil => simp [properPrefixes, properPrefix]
  | cons c rest ih =>
    cases p with
    | nil => cases rest <;> simp [properPrefixes]
    | cons x xs =>
      cases rest with
      | nil => simp [properPrefixes, properPrefix]
      | cons d r =>
        simp only [properPrefixes, List.mem_cons, List.mem_map, ih, properPrefix_cons, List.cons.injEq,
          ne_eq, reduceCtorEq, not_false_eq_true, true_and]
        constructor
        · rintro (⟨rfl, rfl⟩ | ⟨a, ⟨_, ha⟩, rfl, rfl⟩)
          · exact ⟨rfl, rfl⟩
          · exact ⟨rfl, ha⟩
        · rintro ⟨rfl, h⟩
          by_cases hx : xs = []
          · exact Or.inl ⟨rfl, hx⟩
          · exact Or.inr ⟨xs, ⟨hx, h⟩, rfl, rfl⟩

/-- the (order independent) leaf/node check: no non-empty path is a proper prefix of a path -/
theorem structureValid_iff (ks : List Path) :
    structureValid ks = true ↔ ∀ p ∈ ks, ∀ q ∈ ks, p ≠ [] → properPrefix p q = false := by
  simp only [structureValid, Bool.not_eq_true', List.any_eq_false, List.contains_eq_mem,
    decide_eq_true_eq, List.mem_flatMap, not_exists, not_and]
  constructor
  · intro h p hp q hq hne
    cases hpq : properPrefix p q with
    | false => rfl
    | true => exact absurd ((mem_properPrefixes p q).mpr ⟨hne, hpq⟩) (h p hp q hq)
  · intro h p hp q hq hm
    obtain ⟨hne, hpq⟩ := (mem_properPrefixes p q).mp hm
    rw [h p hp q hq hne] at hpq; cases hpq

theorem collectPaths_length (f : Job → FmtRes) (jobs : List Job) (ps : List String)
    (h : collectPaths f jobs = some (some ps)) : ps.length = jobs.length := by
  induction jobs generalizing ps with
  | nil => cases h; rfl
  | cons j js ih =>
    rw [collectPaths] at h
    split at h <;> try cases h
    split at h <;> cases h
    next ps' hc => rw [List.length_cons, List.length_cons, ih ps' hc]

theorem pathStrings_ok {jobs : List Job} {spec : PathSpec} {ps : List String}
    (hid : pathsUnique (jobs.map (·.id)) = true)
    (h : pathStrings jobs spec = some (.ok ps)) : ps.Nodup ∧ ps.length = jobs.length := by
  unfold pathStrings at h
  cases spec with
  | byId =>
    cases h
    exact ⟨(pathsUnique_iff _).mp hid, List.length_map _⟩
  | _ =>
    -- a path per job was collected and passed the uniqueness check
    simp only at h
    split at h <;> try cases h
    next ps' hc =>
    split at h <;> cases h
    next hu => exact ⟨(pathsUnique_iff _).mp hu, collectPaths_length _ _ _ hc⟩

/-- passing a check of the cascade `if bad then refuse else …` -/
theorem passed_check {c : Prop} [Decidable c] {a b r : LinkRes} (h : (if c then a else b) = r)
    (ha : a ≠ r) : ¬ c ∧ b = r := by
  by_cases hc : c
  · rw [if_pos hc] at h; exact absurd h ha
  · rw [if_neg hc] at h; exact ⟨hc, h⟩

/-- What an accepted input satisfies: no separator in top-level keys / string values, one path
    string per job, all different, the normalised link paths are pairwise different too, none
    leaves the prefix, none lies below another, and the link set pairs the i-th path with the
    i-th job. -/
theorem createLinks_ok {jobs : List Job} {spec : PathSpec} {L : List (Path × String)}
    (h : createLinks jobs spec = .ok L) :
    sepFree jobs = true ∧ ∃ ps, pathStrings jobs spec = some (.ok ps) ∧ ps.Nodup ∧
      ps.length = jobs.length ∧ (ps.map linkKey).Nodup ∧
      (∀ k ∈ ps.map linkKey, escapes k = false) ∧
      (∀ p ∈ ps.map linkKey, ∀ q ∈ ps.map linkKey, p ≠ [] → properPrefix p q = false) ∧
      L = (ps.map linkKey).zip (jobs.map (·.id)) := by
  unfold createLinks at h
  obtain ⟨hmod, h⟩ := passed_check h nofun
  obtain ⟨hsep, h⟩ := passed_check h nofun
  cases hp : pathStrings jobs spec with
  | none => rw [hp] at h; cases h
  | some r =>
    cases r with
    | error e => rw [hp] at h; cases h
    | ok ps =>
      rw [hp] at h
      obtain ⟨huniq, h⟩ := passed_check h nofun
      obtain ⟨hesc, h⟩ := passed_check h nofun
      obtain ⟨hstruct, h⟩ := passed_check h nofun
      simp only [Bool.or_eq_true, Bool.not_eq_true', not_or, Bool.not_eq_false, Bool.not_eq_true,
        List.any_eq_false] at hmod hsep huniq hesc hstruct
      obtain ⟨hnd, hlen⟩ := pathStrings_ok hmod.2 hp
      exact ⟨hsep, ps, rfl, hnd, hlen, (keysUnique_iff _).mp huniq, fun k hk => by simpa using hesc k hk,
        (structureValid_iff _).mp hstruct, (LinkRes.ok.inj h).symm⟩

theorem createView_not_ok {v : View} {jobs : List Job} {spec : PathSpec}
    (h : ∀ L, createLinks jobs spec ≠ .ok L) :
    (createView v jobs spec).1 = v ∧
      ((∃ e, (createView v jobs spec).2 = .rejected e) ∨ (createView v jobs spec).2 = .unmodelled) := by
  unfold createView
  cases hc : createLinks jobs spec with
  | ok L => exact absurd hc (h L)
  | reject e => exact ⟨rfl, Or.inl ⟨e, rfl⟩⟩
  | unmodelled => exact ⟨rfl, Or.inr rfl⟩

theorem sepFree_iff (jobs : List Job) :
    sepFree jobs = true ↔
      ∀ j ∈ jobs, ∀ kv ∈ j.sp, hasSep kv.1 = false ∧ ∀ s, kv.2 = .str s → hasSep s = false := by
  simp only [sepFree, Bool.not_eq_true', List.any_eq_false, jobHasSep, Bool.not_eq_true,
    Bool.or_eq_false_iff]
  refine forall₂_congr fun j _ => forall₂_congr fun kv _ => and_congr_right fun _ => ?_
  obtain ⟨k, w⟩ := kv
  cases w with
  | str s => simp
  | _ => exact ⟨fun _ _ => nofun, fun _ => rfl⟩

/-- An input the view can represent: no separator in top-level keys and string values, a path
    for every selected job, all paths different — also after normalisation —, no link path
    outside the prefix, no link path below another link path. -/
def Representable (jobs : List Job) (spec : PathSpec) : Prop :=
  (∀ j ∈ jobs, ∀ kv ∈ j.sp, hasSep kv.1 = false ∧ ∀ s, kv.2 = .str s → hasSep s = false) ∧
  ∃ ps, pathStrings jobs spec = some (.ok ps) ∧ ps.Nodup ∧ ps.length = jobs.length ∧
    (ps.map linkKey).Nodup ∧
    (∀ k ∈ ps.map linkKey, escapes k = false) ∧
    (∀ p ∈ ps.map linkKey, ∀ q ∈ ps.map linkKey, p ≠ [] → properPrefix p q = false)

theorem representable_of_ok {jobs : List Job} {spec : PathSpec} {L : List (Path × String)}
    (h : createLinks jobs spec = .ok L) : Representable jobs spec := by
  obtain ⟨h1, ps, h2, h3, h4, h5, h6, h7, _⟩ := createLinks_ok h
  exact ⟨(sepFree_iff jobs).mp h1, ps, h2, h3, h4, h5, h6, h7⟩

end Signac.LV
