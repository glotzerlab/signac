/-
  Path-level consequences of the level-local walk lemmas: what a whole `_sync_job_workspaces`
  run does to the node at an arbitrary relative path.  Core only.
-/
import Signac.Proofs.SyncWalk
namespace Signac.Sync

/-! ### well-formed directory trees: names are unique in every listing -/

mutual
  def WFNode : Node → Prop
    | .file _ => True
    | .dir es => WFEntries es
  def WFEntries : List (Name × Node) → Prop
    | [] => True
    | (n, c) :: tl => n ∉ names tl ∧ WFNode c ∧ WFEntries tl
end

theorem WFEntries.nodup {es : Entries} (h : WFEntries es) : (names es).Nodup := by
  induction es with
  | nil => exact List.nodup_nil
  | cons x tl ih =>
    obtain ⟨n, c⟩ := x
    simp only [WFEntries] at h
    exact List.nodup_cons.mpr ⟨h.1, ih h.2.2⟩

theorem WFEntries.mem {es : Entries} {x : Name × Node} (h : WFEntries es) (hx : x ∈ es) : WFNode x.2 := by
  induction es with
  | nil => cases hx
  | cons y tl ih =>
    obtain ⟨n, c⟩ := y
    simp only [WFEntries] at h
    rcases List.mem_cons.mp hx with rfl | hx'
    · exact h.2.1
    · exact ih h.2.2 hx'

theorem WFEntries.child {es : Entries} {n : Name} {c : Node} (hw : WFEntries es) (h : getE n es = some c) :
    WFNode c :=
  hw.mem (mem_of_getE h)

theorem WFEntries.sub {es ch : Entries} {n : Name} (hw : WFEntries es) (h : getE n es = some (.dir ch)) :
    WFEntries ch := by
  have := WFEntries.child hw h
  simpa [WFNode] using this


theorem getE_copyTop (now : Nat) (ignTop ign : Name → Bool) (k : Name) : ∀ es : Entries,
    getE k (copyTop now ignTop ign es) = if ignTop k then none else (getE k es).map (copyNode now ign) := by
  intro es
  induction es with
  | nil => simp [copyTop, getE]
  | cons x tl ih =>
    obtain ⟨n, c⟩ := x
    by_cases hn : n = k
    · subst hn
      cases hi : ignTop n <;> simp [copyTop, hi, ih, getE]
    · cases hi : ignTop n <;> simp [copyTop, hi, ih, getE, hn]

/-- below the top level `copytree` ignores what it ignores at the top -/
theorem copyTop_self (now : Nat) (ign : Name → Bool) (es : Entries) :
    copyTop now ign ign es = copyEntries now ign es := by
  induction es with
  | nil => simp only [copyTop, copyEntries]
  | cons x tl ih => simp only [copyTop, copyEntries, ih]

theorem getE_copyEntries (now : Nat) (ign : Name → Bool) (k : Name) : ∀ es : Entries,
    getE k (copyEntries now ign es) = if ign k then none else (getE k es).map (copyNode now ign) :=
  fun es => copyTop_self now ign es ▸ getE_copyTop now ign ign k es

/-- the file at `k :: q` survives a copy: no component of the path is ignored -/
inductive InCopy (ign : Name → Bool) : Entries → Name → Path → FMeta → Prop
  | file {es k m} : getE k es = some (.file m) → ign k = false → InCopy ign es k [] m
  | dir {es k ch k' q m} : getE k es = some (.dir ch) → ign k = false → InCopy ign ch k' q m →
      InCopy ign es k (k' :: q) m

theorem copy_lookup (now : Nat) (ign : Name → Bool) {es : Entries} {k : Name} {q : Path} {m : FMeta}
    (h : InCopy ign es k q m) : lookupP k q (copyEntries now ign es) = some (.file (touch now m)) := by
  induction h with
  | file h1 h2 => simp [lookupP, getE_copyEntries, h1, h2, copyNode]
  | dir h1 h2 _ ih => simp [lookupP, getE_copyEntries, h1, h2, copyNode, ih]

theorem lookupP_copy_cons (now : Nat) (ign : Name → Bool) (k k' : Name) (q : Path) (es : Entries) :
    lookupP k (k' :: q) (copyEntries now ign es) = none ∨
    ∃ ch, getE k es = some (.dir ch) ∧
      lookupP k (k' :: q) (copyEntries now ign es) = lookupP k' q (copyEntries now ign ch) := by
  simp only [lookupP]
  rw [getE_copyEntries]
  cases ign k with
  | true => exact .inl rfl
  | false =>
    cases hg : getE k es with
    | none => exact .inl rfl
    | some c =>
      cases c with
      | file m => exact .inl rfl
      | dir ch => exact .inr ⟨ch, rfl, rfl⟩

theorem copy_lookup_none (now : Nat) (ign : Name → Bool) : ∀ (q : Path) (k : Name) (es : Entries),
    lookupP k q es = none → lookupP k q (copyEntries now ign es) = none := by
  intro q
  induction q with
  | nil =>
    intro k es h
    simp only [lookupP] at h ⊢
    rw [getE_copyEntries, h]
    split <;> rfl
  | cons k' q ih =>
    intro k es h
    rcases lookupP_copy_cons now ign k k' q es with h' | ⟨ch, hg, h'⟩ <;> rw [h']
    simp only [lookupP, hg] at h
    exact ih k' ch h

/-- the last component of a non-empty path -/
def lastName : Name → Path → Name
  | n, [] => n
  | _, k :: q => lastName k q

theorem lastName_cons (n k : Name) (q : Path) : lastName n (k :: q) = lastName k q := rfl

theorem copy_lookup_ignored (now : Nat) (ign : Name → Bool) : ∀ (q : Path) (k : Name) (es : Entries),
    ign (lastName k q) = true → lookupP k q (copyEntries now ign es) = none := by
  intro q
  induction q with
  | nil =>
    intro k es h
    simp only [lookupP, getE_copyEntries, show ign k = true from h, if_true]
  | cons k' q ih =>
    intro k es h
    rcases lookupP_copy_cons now ign k k' q es with h' | ⟨ch, _, h'⟩ <;> rw [h']
    exact ih k' ch h

/-! ### one level, any name -/

theorem leftOnlyNode_cases (o : Opts) (n : Name) (sn : Node) :
    leftOnlyNode o n sn = none ∨ (∃ m, leftOnlyNode o n sn = some (.file m)) ∨
    ∃ es, sn = .dir es ∧ excluded o n = false ∧
      leftOnlyNode o n sn = some (.dir (copyEntries o.now (excluded o) es)) := by
  unfold leftOnlyNode
  cases hx : excluded o n with
  | true => exact .inl rfl
  | false =>
    cases sn with
    | file m => exact .inr (.inl ⟨_, rfl⟩)
    | dir es =>
      cases o.recursive with
      | false => exact .inl rfl
      | true => exact .inr (.inr ⟨es, rfl, rfl, rfl⟩)

/-- what one level of the walk leaves under the name `n`: the old node; for a name only the source
    has, what `leftOnlyNode` says; for a non-excluded file on both sides, the source file; for a
    directory on both sides, the result of its own walk -/
theorem walkDir_get_cases (o : Opts) (sub : Path) (ses des : Entries) (n : Name) (hnd : (names ses).Nodup) :
    getE n (walkDir o sub (.dir ses) des).d = getE n des
    ∨ (∃ sn, getE n ses = some sn ∧ getE n des = none ∧
        getE n (walkDir o sub (.dir ses) des).d = leftOnlyNode o n sn)
    ∨ (∃ ms md, getE n ses = some (.file ms) ∧ getE n des = some (.file md) ∧ excluded o n = false ∧
        getE n (walkDir o sub (.dir ses) des).d = some (.file (touch o.now ms)))
    ∨ (∃ sch dch, getE n ses = some (.dir sch) ∧ getE n des = some (.dir dch) ∧
        getE n (walkDir o sub (.dir ses) des).d = some (.dir (walkDir o (sub ++ [n]) (.dir sch) dch).d)) := by
  cases hs : getE n ses with
  | none => exact .inl (walkDir_get_absent o sub ses des n hnd hs)
  | some sn =>
    cases hd : getE n des with
    | none =>
      rw [walkDir_get_leftonly o sub ses des n sn hnd hs hd]
      cases o.dry
      · exact .inr (.inl ⟨sn, rfl, rfl, rfl⟩)
      · exact .inl rfl
    | some dn =>
      cases sn with
      | file ms =>
        cases dn with
        | file md =>
          rw [walkDir_get_of_subs o sub ses des n
            (fun a => walkSubs_get_kept o sub des n ses a hnd (.inr (by simp [hd])))]
          rcases phase2_get_cases o sub des n ses (phase1 o des ses ⟨des, []⟩) hnd with h | ⟨ms', md', hc, _, hg⟩
          · refine .inl (h.trans ?_)
            rw [phase1_get o des n ses hnd]
            simp [hs, hd]
          · obtain ⟨h1, _, _, hx⟩ := hc
            rw [hs] at h1; cases h1
            exact .inr (.inr (.inl ⟨ms, md, rfl, rfl, hx, hg⟩))
        | dir x => exact .inl (walkDir_get_clash o sub ses des n _ _ hnd hs hd (.inl ⟨ms, x, rfl, rfl⟩))
      | dir sch =>
        cases dn with
        | file md => exact .inl (walkDir_get_clash o sub ses des n _ _ hnd hs hd (.inr ⟨sch, md, rfl, rfl⟩))
        | dir dch =>
          rcases walkDir_get_common o sub ses des n sch dch hnd hs hd with ⟨h, _⟩ | ⟨_, h, _⟩
          · exact .inl h
          · exact .inr (.inr (.inr ⟨sch, dch, rfl, rfl, h⟩))

theorem walkDir_get_file_cases (o : Opts) (sub : Path) (ses des : Entries) (n : Name) (ms md : FMeta)
    (hnd : (names ses).Nodup) (hs : getE n ses = some (.file ms)) (hd : getE n des = some (.file md)) :
    getE n (walkDir o sub (.dir ses) des).d = some (.file md) ∨
    getE n (walkDir o sub (.dir ses) des).d = some (.file (touch o.now ms)) := by
  rcases walkDir_get_cases o sub ses des n hnd with h | ⟨_, _, h, _⟩ | ⟨ms', _, h1, _, _, h⟩ | ⟨_, _, h1, _⟩
  · exact .inl (h.trans hd)
  · rw [hd] at h; cases h
  · rw [hs] at h1; cases h1; exact .inr h
  · rw [hs] at h1; cases h1

/-! ### destination-only paths are untouched -/

/-- a path the source job does not have keeps its destination node (in any run, failed or not) -/
theorem walk_dst_only (o : Opts) : ∀ (p : Path) (n : Name) (sub : Path) (ses des : Entries),
    WFEntries ses → lookupP n p ses = none →
    lookupP n p (walkDir o sub (.dir ses) des).d = lookupP n p des := by
  intro p
  induction p with
  | nil => exact fun n sub ses des hw h => walkDir_get_absent o sub ses des n hw.nodup h
  | cons k q ih =>
    intro n sub ses des hw h
    rcases walkDir_get_cases o sub ses des n hw.nodup with h' | ⟨sn, hs, hd, h'⟩ | ⟨ms, md, _, hd, _, h'⟩ | ⟨sch, dch, hs, hd, h'⟩
    · exact lookupP_congr_head h' _
    · rw [lookupP_cons_none (es := des) (by simp [hd])]
      rcases leftOnlyNode_cases o n sn with hl | ⟨m, hl⟩ | ⟨es, rfl, _, hl⟩
      · exact lookupP_cons_none (by simp [h', hl]) _ _
      · exact lookupP_cons_none (by simp [h', hl]) _ _
      · rw [lookupP_cons_dir (h'.trans hl)]
        rw [lookupP_cons_dir hs] at h
        exact copy_lookup_none _ _ q k es h
    · rw [lookupP_cons_none (es := des) (by simp [hd])]
      exact lookupP_cons_none (by simp [h']) _ _
    · rw [lookupP_cons_dir h', lookupP_cons_dir hd]
      rw [lookupP_cons_dir hs] at h
      exact ih k (sub ++ [n]) sch dch (hw.sub hs) h

/-! ### excluded names are never created or modified -/

/-- a path whose last name is excluded and that is not a directory in the destination is left as
    it is: not created if it does not exist, not modified if it is a file -/
theorem walk_excluded (o : Opts) : ∀ (p : Path) (n : Name) (sub : Path) (ses des : Entries),
    WFEntries ses → excluded o (lastName n p) = true → (∀ x, lookupP n p des ≠ some (.dir x)) →
    lookupP n p (walkDir o sub (.dir ses) des).d = lookupP n p des := by
  intro p
  induction p with
  | nil =>
    intro n sub ses des hw hx hnd
    rcases walkDir_get_cases o sub ses des n hw.nodup with h' | ⟨sn, _, hd, h'⟩ | ⟨_, _, _, _, hx', _⟩ | ⟨_, dch, _, hd, _⟩
    · exact h'
    · rcases leftOnlyNode_cases o n sn with hl | ⟨m, hl⟩ | ⟨_, _, hx', _⟩
      · exact (h'.trans hl).trans hd.symm
      · simp [leftOnlyNode, show excluded o n = true from hx] at hl
      · rw [show excluded o n = true from hx] at hx'; cases hx'
    · rw [show excluded o n = true from hx] at hx'; cases hx'
    · exact absurd hd (hnd dch)
  | cons k q ih =>
    intro n sub ses des hw hx hnd
    rcases walkDir_get_cases o sub ses des n hw.nodup with h' | ⟨sn, _, hd, h'⟩ | ⟨ms, md, _, hd, _, h'⟩ | ⟨sch, dch, hs, hd, h'⟩
    · exact lookupP_congr_head h' _
    · rw [lookupP_cons_none (es := des) (by simp [hd])]
      rcases leftOnlyNode_cases o n sn with hl | ⟨m, hl⟩ | ⟨es, _, _, hl⟩
      · exact lookupP_cons_none (by simp [h', hl]) _ _
      · exact lookupP_cons_none (by simp [h', hl]) _ _
      · rw [lookupP_cons_dir (h'.trans hl)]
        exact copy_lookup_ignored _ _ q k es hx
    · rw [lookupP_cons_none (es := des) (by simp [hd])]
      exact lookupP_cons_none (by simp [h']) _ _
    · rw [lookupP_cons_dir h', lookupP_cons_dir hd]
      rw [lookupP_cons_dir hd] at hnd
      exact ih k (sub ++ [n]) sch dch (hw.sub hs) hx hnd

/-! ### reachable, non-excluded source files that were absent are present afterwards -/

/-- the source file `m` at `n :: p` is one the walk has to deliver: it is reached through
    directories common to both sides (only when recursive), the first name missing in the
    destination is not excluded, and below a missing directory nothing on the way is excluded -/
inductive Reach (o : Opts) : Entries → Entries → Name → Path → FMeta → Prop
  | top {ses des n m} : getE n ses = some (.file m) → getE n des = none → excluded o n = false →
      Reach o ses des n [] m
  | tree {ses des n sch k q m} : getE n ses = some (.dir sch) → getE n des = none →
      excluded o n = false → o.recursive = true → InCopy (excluded o) sch k q m →
      Reach o ses des n (k :: q) m
  | sub {ses des n sch dch k q m} : getE n ses = some (.dir sch) → getE n des = some (.dir dch) →
      o.recursive = true → Reach o sch dch k q m → Reach o ses des n (k :: q) m

theorem walk_files_present (o : Opts) (hdry : o.dry = false) {ses des : Entries} {n : Name} {p : Path}
    {m : FMeta} (hr : Reach o ses des n p m) :
    ∀ sub, WFEntries ses → (walkDir o sub (.dir ses) des).err = none →
    lookupP n p (walkDir o sub (.dir ses) des).d = some (.file (touch o.now m)) := by
  induction hr with
  | top hs hd hx =>
    intro sub hw _
    simp only [lookupP]
    rw [walkDir_get_leftonly o sub _ _ _ _ hw.nodup hs hd]
    simp [hdry, leftOnlyNode, hx]
  | tree hs hd hx hrec hin =>
    intro sub hw _
    simp only [lookupP]
    rw [walkDir_get_leftonly o sub _ _ _ _ hw.nodup hs hd]
    simp only [hdry, Bool.false_eq_true, if_false, leftOnlyNode, hx, hrec, if_true]
    exact copy_lookup o.now (excluded o) hin
  | sub hs hd hrec _ ih =>
    intro sub hw hok
    simp only [lookupP]
    obtain ⟨h', h2⟩ := walkDir_get_common_ok o sub _ _ _ _ _ hw.nodup hs hd hrec hok
    rw [h']
    exact ih _ (hw.sub hs) h2

/-! ### conflicting files: overwritten iff the strategy says so -/

/-- `n :: p` is a regular file on both sides, reached through directories common to both -/
inductive Both : Entries → Entries → Name → Path → FMeta → FMeta → Prop
  | top {ses des n ms md} : getE n ses = some (.file ms) → getE n des = some (.file md) →
      Both ses des n [] ms md
  | sub {ses des n sch dch k q ms md} : getE n ses = some (.dir sch) → getE n des = some (.dir dch) →
      Both sch dch k q ms md → Both ses des n (k :: q) ms md

theorem both_lookup {ses des : Entries} {n : Name} {p : Path} {ms md : FMeta}
    (hb : Both ses des n p ms md) : lookupP n p des = some (.file md) := by
  induction hb with
  | top _ hd => simpa [lookupP] using hd
  | sub _ hd _ ih => simp only [lookupP, hd]; exact ih

theorem walk_file_kept (o : Opts) {ses des : Entries} {n : Name} {p : Path} {ms md : FMeta}
    (hb : Both ses des n p ms md) :
    ∀ sub, WFEntries ses →
    ¬ (differs o.deep ms md = true ∧ excluded o (lastName n p) = false ∧
        verdict o (sub ++ n :: p) ms md = some true) →
    lookupP n p (walkDir o sub (.dir ses) des).d = some (.file md) := by
  induction hb with
  | top hs hd =>
    intro sub hw hk
    simp only [lookupP]
    exact walkDir_get_file_kept o sub _ _ _ _ _ hw.nodup hs hd (by simpa [lastName] using hk)
  | @sub ses des n sch dch k q ms md hs hd hb' ih =>
    intro sub hw hk
    simp only [lookupP]
    rcases walkDir_get_common o sub _ _ _ _ _ hw.nodup hs hd with ⟨h', _⟩ | ⟨_, h', _⟩
    · rw [h']
      -- the old directory: the file is where it was
      exact both_lookup hb'
    · rw [h']
      apply ih (sub ++ [n]) (hw.sub hs)
      simpa [lastName_cons, List.append_assoc] using hk

theorem walk_file_overwritten (o : Opts) (hdry : o.dry = false) {ses des : Entries} {n : Name} {p : Path}
    {ms md : FMeta} (hb : Both ses des n p ms md) :
    ∀ sub, WFEntries ses → (p ≠ [] → o.recursive = true) →
    differs o.deep ms md = true → excluded o (lastName n p) = false →
    verdict o (sub ++ n :: p) ms md = some true →
    (walkDir o sub (.dir ses) des).err = none →
    lookupP n p (walkDir o sub (.dir ses) des).d = some (.file (touch o.now ms)) := by
  induction hb with
  | top hs hd =>
    intro sub hw _ hdiff hx hv hok
    simp only [lookupP]
    exact walkDir_get_file_overwritten o sub _ _ _ _ _ hw.nodup hs hd hdiff (by simpa [lastName] using hx) hv hok hdry
  | @sub ses des n sch dch k q ms md hs hd _ ih =>
    intro sub hw hrec hdiff hx hv hok
    have hrec' : o.recursive = true := hrec (by simp)
    simp only [lookupP]
    obtain ⟨h', h2⟩ := walkDir_get_common_ok o sub _ _ _ _ _ hw.nodup hs hd hrec' hok
    rw [h']
    exact ih (sub ++ [n]) (hw.sub hs) (fun _ => hrec') hdiff (by simpa [lastName_cons] using hx)
      (by simpa [List.append_assoc] using hv) h2

theorem walk_conflict_fails (o : Opts) {ses des : Entries} {n : Name} {p : Path}
    {ms md : FMeta} (hb : Both ses des n p ms md) :
    ∀ sub, WFEntries ses → (p ≠ [] → o.recursive = true) →
    differs o.deep ms md = true → excluded o (lastName n p) = false →
    o.strategy = Strategy.none →
    (walkDir o sub (.dir ses) des).err ≠ none := by
  induction hb with
  | top hs hd =>
    intro sub hw _ hdiff hx hst
    obtain ⟨fn, h⟩ := walkDir_conflict_fails o sub _ _ _ _ _ hs hd hdiff (by simpa [lastName] using hx)
      ((verdict_none_iff o _ _ _).mpr hst)
    simp [h]
  | @sub ses des n sch dch k q ms md hs hd _ ih =>
    intro sub hw hrec hdiff hx hst hok
    have hrec' : o.recursive = true := hrec (by simp)
    exact ih (sub ++ [n]) (hw.sub hs) (fun _ => hrec') hdiff (by simpa [lastName_cons] using hx) hst
      (walkDir_get_common_ok o sub _ _ _ _ _ hw.nodup hs hd hrec' hok).2

end Signac.Sync
