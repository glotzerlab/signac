/-
  Basic lemmas for the lifecycle model: world updates; what each step does in a directory whose
  content is known (the equations of `apply`, stated once); the case rules for one step of `exec`;
  the generic invariant rule for programs (`exec_inv`: a predicate preserved by every step that
  occurs anywhere in a program, on any branch and under any event, holds of the outcome) and its
  instance for frames (`exec_frame`).
-/
import Signac.Lifecycle
namespace Signac.Life

variable {Sp : Type}

@[simp] theorem upd_same (w : World Sp) (k : Key) (v) : upd w k v k = v := if_pos rfl
theorem upd_other (w : World Sp) {k k' : Key} (v) (h : k' ≠ k) : upd w k v k' = w k' := if_neg h

@[simp] theorem upd_upd_same (w : World Sp) (k : Key) (a b : Option (JobDir Sp)) :
    upd (upd w k a) k b = upd w k b := by
  funext k'; simp only [upd]; split <;> rfl

theorem upd_comm (w : World Sp) {a b : Key} (h : a ≠ b) (u v : Option (JobDir Sp)) :
    upd (upd w a u) b v = upd (upd w b v) a u := by
  funext k'; simp only [upd]
  split
  · split
    · exact absurd (‹k' = a›.symm.trans ‹k' = b›) h
    · rfl
  · rfl

theorem upd_self (w : World Sp) (k : Key) (v : Option (JobDir Sp)) (h : w k = v) : upd w k v = w := by
  funext k'; simp only [upd]; split
  · subst_vars; rfl
  · rfl

theorem getStray_cons_self (n : String) (c : Content Sp) (l) : getStray n ((n, c) :: l) = some c := if_pos rfl
theorem setStray_cons_self (n : String) (c c' : Content Sp) (l) : setStray n c ((n, c') :: l) = (n, c) :: l :=
  if_pos rfl
theorem eraseStray_cons_self (n : String) (c : Content Sp) (l) : eraseStray n ((n, c) :: l) = l := if_pos rfl

theorem validAt_some (C : Codec Sp) {w : World Sp} {k : Key} {d : JobDir Sp} (h : w k = some d) :
    validAt C w k = d.valid C k.2 := by
  simp only [validAt, h]

theorem corruptAt_some (C : Codec Sp) {w : World Sp} {k : Key} {d : JobDir Sp} (h : w k = some d) :
    corruptAt C w k = !d.valid C k.2 := by
  simp only [corruptAt, h]

theorem not_valid_of_sp_none (C : Codec Sp) (w : World Sp) (k : Key) (d : JobDir Sp) (h : w k = some d)
    (hs : d.sp = none) : validAt C w k = false := by
  simp only [validAt_some C h, JobDir.valid, hs]

theorem corrupt_of_not_valid (C : Codec Sp) (w : World Sp) (k : Key) (d : JobDir Sp) (h : w k = some d)
    (hv : validAt C w k = false) : corruptAt C w k = true := by
  rw [validAt_some C h] at hv
  simp only [corruptAt_some C h, hv, Bool.not_false]

theorem corrupt_of_sp_none (C : Codec Sp) (w : World Sp) (k : Key) (d : JobDir Sp) (h : w k = some d)
    (hs : d.sp = none) : corruptAt C w k = true :=
  corrupt_of_not_valid C w k d h (not_valid_of_sp_none C w k d h hs)

/-- validity looks at the state-point file only -/
theorem validAt_of_sp_eq (C : Codec Sp) {w w' : World Sp} {k : Key} {d d' : JobDir Sp}
    (hw : w k = some d) (hw' : w' k = some d') (hsp : d'.sp = d.sp) :
    validAt C w' k = validAt C w k := by
  simp only [validAt_some C hw, validAt_some C hw', JobDir.valid, hsp]

theorem valid_of_sp_ok (C : Codec Sp) {w : World Sp} {k : Key} {d : JobDir Sp} {v : Sp} (hw : w k = some d)
    (hsp : d.sp = some (.ok v)) (hv : C.hash v = k.2) : validAt C w k = true := by
  simp only [validAt_some C hw, JobDir.valid, hsp, Content.validFor, hv, beq_self_eq_true]

theorem NoENOENT.ne_of_fault {ev : Nat → Option Ev} (h : NoENOENT ev) {n : Nat} {e : Errno}
    (he : ev n = some (.fault e)) : e ≠ .ENOENT := fun h' => h n (h' ▸ he)

section
variable (C : Codec Sp) {w : World Sp} {k : Key}

theorem apply_mkdir (h : w k = none) : apply C w (.mkdir k) = .ok (upd w k (some {})) := by
  simp only [apply, h]

theorem apply_cpMkdir_root (h : w k = none) : apply C w (.cpMkdir k "") = .ok (upd w k (some {})) := by
  simp only [apply, h, if_true]

theorem apply_cpMkdir_exists {d : JobDir Sp} (h : w k = some d) : apply C w (.cpMkdir k "") = .error .EEXIST := by
  simp only [apply, h, if_true]

variable {d : JobDir Sp} (h : w k = some d)
include h

theorem apply_tmpOpen (n : String) :
    apply C w (.tmpOpen k n) = .ok (upd w k (some { d with strays := (n, .junk "") :: d.strays })) := by
  simp only [apply, h]

theorem apply_tmpWrite (n : String) (c : Content Sp) :
    apply C w (.tmpWrite k n c) = .ok (upd w k (some { d with strays := setStray n c d.strays })) := by
  simp only [apply, h]

theorem apply_tmpCommit_sp {c : Content Sp} (hs : getStray spName d.strays = some c) :
    apply C w (.tmpCommit k spName) =
      .ok (upd w k (some { d with sp := some c, strays := eraseStray spName d.strays })) := by
  simp only [apply, h, hs, if_true]

theorem apply_spToBak {c : Content Sp} (hs : d.sp = some c) :
    apply C w (.spToBak k) = .ok (upd w k (some { d with sp := none, bak := some c })) := by
  simp only [apply, h, hs]

theorem apply_bakToSp {c : Content Sp} (hb : d.bak = some c) :
    apply C w (.bakToSp k) = .ok (upd w k (some { d with sp := some c, bak := none })) := by
  simp only [apply, h, hb]

theorem apply_rmBak {c : Content Sp} (hb : d.bak = some c) :
    apply C w (.rmBak k) = .ok (upd w k (some { d with bak := none })) := by
  simp only [apply, h, hb]

theorem apply_rmBak_none (hb : d.bak = none) : apply C w (.rmBak k) = .error .ENOENT := by
  simp only [apply, h, hb]

theorem apply_rmSp_none (hs : d.sp = none) : apply C w (.rmSp k) = .error .ENOENT := by
  simp only [apply, h, hs]

theorem apply_rmItem {r : Ref} (hr : hasItem d r = true) :
    apply C w (.rmItem k r) = .ok (upd w k (some (dropItem d r))) := by
  simp only [apply, h, hr, if_true]

theorem apply_cpMkdir {p : String} (hp : p ≠ "") :
    apply C w (.cpMkdir k p) = .ok (upd w k (some (putItem C d (.dir p) (.junk "")))) := by
  simp only [apply, h, hp, if_false]

theorem apply_cpOpen (r : Ref) : apply C w (.cpOpen k r) = .ok (upd w k (some (putItem C d r (.junk "")))) := by
  simp only [apply, h]

theorem apply_cpWrite (r : Ref) (c : Content Sp) :
    apply C w (.cpWrite k r c) = .ok (upd w k (some (putItem C d r c))) := by
  simp only [apply, h]

omit h in
theorem apply_renameDir_ok {a b : Key} {w' : World Sp} (h : apply C w (.renameDir a b) = .ok w') :
    ∃ d, w a = some d ∧ DstFree w b ∧ w' = upd (upd w b (some d)) a none := by
  simp only [apply] at h
  split at h
  · cases h
  · rename_i d hd
    split at h
    · cases h; exact ⟨d, hd, .inl ‹_›, rfl⟩
    · split at h <;> cases h
      exact ⟨d, hd, .inr ⟨_, ‹_›, ‹_›⟩, rfl⟩

theorem apply_renameDir_err {b : Key} {e : Errno} (he : apply C w (.renameDir k b) = .error e) :
    e = .ENOTEMPTY := by
  simp only [apply, h] at he
  split at he
  · cases he
  · split at he <;> cases he; rfl

theorem apply_renameDir_free {b : Key} (hb : DstFree w b) :
    apply C w (.renameDir k b) = .ok (upd (upd w b (some d)) k none) := by
  rcases hb with hb | ⟨d', hb, he⟩
  · simp only [apply, h, hb]
  · simp only [apply, h, hb, he, if_true]

theorem apply_renameDir_taken {b : Key} {d' : JobDir Sp} (hb : w b = some d') (he : d'.isEmpty = false) :
    apply C w (.renameDir k b) = .error .ENOTEMPTY := by
  simp only [apply, h, hb, he, Bool.false_eq_true, if_false]

end

theorem exec_step_none (C : Codec Sp) (ev : Nat → Option Ev) (s : Step Sp) (k : Option Errno → Prog Sp)
    (a : Acc Sp) (w : World Sp) (h : ev a.n = none) :
    exec C ev (.step s k) a w =
      match apply C w s with
      | .ok w' => exec C ev (k none) (a.ok s) w'
      | .error e => exec C ev (k (some e)) (a.ok s) w := by
  rw [exec]; simp only [h]
  cases apply C w s <;> rfl

theorem exec_step_some (C : Codec Sp) (ev : Nat → Option Ev) (s : Step Sp) (k : Option Errno → Prog Sp)
    (a : Acc Sp) (w : World Sp) (e : Ev) (h : ev a.n = some e) :
    exec C ev (.step s k) a w =
      match e with
      | .crash => ⟨w, .crashed, a⟩
      | .torn t => ⟨tornApply C w s t, .crashed, a⟩
      | .fault e => exec C ev (k (some e)) (a.flt s) w := by
  rw [exec]; simp only [h]
  cases e <;> rfl

theorem exec_none_ok (C : Codec Sp) {ev : Nat → Option Ev} {s : Step Sp} {k : Option Errno → Prog Sp}
    {a : Acc Sp} {w w' : World Sp} (hev : ev a.n = none) (h : apply C w s = .ok w') :
    exec C ev (.step s k) a w = exec C ev (k none) (a.ok s) w' := by
  rw [exec_step_none C ev s k a w hev, h]

theorem exec_none_err (C : Codec Sp) {ev : Nat → Option Ev} {s : Step Sp} {k : Option Errno → Prog Sp}
    {a : Acc Sp} {w : World Sp} {e : Errno} (hev : ev a.n = none) (h : apply C w s = .error e) :
    exec C ev (.step s k) a w = exec C ev (k (some e)) (a.ok s) w := by
  rw [exec_step_none C ev s k a w hev, h]

theorem exec_fault (C : Codec Sp) {ev : Nat → Option Ev} {s : Step Sp} {k : Option Errno → Prog Sp}
    {a : Acc Sp} {w : World Sp} {e : Errno} (hev : ev a.n = some (.fault e)) :
    exec C ev (.step s k) a w = exec C ev (k (some e)) (a.flt s) w :=
  exec_step_some C ev s k a w _ hev

/-- case rule: what has to be shown of the five things that can happen to a step -/
theorem exec_step (C : Codec Sp) (ev : Nat → Option Ev) (Q : Outcome Sp → Prop) (s : Step Sp)
    (k : Option Errno → Prog Sp) (a : Acc Sp) (w : World Sp)
    (hcrash : Q ⟨w, .crashed, a⟩)
    (htorn : ∀ t, Q ⟨tornApply C w s t, .crashed, a⟩)
    (hfault : ∀ e, ev a.n = some (.fault e) → Q (exec C ev (k (some e)) (a.flt s) w))
    (hok : ∀ w', apply C w s = .ok w' → Q (exec C ev (k none) (a.ok s) w'))
    (herr : ∀ e, apply C w s = .error e → Q (exec C ev (k (some e)) (a.ok s) w)) :
    Q (exec C ev (.step s k) a w) := by
  cases hev : ev a.n with
  | none =>
    rw [exec_step_none C ev s k a w hev]
    cases happ : apply C w s with
    | ok w' => exact hok w' happ
    | error e => exact herr e happ
  | some e =>
    rw [exec_step_some C ev s k a w e hev]
    cases e with
    | crash => exact hcrash
    | torn t => exact htorn t
    | fault e => exact hfault e hev

/-- … for a step whose own outcome is known -/
theorem exec_step_ok (C : Codec Sp) (ev : Nat → Option Ev) (Q : Outcome Sp → Prop) {s : Step Sp}
    {k : Option Errno → Prog Sp} {a : Acc Sp} {w w' : World Sp} (happ : apply C w s = .ok w')
    (hcrash : Q ⟨w, .crashed, a⟩)
    (htorn : ∀ t, Q ⟨tornApply C w s t, .crashed, a⟩)
    (hfault : ∀ e, ev a.n = some (.fault e) → Q (exec C ev (k (some e)) (a.flt s) w))
    (hok : Q (exec C ev (k none) (a.ok s) w')) : Q (exec C ev (.step s k) a w) :=
  exec_step C ev Q s k a w hcrash htorn hfault (fun _ h1 => Except.ok.inj (happ.symm.trans h1) ▸ hok)
    (fun _ h1 => nomatch happ.symm.trans h1)

/-- … when an injected failure and a failure of the step itself are treated alike -/
theorem exec_step_raise (C : Codec Sp) (ev : Nat → Option Ev) (Q : Outcome Sp → Prop) (s : Step Sp)
    (k : Option Errno → Prog Sp) (a : Acc Sp) (w : World Sp)
    (hcrash : Q ⟨w, .crashed, a⟩)
    (htorn : ∀ t, Q ⟨tornApply C w s t, .crashed, a⟩)
    (herr : ∀ e a', Q (exec C ev (k (some e)) a' w))
    (hok : ∀ w', apply C w s = .ok w' → Q (exec C ev (k none) (a.ok s) w')) :
    Q (exec C ev (.step s k) a w) :=
  exec_step C ev Q s k a w hcrash htorn (fun e _ => herr e _) hok (fun e _ => herr e _)

theorem Res.exc_of_ne {r : Res} (h1 : r ≠ .ok) (h2 : r ≠ .crashed) : ∃ n, r = .exc n := by
  cases r with
  | ok => exact absurd rfl h1
  | crashed => exact absurd rfl h2
  | exc n => exact ⟨n, rfl⟩

/-- a normal return consumed no fault since the bookkeeping `a` -/
def OkClean (a : Acc Sp) (o : Outcome Sp) : Prop := o.res = .ok → o.acc.faulted = a.faulted

theorem OkClean.of_not_ok {a : Acc Sp} {o : Outcome Sp} (h : o.res ≠ .ok) : OkClean a o := fun h' => absurd h' h

theorem OkClean.not_ok_of_faulted {o : Outcome Sp} (h : OkClean {} o) (hf : o.faulted = true) : o.res ≠ .ok :=
  fun hok => Bool.noConfusion ((h hok).symm.trans hf)

/-- the one argument behind every `OkClean` fact: a death is no normal return; an injected fault takes
    the error continuation, which must not return normally; the step's own two outcomes remain -/
theorem OkClean.step (C : Codec Sp) (ev : Nat → Option Ev) {s : Step Sp} {k : Option Errno → Prog Sp} {a : Acc Sp}
    {w : World Sp} (hfault : ∀ e, ev a.n = some (.fault e) → (exec C ev (k (some e)) (a.flt s) w).res ≠ .ok)
    (hok : ∀ w', apply C w s = .ok w' → OkClean a (exec C ev (k none) (a.ok s) w'))
    (herr : ∀ e, apply C w s = .error e → OkClean a (exec C ev (k (some e)) (a.ok s) w)) :
    OkClean a (exec C ev (.step s k) a w) :=
  exec_step C ev (OkClean a) s k a w Res.noConfusion (fun _ => Res.noConfusion)
    (fun e he => .of_not_ok (hfault e he)) hok herr

/-- the error handling that reads only ENOENT as "not there": any other errno is raised -/
theorem raises_of_ne_ENOENT (C : Codec Sp) (ev : Nat → Option Ev) {e : Errno} (p : Prog Sp) (a : Acc Sp) (w : World Sp)
    (he : e ≠ .ENOENT) : (exec C ev (if e = .ENOENT then p else .done (osExc e)) a w).res ≠ .ok := by
  rw [if_neg he]; exact Res.noConfusion

theorem exec_ite (C : Codec Sp) (ev : Nat → Option Ev) (Q : Outcome Sp → Prop) {c : Prop} {_ : Decidable c}
    (p q : Prog Sp) (a : Acc Sp) (w : World Sp) (hp : c → Q (exec C ev p a w)) (hq : ¬ c → Q (exec C ev q a w)) :
    Q (exec C ev (if c then p else q) a w) := by
  split
  · exact hp ‹_›
  · exact hq ‹_›

/-- `φ` holds of every step occurring anywhere in the program -/
inductive Prog.All (φ : Step Sp → Prop) : Prog Sp → Prop
  | done (r : Res) : Prog.All φ (.done r)
  | look (f : World Sp → Prog Sp) : (∀ w, Prog.All φ (f w)) → Prog.All φ (.look f)
  | step (s : Step Sp) (k : Option Errno → Prog Sp) : φ s → (∀ o, Prog.All φ (k o)) → Prog.All φ (.step s k)

theorem Prog.All.ite {φ : Step Sp → Prop} {c : Prop} {_ : Decidable c} {p q : Prog Sp}
    (hp : Prog.All φ p) (hq : Prog.All φ q) : Prog.All φ (if c then p else q) := by
  split <;> assumption

theorem Prog.All.step' {φ : Step Sp → Prop} {s : Step Sp} {k : Option Errno → Prog Sp} (hs : φ s)
    (h0 : Prog.All φ (k none)) (he : ∀ e, Prog.All φ (k (some e))) : Prog.All φ (.step s k) :=
  .step s k hs fun | none => h0 | some e => he e

theorem Prog.All.mono {φ ψ : Step Sp → Prop} (h : ∀ s, φ s → ψ s) {p : Prog Sp} (hp : Prog.All φ p) :
    Prog.All ψ p := by
  induction hp with
  | done r => exact .done r
  | look f _ ih => exact .look f ih
  | step s k hs _ ih => exact .step s k (h s hs) ih

theorem seqProg_all {φ : Step Sp → Prop} {onErr : Errno → Prog Sp} {next : Prog Sp}
    (he : ∀ e, Prog.All φ (onErr e)) (hn : Prog.All φ next) :
    ∀ ss : List (Step Sp), (∀ s ∈ ss, φ s) → Prog.All φ (seqProg onErr next ss)
  | [], _ => hn
  | s :: ss, h =>
    .step' (h s List.mem_cons_self) (seqProg_all he hn ss fun s' hs' => h s' (List.mem_cons_of_mem _ hs')) he

/-- How the world invariants of the programs are proved: a class `φ` of steps (`RmOnly`, `ClearLike`,
    `CpLike`), a predicate `R` on worlds, one lemma that `φ`-steps keep `R` and one that their torn
    writes do, and `Prog.All φ` of the program. -/
theorem exec_inv (C : Codec Sp) (ev : Nat → Option Ev) (φ : Step Sp → Prop) (R : World Sp → Prop)
    (hstep : ∀ s w w', φ s → R w → apply C w s = .ok w' → R w')
    (htorn : ∀ s w t, φ s → R w → R (tornApply C w s t))
    {p : Prog Sp} (hp : Prog.All φ p) : ∀ a w, R w → R (exec C ev p a w).w := by
  induction hp with
  | done r => exact fun a w h => h
  | look f _ ih => exact fun a w h => ih w a w h
  | step s k hs _ ih =>
    intro a w h
    exact exec_step C ev (fun o => R o.w) s k a w h (fun t => htorn s w t hs h) (fun _ _ => ih _ _ _ h)
      (fun w' hw' => ih _ _ _ (hstep s w w' hs h hw')) (fun _ _ => ih _ _ _ h)

/-- the directories a step can modify -/
def Step.keys : Step Sp → List Key
  | .renameDir a b => [a, b]
  | .mkdir k | .tmpOpen k _ | .tmpWrite k _ _ | .tmpCommit k _ | .spToBak k | .bakToSp k | .rmBak k | .rmSp k
  | .rmItem k _ | .rmJobDir k | .cpMkdir k _ | .cpOpen k _ | .cpWrite k _ _ => [k]

/-- every successful branch of `apply` is an `upd` at the step's key (`renameDir`: at both) -/
theorem apply_frame (C : Codec Sp) {w w' : World Sp} {s : Step Sp} (h : apply C w s = .ok w')
    {k : Key} (hk : k ∉ s.keys) : w' k = w k := by
  unfold apply at h
  split at h <;> (repeat' split at h) <;> cases h <;>
    first
    | exact upd_other _ _ (List.ne_of_not_mem_cons hk)
    | exact (upd_other _ _ (List.ne_of_not_mem_cons hk)).trans
        (upd_other _ _ (List.ne_of_not_mem_cons (List.not_mem_of_not_mem_cons hk)))

theorem torn_frame (C : Codec Sp) (w : World Sp) (s : Step Sp) (t : Nat) {k : Key} (hk : k ∉ s.keys) :
    tornApply C w s t k = w k := by
  unfold tornApply
  split
  case' h_1 k' _ _ | h_2 k' _ _ => cases w k'
  all_goals first | rfl | exact upd_other _ _ (List.ne_of_not_mem_cons hk)

abbrev Within (ks : List Key) : Step Sp → Prop := fun s => ∀ k ∈ s.keys, k ∈ ks

theorem within_one {ks : List Key} {k : Key} (h : k ∈ ks) : ∀ k' ∈ [k], k' ∈ ks :=
  fun _ hk' => List.mem_singleton.mp hk' ▸ h

theorem within_two {ks : List Key} {a b : Key} (ha : a ∈ ks) (hb : b ∈ ks) : ∀ k' ∈ [a, b], k' ∈ ks := by
  intro k' hk'
  rcases List.mem_cons.mp hk' with rfl | hk'
  · exact ha
  · exact within_one hb k' hk'

/-- frame rule: a program all of whose steps stay inside `ks` leaves every other directory alone,
    whatever happens -/
theorem exec_frame (C : Codec Sp) (ev : Nat → Option Ev) (ks : List Key) {p : Prog Sp}
    (hp : Prog.All (Within ks) p) (w : World Sp) (a) {k : Key} (hk : k ∉ ks) :
    (exec C ev p a w).w k = w k := by
  refine exec_inv C ev _ (fun w' => w' k = w k) ?_ ?_ hp a w rfl
  · intro s w1 w2 hs h1 h2
    rw [apply_frame C h2 (fun hmem => hk (hs k hmem))]; exact h1
  · intro s w1 t hs h1
    rw [torn_frame C w1 s t (fun hmem => hk (hs k hmem))]; exact h1

end Signac.Life
