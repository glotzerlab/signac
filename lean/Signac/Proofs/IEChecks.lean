/-
  C16, strings and paths: split / join are inverse; the two export checks
  (`_check_path_function_unique`, repaired `_check_directory_structure_validity`) accept only
  injective, component-wise prefix-free path lists; when `_export_jobs` accepts (`exportPaths_eq_ok_iff`).
-/
import Signac.ImportExport
import Signac.Proofs.IEProps
namespace Signac.IE
open Signac

theorem splitC_ne_nil (sep : Char) (s : List Char) : splitC sep s ≠ [] := by
  cases s with
  | nil => exact List.cons_ne_nil _ _
  | cons c cs =>
    rw [splitC]
    split
    · exact List.cons_ne_nil _ _
    · split <;> exact List.cons_ne_nil _ _

theorem joinC_splitC (sep : Char) (s : List Char) : joinC sep (splitC sep s) = s := by
  induction s with
  | nil => rfl
  | cons c cs ih =>
    simp only [splitC]
    cases hX : splitC sep cs with
    | nil => exact absurd hX (splitC_ne_nil sep cs)
    | cons h t =>
      rw [hX] at ih
      split
      · rename_i hc
        simp only [joinC, List.nil_append, ih, hc]
      · cases t <;> simp only [joinC, List.cons_append, ← ih]

theorem splitC_no_sep (sep : Char) : ∀ (s : List Char), sep ∉ s → splitC sep s = [s]
  | [], _ => rfl
  | c :: cs, h => by
    rw [splitC, if_neg fun hx : c = sep => h (hx ▸ List.mem_cons_self),
      splitC_no_sep sep cs fun hx => h (List.mem_cons_of_mem _ hx)]

theorem joinC_append (sep : Char) {b r : List (List Char)} (hb : b ≠ []) (hr : r ≠ []) :
    joinC sep (b ++ r) = joinC sep b ++ sep :: joinC sep r := by
  induction b with
  | nil => exact absurd rfl hb
  | cons x xs ih =>
    cases xs with
    | nil =>
      cases r with
      | nil => exact absurd rfl hr
      | cons y ys => rfl
    | cons x' xs' =>
      rw [List.cons_append, List.cons_append, joinC, ← List.cons_append, ih (List.cons_ne_nil _ _), joinC,
        List.append_assoc, List.cons_append]

theorem joinC_prefix (sep : Char) (b r : List (List Char)) : joinC sep b <+: joinC sep (b ++ r) := by
  by_cases hb : b = []
  · exact hb ▸ List.nil_prefix
  · by_cases hr : r = []
    · rw [hr, List.append_nil]
      exact List.prefix_refl _
    · rw [joinC_append sep hb hr]
      exact List.prefix_append _ _

theorem joinC_length_lt (sep : Char) (b : List (List Char)) (hb : b ≠ []) (c : List Char) (r : List (List Char)) :
    (joinC sep b).length < (joinC sep (b ++ c :: r)).length := by
  rw [joinC_append sep hb (List.cons_ne_nil c r), List.length_append, List.length_cons]
  exact Nat.lt_add_of_pos_right (Nat.succ_pos _)

theorem joinSlash_splitSlash (s : String) : joinSlash (splitSlash s) = s := by
  simp only [joinSlash, splitSlash, joinWithChar, splitOnChar, List.map_map]
  have : (String.toList ∘ String.ofList) = (id : List Char → List Char) :=
    funext fun l => String.toList_ofList
  rw [this, List.map_id, joinC_splitC, String.ofList_toList]

theorem splitSlash_injective {a b : String} (h : splitSlash a = splitSlash b) : a = b := by
  rw [← joinSlash_splitSlash a, ← joinSlash_splitSlash b, h]

theorem splitSlash_ne_nil (s : String) : splitSlash s ≠ [] :=
  fun h => splitC_ne_nil '/' s.toList (List.map_eq_nil_iff.mp h)

theorem mem_subDirsOf {s f : Comps} : s ∈ subDirsOf f ↔ s ≠ [] ∧ s <+: f ∧ s ≠ f := by
  simp only [subDirsOf, List.mem_map, List.mem_range]
  constructor
  · rintro ⟨i, hi, rfl⟩
    have hi' : i + 1 < f.length := Nat.add_lt_of_lt_sub hi
    have hlen : (f.take (i + 1)).length = i + 1 := List.length_take_of_le (Nat.le_of_lt hi')
    exact ⟨List.ne_nil_of_length_eq_add_one hlen, List.take_prefix _ _,
      fun h => Nat.ne_of_lt hi' (hlen.symm.trans (congrArg List.length h))⟩
  · rintro ⟨h0, hp, hne⟩
    cases s with
    | nil => exact absurd rfl h0
    | cons a t =>
      have hlt : t.length + 1 < f.length :=
        Nat.lt_of_le_of_ne hp.length_le fun h => hne (hp.eq_of_length h)
      exact ⟨t.length, Nat.lt_sub_of_add_lt hlt, (List.prefix_iff_eq_take.mp hp).symm⟩

theorem properPrefixes_eq (dst : String) :
    properPrefixes dst = (subDirsOf (splitSlash dst)).map joinSlash :=
  (List.map_map ..).symm

theorem mem_properPrefixes {a b : String} (hp : splitSlash a <+: splitSlash b)
    (hne : a ≠ b) : a ∈ properPrefixes b := by
  rw [properPrefixes_eq]
  exact List.mem_map.mpr ⟨_, mem_subDirsOf.mpr
    ⟨splitSlash_ne_nil a, hp, fun h => hne (splitSlash_injective h)⟩, joinSlash_splitSlash a⟩

theorem idsNodup_iff : ∀ l : List String, idsNodup l = true ↔ l.Nodup
  | [] => ⟨fun _ => List.nodup_nil, fun _ => rfl⟩
  | x :: xs => by
    rw [idsNodup, Bool.and_eq_true, List.nodup_cons, idsNodup_iff xs, Bool.not_eq_true', ← Bool.not_eq_true,
      List.contains_iff_mem]

/-- `_check_path_function_unique` is the duplicate test the importers use on ids -/
theorem checkUnique_eq : ∀ ps : List String, checkUnique ps = idsNodup ps
  | [] => rfl
  | p :: ps => by rw [checkUnique, idsNodup, checkUnique_eq ps]

theorem checkUnique_nodup (ps : List String) (h : checkUnique ps = true) : ps.Nodup :=
  (idsNodup_iff ps).mp (checkUnique_eq ps ▸ h)

theorem checks_sound (ps : List String) (hu : checkUnique ps = true) (hl : checkLeafNode ps = true) :
    PrefixFree (ps.map splitSlash) := by
  rw [checkLeafNode, List.all_eq_true] at hl
  have hnot : ∀ a ∈ ps, ∀ b ∈ ps, a ≠ b → ¬ splitSlash a <+: splitSlash b := by
    intro a ha b hb hne hp
    have := hl a ha
    rw [List.contains_iff_mem.mpr (List.mem_flatMap.mpr ⟨b, hb, mem_properPrefixes hp hne⟩)] at this
    cases this
  rw [PrefixFree, List.pairwise_map]
  exact (checkUnique_nodup ps hu).imp_of_mem fun ha hb hne =>
    ⟨hnot _ ha _ hb hne, hnot _ hb _ ha (Ne.symm hne)⟩

/-- `_export_jobs` gets as far as copying iff the path function succeeds and both rounds of checks pass -/
theorem exportPaths_eq_ok_iff {spec : PathSpec} {jobs : List (String × JVal)} {ps : List String} :
    exportPaths spec jobs = .ok ps ↔
      rawPaths spec jobs = .ok ps ∧ (specChecksUnique spec && !checkUnique ps) = false
        ∧ checkNormalized (ps.map normpath) = true := by
  rw [exportPaths]
  cases rawPaths spec jobs with
  | error e => exact ⟨fun h => (nomatch h), fun h => (nomatch h.1)⟩
  | ok ps' =>
    dsimp only
    by_cases h1 : (specChecksUnique spec && !checkUnique ps') = true
    · rw [if_pos h1]
      exact ⟨fun h => (nomatch h), fun ⟨h, h', _⟩ => by cases h; rw [h1] at h'; cases h'⟩
    · rw [if_neg h1]
      cases h2 : checkNormalized (ps'.map normpath)
      · exact ⟨fun h => (nomatch h), fun ⟨h, _, h'⟩ => by cases h; rw [h2] at h'; cases h'⟩
      · exact ⟨fun h => by cases h; exact ⟨rfl, Bool.of_not_eq_true h1, h2⟩, fun h => h.1 ▸ rfl⟩

end Signac.IE
