/-
  Proofs/ConcTrans — the actor machine on its own.  `HeadOk`: which operation a program counter
  belongs to.  `Edge` is the control-flow graph inside an operation, `Exit` the ways an operation
  completes, `Move` = exception | edge | exit, and every `resume` is a `Move` (`resume_move`): the
  invariants of the later files are facts about edges and exits.  (The actor invariant of `ConcInv`
  is not among them: it needs the answer the file system actually gives, not the possible ones.)
  Last, what a document load reads (`docNow`, `tr_dload`).
-/
import Signac.Proofs.ConcInv
namespace Signac.Conc
variable {SP DV : Type} {hash : SP → JobId}

/-- the operation in progress loads the document of `open_job(v)`: `doc[k] = x` or `doc()` -/
def docFor (v : SP) (s : List (Op SP DV)) : Prop :=
  (∃ k x r, s = .docSet v k x :: r) ∨ (∃ r, s = .docGet v :: r)

/-- the operation in progress is the whole-document assignment `open_job(v).doc = d` -/
def asgFor (v : SP) (s : List (Op SP DV)) : Prop :=
  ∃ d r, s = .docAssign v d :: r

/-- the operation in progress is one on `open_job(v)` -/
def jobOp (v : SP) (s : List (Op SP DV)) : Prop :=
  docFor v s ∨ (∃ r, s = .init v :: r) ∨ asgFor v s

/-- the operation in progress (head of the script) fits the program counter -/
def HeadOk (hash : SP → JobId) : Phase SP DV → List (Op SP DV) → Prop
  | .fin, _ => True
  | .proj _, s => ∃ r, s = .project :: r
  | .len, s => ∃ r, s = .len :: r
  | .lite v, s => docFor v s ∨ asgFor v s
  | .dload v, s => docFor v s
  | .ini _ v, s => jobOp v s
  | .save _ i .sp c, s => ∃ v, c = .spc v ∧ hash v = i ∧ jobOp v s
  | .save _ i .doc c, s => (∃ v k x r, s = .docSet v k x :: r ∧ hash v = i) ∨
      (∃ v d r, s = .docAssign v d :: r ∧ hash v = i ∧ c = .docc d)

theorem HeadOk.headFits {p : Phase SP DV} {s : List (Op SP DV)} (h : HeadOk hash p s) :
    headFits p s = true := by
  cases p with
  | lite v => rcases h with (⟨_, _, _, rfl⟩ | ⟨_, rfl⟩) | ⟨_, _, rfl⟩ <;> rfl
  | dload v => rcases h with ⟨_, _, _, rfl⟩ | ⟨_, rfl⟩ <;> rfl
  | _ => rfl

theorem headOk_start (sc : List (Op SP DV)) :
    HeadOk hash (AState.start sc).phase (AState.start sc).script := ⟨sc, rfl⟩

theorem headOk_finishOp (st : AState SP DV) : HeadOk hash (finishOp st).phase (finishOp st).script := by
  unfold finishOp startNext
  split
  · trivial
  · rename_i op rest heq
    cases op with
    | project => exact ⟨rest, heq⟩
    | len => exact ⟨rest, heq⟩
    | init v => exact Or.inr (Or.inl ⟨rest, heq⟩)
    | docSet v k x => exact Or.inl (Or.inl ⟨k, x, rest, heq⟩)
    | docGet v => exact Or.inl (Or.inr ⟨rest, heq⟩)
    | docAssign v d => exact Or.inr ⟨d, rest, heq⟩

theorem finishOp_script (st : AState SP DV) : (finishOp st).script = st.script.tail := by
  simp only [finishOp, startNext]; split <;> rfl

theorem finishOp_out (st : AState SP DV) : (finishOp st).out = st.out := by
  simp only [finishOp, startNext]; split <;> rfl


/-- what a document load makes of the primitive's answer: the content, the empty document if there
    is no file, an error otherwise -/
def docOf : Res SP DV → Option (Doc DV)
  | .data (.docc d) => some d
  | .err .enoent => some []
  | _ => none

/-- The control-flow graph inside an operation: with `s` on the script, the answer `r` can take the
    program counter from `p` to `q`.  Only the edge out of a document load depends on `r`. -/
inductive Edge (hash : SP → JobId) (s : List (Op SP DV)) (r : Res SP DV) :
    Phase SP DV → Phase SP DV → Prop
  | proj1 : Edge hash s r (.proj .isdir1) (.proj .isdir2)
  | proj2 : Edge hash s r (.proj .isdir2) (.proj .mkdir)
  | projMk : Edge hash s r (.proj .mkdir) (.proj .isdir3)
  | noDir v : Edge hash s r (.lite v) (.ini .load1 v)
  | dirLoad v : (∀ w d t, s ≠ .docAssign w d :: t) → Edge hash s r (.lite v) (.dload v)
  | dirAssign v w d t : s = .docAssign w d :: t →
      Edge hash s r (.lite v) (.save .openw (hash v) .doc (.docc d))
  | load1 v : Edge hash s r (.ini .load1 v) (.ini .isdir v)
  | isdirT v : Edge hash s r (.ini .isdir v) (.ini .isfile v)
  | isdirF v : Edge hash s r (.ini .isdir v) (.ini .existsWs v)
  | existsWs v : Edge hash s r (.ini .existsWs v) (.ini .mkdir v)
  | mkdirOk v : Edge hash s r (.ini .mkdir v) (.ini .isfile v)
  | mkdirOld v : Edge hash s r (.ini .mkdir v) (.ini .isdir2 v)
  | isdir2 v : Edge hash s r (.ini .isdir2 v) (.ini .isfile v)
  | isfileT v : Edge hash s r (.ini .isfile v) (.ini .load2 v)
  | isfileF v : Edge hash s r (.ini .isfile v) (.save .openw (hash v) .sp (.spc v))
  | initLoad n v : n = .load1 ∨ n = .load2 → loadHead s = true → Edge hash s r (.ini n v) (.dload v)
  | initAssign n v w d t : n = .load1 ∨ n = .load2 → s = .docAssign w d :: t →
      Edge hash s r (.ini n v) (.save .openw (hash v) .doc (.docc d))
  | openw i k c : Edge hash s r (.save .openw i k c) (.save .write i k c)
  | write i k c : Edge hash s r (.save .write i k c) (.save .close i k c)
  | close i k c : Edge hash s r (.save .close i k c) (.save .rename i k c)
  | renameSp i v : Edge hash s r (.save .rename i .sp (.spc v)) (.ini .load2 v)
  | loaded v w k x t d : s = .docSet w k x :: t → docOf r = some d →
      Edge hash s r (.dload v) (.save .openw (hash v) .doc (.docc (setKV d k x)))

/-- The operation in progress completes with answer `r`; `o` is what the caller has been handed
    back so far, this operation included. -/
inductive Exit (hash : SP → JobId) (r : Res SP DV) (st : AState SP DV) : List (Obs SP DV) → Prop
  | proj n : st.phase = .proj n → Exit hash r st st.out
  | init n v w : st.phase = .ini n v → n = .load1 ∨ n = .load2 → r = .data (.spc w) →
      docHead st.script = false → Exit hash r st st.out
  | saved i c : st.phase = .save .rename i .doc c → Exit hash r st st.out
  | doc v w t d : st.phase = .dload v → st.script = .docGet w :: t → docOf r = some d →
      Exit hash r st (.doc d :: st.out)
  | len l : st.phase = .len → r = .names l → Exit hash r st (.count l.length :: st.out)

/-- what `resume` can do to an actor that has not finished: an exception, an edge of the
    control-flow graph, or the completion of the operation in progress -/
inductive Move (hash : SP → JobId) (r : Res SP DV) (st : AState SP DV) : AState SP DV → Prop
  | fail w : Move hash r st (st.fail w)
  | goto q : Edge hash st.script r st.phase q → Move hash r st (st.goto q)
  | exit o : Exit hash r st o → Move hash r st (finishOp { st with out := o })

section
variable {st : AState SP DV} {r : Res SP DV}

theorem Move.edge {p q : Phase SP DV} (hp : st.phase = p) (e : Edge hash st.script r p q) :
    Move hash r st (st.goto q) := .goto _ (hp ▸ e)

theorem afterInit_move {n : IniPc} {v w : SP} (hph : st.phase = .ini n v)
    (hn : n = .load1 ∨ n = .load2) (hr : r = .data (.spc w)) : Move hash r st (afterInit hash st v) := by
  unfold afterInit
  split
  · next hs => exact .edge hph (.initLoad n v hn (by rw [hs]; rfl))
  · next hs => exact .edge hph (.initLoad n v hn (by rw [hs]; rfl))
  · next hs => exact .edge hph (.initAssign n v _ _ _ hn hs)
  · next h1 h2 h3 =>
    refine .exit _ (.init n v w hph hn hr ?_)
    cases hs : st.script with
    | nil => rfl
    | cons op t =>
      cases op <;> first
        | rfl | exact absurd hs (h1 _ _ _ _) | exact absurd hs (h2 _ _) | exact absurd hs (h3 _ _ _)

theorem docStart_move {v : SP} (hph : st.phase = .lite v) : Move hash r st (docStart hash st v) := by
  unfold docStart
  split
  · next hs => exact .edge hph (.dirAssign v _ _ _ hs)
  · next h => exact .edge hph (.dirLoad v h)

theorem resumeDload_move {v : SP} {d : Doc DV} (hph : st.phase = .dload v) (hr : docOf r = some d) :
    Move hash r st (resumeDload hash st v d) := by
  unfold resumeDload
  split
  · next hs => exact .edge hph (.loaded v _ _ _ _ d hs hr)
  · next hs => exact .exit _ (.doc v _ _ d hph hs hr)
  · exact .fail _

theorem resumeProj_move {n : ProjPc} (hph : st.phase = .proj n) : Move hash r st (resumeProj st n r) := by
  have done : Move hash r st (finishOp st) := .exit _ (.proj n hph)
  cases n with
  | isdir1 => cases r with
    | bool b => cases b with
      | true => exact done
      | false => exact .edge hph .proj1
    | _ => exact .edge hph .proj1
  | isdir2 => cases r with
    | bool b => cases b with
      | true => exact done
      | false => exact .edge hph .proj2
    | _ => exact .edge hph .proj2
  | mkdir => cases r with
    | ok => exact done
    | err e => cases e with
      | eexist => exact .edge hph .projMk
      | _ => exact .fail _
    | _ => exact .fail _
  | isdir3 => cases r with
    | bool b => cases b with
      | true => exact done
      | false => exact .fail _
    | _ => exact .fail _

theorem resumeIni_move {n : IniPc} {v : SP} (hph : st.phase = .ini n v) :
    Move hash r st (resumeIni hash st n v r) := by
  cases n with
  | load1 => cases r with
    | data c => cases c with
      | spc w => simp only [resumeIni]; split
                 · exact afterInit_move hph (.inl rfl) rfl
                 · exact .edge hph (.load1 v)
      | _ => exact .edge hph (.load1 v)
    | _ => exact .edge hph (.load1 v)
  | isdir => cases r with
    | bool b => cases b with
      | true => exact .edge hph (.isdirT v)
      | false => exact .edge hph (.isdirF v)
    | _ => exact .edge hph (.isdirF v)
  | existsWs => cases r with
    | bool b => cases b with
      | true => exact .edge hph (.existsWs v)
      | false => exact .fail _
    | _ => exact .fail _
  | mkdir => cases r with
    | ok => exact .edge hph (.mkdirOk v)
    | err e => cases e with
      | eexist => exact .edge hph (.mkdirOld v)
      | _ => exact .fail _
    | _ => exact .fail _
  | isdir2 => cases r with
    | bool b => cases b with
      | true => exact .edge hph (.isdir2 v)
      | false => exact .fail _
    | _ => exact .fail _
  | isfile => cases r with
    | bool b => cases b with
      | true => exact .edge hph (.isfileT v)
      | false => exact .edge hph (.isfileF v)
    | _ => exact .edge hph (.isfileF v)
  | load2 => cases r with
    | data c => cases c with
      | spc w => simp only [resumeIni]; split
                 · exact afterInit_move hph (.inr rfl) rfl
                 · exact .fail _
      | _ => exact .fail _
    | _ => exact .fail _

theorem resumeSave_move {n : SavePc} {i : JobId} {k : Kind} {c : Content SP DV}
    (hph : st.phase = .save n i k c) : Move hash r st (resumeSave st n i k c r) := by
  cases r with
  | ok => cases n with
    | openw => exact .edge hph (.openw i k c)
    | write => exact .edge hph (.write i k c)
    | close => exact .edge hph (.close i k c)
    | rename => cases k with
      | doc => exact .exit _ (.saved i c hph)
      | sp => cases c with
        | spc v => exact .edge hph (.renameSp i v)
        | _ => exact .fail _
  | _ => cases n <;> exact .fail _

theorem resume_dload {v : SP} (hph : st.phase = .dload v) :
    resume hash st r = match docOf r with
      | some d => resumeDload hash st v d
      | none => st.fail "JSONDecodeError" := by
  simp only [resume, hph]
  cases r with
  | data c => cases c <;> rfl
  | err e => cases e <;> rfl
  | _ => rfl

theorem resume_move (hne : st.phase ≠ .fin) (r : Res SP DV) : Move hash r st (resume hash st r) := by
  obtain ⟨sc, ph, out, fl⟩ := st
  cases ph with
  | fin => exact absurd rfl hne
  | proj n => exact resumeProj_move rfl
  | ini n v => exact resumeIni_move rfl
  | save n i k c => exact resumeSave_move rfl
  | lite v =>
    cases r with
    | bool b => cases b with
      | true => exact docStart_move rfl
      | false => exact .edge rfl (.noDir v)
    | _ => exact .edge rfl (.noDir v)
  | dload v =>
    rw [resume_dload rfl]
    cases hr : docOf r with
    | some d => exact resumeDload_move rfl hr
    | none => exact .fail _
  | len =>
    cases r with
    | names l => exact .exit _ (.len l rfl rfl)
    | _ => exact .fail _
end

theorem Edge.headOk {s : List (Op SP DV)} {r : Res SP DV} {p q : Phase SP DV}
    (e : Edge hash s r p q) (h : HeadOk hash p s) : HeadOk hash q s := by
  -- `induction`, not `cases`: `p` and `q` are variables, so there are no index equations to solve
  induction e with
  | proj1 | proj2 | projMk | load1 | isdirT | isdirF | existsWs | mkdirOk | mkdirOld | isdir2
  | isfileT => exact h
  | openw _ k | write _ k | close _ k => cases k <;> exact h
  | noDir => exact h.elim .inl (.inr ∘ .inr)
  | dirLoad v hn => exact h.resolve_right fun ⟨d, t, e⟩ => hn v d t e
  | isfileF v => exact ⟨v, rfl, rfl, h⟩
  | renameSp => obtain ⟨_, e, _, h⟩ := h; cases e; exact h
  | dirAssign v w d t hs =>
    subst hs; rcases h with (⟨_, _, _, h⟩ | ⟨_, h⟩) | ⟨_, _, h⟩ <;> cases h
    exact .inr ⟨_, _, _, rfl, rfl, rfl⟩
  | initAssign n v w d t _ hs =>
    subst hs; rcases h with (⟨_, _, _, h⟩ | ⟨_, h⟩) | ⟨_, h⟩ | ⟨_, _, h⟩ <;> cases h
    exact .inr ⟨_, _, _, rfl, rfl, rfl⟩
  | initLoad n v _ hl =>
    rcases h with h | ⟨_, h⟩ | ⟨_, _, h⟩
    · exact h
    · subst h; cases hl
    · subst h; cases hl
  | loaded v w k x t d hs =>
    subst hs; rcases h with ⟨_, _, _, h⟩ | ⟨_, h⟩ <;> cases h
    exact .inl ⟨_, _, _, _, rfl, rfl⟩

theorem Move.headOk {st st' : AState SP DV} {r : Res SP DV} (m : Move hash r st st')
    (h : HeadOk hash st.phase st.script) : HeadOk hash st'.phase st'.script := by
  cases m with
  | fail => trivial
  | goto q e => exact e.headOk h
  | exit => exact headOk_finishOp _

theorem Move.script {st st' : AState SP DV} {r : Res SP DV} (m : Move hash r st st') :
    st'.script = st.script ∧ st'.out = st.out ∨
    ∃ o, Exit hash r st o ∧ st'.script = st.script.tail ∧ st'.out = o := by
  cases m with
  | fail | goto => exact .inl ⟨rfl, rfl⟩
  | exit o x => exact .inr ⟨o, x, finishOp_script _, finishOp_out _⟩

theorem finishOp_ne_save (st : AState SP DV) {n : SavePc} {i : JobId} {k : Kind} {c : Content SP DV} :
    (finishOp st).phase ≠ .save n i k c := by
  simp only [finishOp, startNext]; split
  · exact fun h => nomatch h
  · next op _ _ => cases op <;> exact fun h => nomatch h

/-- a document save is entered from the document load (`doc[k] = x`), or — by an assignment —
    straight from the directory check / the end of `init`; it is left through its own steps -/
theorem Edge.into_docSave {s : List (Op SP DV)} {r : Res SP DV} {p : Phase SP DV} {n : SavePc}
    {i : JobId} {c : Content SP DV} (e : Edge hash s r p (.save n i .doc c)) :
    (∃ m, p = .save m i .doc c) ∨ (∃ v d t, s = .docAssign v d :: t) ∨
    ∃ v w k x t d, p = .dload v ∧ hash v = i ∧ s = .docSet w k x :: t ∧ docOf r = some d ∧
      c = .docc (setKV d k x) := by
  cases e with
  | openw | write | close => exact .inl ⟨_, rfl⟩
  | dirAssign _ w d t hs | initAssign _ _ w d t _ hs => exact .inr (.inl ⟨w, d, t, hs⟩)
  | loaded v w k x t d hs hr => exact .inr (.inr ⟨v, w, k, x, t, d, rfl, rfl, hs, hr, rfl⟩)

theorem Move.into_docSave {st st' : AState SP DV} {r : Res SP DV} {n : SavePc} {i : JobId}
    {c : Content SP DV} (m : Move hash r st st') (h : st'.phase = .save n i .doc c) :
    st'.script = st.script ∧ ((∃ m, st.phase = .save m i .doc c) ∨ (∃ v d t, st.script = .docAssign v d :: t) ∨
    ∃ v w k x t d, st.phase = .dload v ∧ hash v = i ∧ st.script = .docSet w k x :: t ∧
      docOf r = some d ∧ c = .docc (setKV d k x)) := by
  cases m with
  | fail => cases h
  | goto q e => cases h; exact ⟨rfl, e.into_docSave⟩
  | exit => exact absurd h (finishOp_ne_save _)

theorem tr_ini_mkdir_old {fs : FS SP DV} {st : AState SP DV} {v : SP} {n : Node SP DV}
    (hph : st.phase = .ini .mkdir v) (hg : fs.get (.jobdir (hash v)) = some n) :
    exec fs (.mkdir (.jobdir (hash v))) = (fs, .err .eexist) ∧
    resume hash st (.err .eexist) = st.goto (.ini .isdir2 v) :=
  ⟨exec_mkdir_some hg, by simp only [resume, hph, resumeIni]⟩

/-- the document currently published for job `i` (a missing file is the empty document) -/
def docNow (fs : FS SP DV) (i : JobId) : Doc DV :=
  match fs.get (.file i .doc) with
  | some (.file (.docc d)) => d
  | _ => []

theorem docOf_read {fs : FS SP DV} (hfs : FsInv hash fs) (i : JobId) :
    docOf (exec fs (.read (.file i .doc))).2 = some (docNow fs i) := by
  cases hg : fs.get (.file i .doc) with
  | none => simp only [exec_read_none hg, docNow, hg]; rfl
  | some nd =>
    obtain ⟨c, rfl, hgood⟩ := hfs.fileT hg
    obtain ⟨d, rfl⟩ := hgood.doc_inv
    simp only [exec_read_file hg, docNow, hg]; rfl

theorem tr_dload {fs : FS SP DV} {st : AState SP DV} {v : SP}
    (hfs : FsInv hash fs) (hph : st.phase = .dload v) :
    resume hash st (exec fs (.read (.file (hash v) .doc))).2 = resumeDload hash st v (docNow fs (hash v)) := by
  rw [resume_dload hph, docOf_read hfs]

end Signac.Conc
