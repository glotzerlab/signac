/- C19: the upward search returns the nearest enclosing project; what `Project(path)` and
   `get_project` return, case by case.  Defines `Nearest` and `GateOk` of the C19 statements. -/
import Signac.Discovery
namespace Signac.Disc
open Signac

/-- `q` is the nearest project at or above `p`. -/
def Nearest (t : Tree) (p q : Path) : Prop :=
  q <:+ p ∧ isProject t q = true ∧ ∀ r, r <:+ p → isProject t r = true → r <:+ q

theorem nearest_unique {t : Tree} {p q q' : Path} (h : Nearest t p q) (h' : Nearest t p q') : q = q' :=
  (h'.2.2 q h.1 h.2.1).eq_of_length_le (h.2.2 q' h'.1 h'.2.1).length_le

theorem nearest_self {t : Tree} {p : Path} (h : isProject t p = true) : Nearest t p p :=
  ⟨List.suffix_refl _, h, fun _ hr _ => hr⟩

theorem findProject_self {t : Tree} {p : Path} (h : isProject t p = true) : findProject t p = some p := by
  cases p <;> simp [findProject, h]

theorem findProject_skip {t : Tree} {c : String} {rest : Path} (h : isProject t (c :: rest) = false) :
    findProject t (c :: rest) = findProject t rest := by
  simp [findProject, h]

theorem findProject_spec (t : Tree) (p : Path) :
    (∃ q, findProject t p = some q ∧ Nearest t p q)
    ∨ (findProject t p = none ∧ ∀ r, r <:+ p → isProject t r = false) := by
  fun_induction findProject t p with
  | case1 h => exact .inl ⟨_, rfl, nearest_self h⟩
  | case2 h => exact .inr ⟨rfl, fun r hr => List.suffix_nil.mp hr ▸ Bool.eq_false_iff.mpr h⟩
  | case3 c rest h => exact .inl ⟨_, rfl, nearest_self h⟩
  | case4 c rest h ih =>
    refine ih.imp (fun ⟨q, hq, hs, hp, hn⟩ => ⟨q, hq, hs.trans (List.suffix_cons _ _), hp, fun r hr hpr => ?_⟩)
      (fun ⟨hq, hn⟩ => ⟨hq, fun r hr => ?_⟩)
    all_goals rcases List.suffix_cons_iff.mp hr with rfl | hr
    · exact absurd hpr h
    · exact hn r hr hpr
    · exact Bool.eq_false_iff.mpr h
    · exact hn r hr

theorem findProject_nearest (t : Tree) (p q : Path) :
    findProject t p = some q ↔ Nearest t p q := by
  rcases findProject_spec t p with ⟨q', hq, hn⟩ | ⟨hq, hn⟩ <;> rw [hq]
  · exact ⟨fun h => Option.some.inj h ▸ hn, fun h => congrArg some (nearest_unique hn h)⟩
  · exact ⟨nofun, fun h => absurd h.2.1 (Bool.eq_false_iff.mp (hn q h.1))⟩

theorem findProject_none (t : Tree) (p : Path) :
    findProject t p = none ↔ ∀ r, r <:+ p → isProject t r = false := by
  rcases findProject_spec t p with ⟨q, hq, hn⟩ | ⟨hq, hn⟩ <;> rw [hq]
  · exact ⟨nofun, fun h => absurd hn.2.1 (Bool.eq_false_iff.mp (h q hn.1))⟩
  · exact ⟨fun _ => hn, fun _ => rfl⟩

theorem findOlder_self {t : Tree} {p : Path} {e : Err} (h : olderErr t p = some e) :
    findOlder t p = some e := by
  cases p <;> simp [findOlder, h]

theorem findOlder_none (t : Tree) (p : Path) :
    findOlder t p = none ↔ ∀ r, r <:+ p → olderErr t r = none := by
  fun_induction findOlder t p with
  | case1 => exact ⟨fun h r hr => List.suffix_nil.mp hr ▸ h, fun h => h [] (List.suffix_refl _)⟩
  | case2 c rest e h => exact ⟨nofun, fun hn => by rw [hn _ (List.suffix_refl _)] at h; cases h⟩
  | case3 c rest h ih =>
    exact ih.trans ⟨fun hn r hr => (List.suffix_cons_iff.mp hr).elim (· ▸ h) (hn r),
      fun hn r hr => hn r (hr.trans (List.suffix_cons _ _))⟩

/-! ### `Project(path)` -/

/-- the version gate lets the project at `q` through -/
def GateOk (t : Tree) (q : Path) : Prop := ∃ v, t.cfg q = some v ∧ Mig.gate (v.getD 1) = .ok

theorem openProject_accepted {t : Tree} {p : Path} {v : Option Nat} (hc : t.cfg p = some v)
    (hg : Mig.gate (v.getD 1) = .ok) :
    openProject t p = (.ok p, if hasWorkspace t p then [] else [.mkdir ("workspace" :: p)]) := by
  unfold openProject
  rw [hc]
  simp only [hg, if_true]
  split <;> rfl

theorem openProject_refused {t : Tree} {p : Path} {v : Option Nat} (hc : t.cfg p = some v)
    (hg : Mig.gate (v.getD 1) ≠ .ok) : openProject t p = (.error .incompatible, []) := by
  unfold openProject
  rw [hc]
  exact if_neg hg

theorem openProject_noConfig {t : Tree} {p : Path} (hc : t.cfg p = none) :
    openProject t p = (.error ((olderErr t p).getD .lookup), []) := by
  unfold openProject
  rw [hc]
  cases olderErr t p <;> rfl

theorem openProject_cases (t : Tree) (p : Path) :
    (GateOk t p ∧
      openProject t p = (.ok p, if hasWorkspace t p then [] else [.mkdir ("workspace" :: p)]))
    ∨ (¬ GateOk t p ∧ ∃ e, openProject t p = (.error e, [])) := by
  cases hc : t.cfg p with
  | none => exact .inr ⟨fun ⟨_, h, _⟩ => (nomatch hc ▸ h), _, openProject_noConfig hc⟩
  | some v =>
    by_cases hg : Mig.gate (v.getD 1) = .ok
    · exact .inl ⟨⟨v, hc, hg⟩, openProject_accepted hc hg⟩
    · exact .inr ⟨fun ⟨_, h, hg'⟩ => hg (Option.some.inj (hc ▸ h) ▸ hg'), _, openProject_refused hc hg⟩

theorem openProject_ok_iff (t : Tree) (p q : Path) :
    (openProject t p).1 = .ok q ↔ q = p ∧ GateOk t p := by
  rcases openProject_cases t p with ⟨hg, h⟩ | ⟨hg, e, h⟩ <;> rw [h]
  · exact ⟨fun h => ⟨(Except.ok.inj h).symm, hg⟩, fun h => h.1 ▸ rfl⟩
  · exact ⟨nofun, fun h => absurd h.2 hg⟩

theorem openProject_steps (t : Tree) (p : Path) :
    ∀ s ∈ (openProject t p).2, s = .mkdir ("workspace" :: p) := by
  rcases openProject_cases t p with ⟨-, h⟩ | ⟨-, e, h⟩ <;> rw [h]
  · split <;> simp
  · nofun

theorem openProject_steps_ws (t : Tree) (p : Path) (h : hasWorkspace t p = true) :
    (openProject t p).2 = [] := by
  rcases openProject_cases t p with ⟨-, h'⟩ | ⟨-, e, h'⟩ <;> rw [h']
  exact if_pos h

theorem openProject_err_steps (t : Tree) (p : Path) (e : Err) (h : (openProject t p).1 = .error e) :
    (openProject t p).2 = [] := by
  rcases openProject_cases t p with ⟨-, h'⟩ | ⟨-, e, h'⟩ <;> rw [h'] at h ⊢
  · cases h

/-! ### `get_project` -/

theorem getProjectFrom_found {t : Tree} {p q : Path} (h : findProject t p = some q) :
    getProjectFrom t p = openProject t q := by
  unfold getProjectFrom locateConfigDir
  rw [h]

theorem getProjectFrom_notFound {t : Tree} {p : Path} (h : findProject t p = none) :
    getProjectFrom t p = (.error ((findOlder t p).getD .lookup), []) := by
  unfold getProjectFrom locateConfigDir
  rw [h]
  cases findOlder t p <;> rfl

theorem getProjectFrom_ok_iff (t : Tree) (p q : Path) :
    (getProjectFrom t p).1 = .ok q ↔ Nearest t p q ∧ GateOk t q := by
  cases hf : findProject t p with
  | some q' =>
    have hn := (findProject_nearest t p q').mp hf
    rw [getProjectFrom_found hf, openProject_ok_iff]
    exact ⟨fun ⟨e, hg⟩ => e ▸ ⟨hn, hg⟩, fun ⟨hq, hg⟩ => ⟨nearest_unique hq hn, nearest_unique hq hn ▸ hg⟩⟩
  | none =>
    rw [getProjectFrom_notFound hf]
    exact ⟨nofun, fun ⟨hn, _⟩ => by rw [(findProject_nearest t p q).mpr hn] at hf; cases hf⟩

theorem getProjectFrom_steps (t : Tree) (p : Path) (q : Path) (h : (getProjectFrom t p).1 = .ok q) :
    ∀ s ∈ (getProjectFrom t p).2, s = .mkdir ("workspace" :: q) := by
  have hf := (findProject_nearest t p q).mpr ((getProjectFrom_ok_iff t p q).mp h).1
  rw [getProjectFrom_found hf]
  exact openProject_steps t q

theorem getProjectFrom_err_steps (t : Tree) (p : Path) (e : Err) (h : (getProjectFrom t p).1 = .error e) :
    (getProjectFrom t p).2 = [] := by
  cases hf : findProject t p with
  | some q => rw [getProjectFrom_found hf] at h ⊢; exact openProject_err_steps t q e h
  | none => rw [getProjectFrom_notFound hf]

theorem getProjectFrom_nothing (t : Tree) (p : Path)
    (h1 : ∀ r, r <:+ p → isProject t r = false) (h2 : ∀ r, r <:+ p → t.rc r = none) :
    getProjectFrom t p = (.error .lookup, []) := by
  rw [getProjectFrom_notFound ((findProject_none t p).mpr h1),
    (findOlder_none t p).mpr fun r hr => by rw [olderErr, h2 r hr]; rfl]
  rfl

theorem getProject_absent {t : Tree} {p : Path} (h : t.kind p = .absent) (s : Bool) :
    getProject t p s = (.error .lookup, []) := by
  rw [getProject, if_pos h]

theorem getProject_search {t : Tree} {p : Path} (h : t.kind p ≠ .absent) :
    getProject t p true = getProjectFrom t p := by
  rw [getProject, if_neg h]; rfl

theorem getProject_nosearch {t : Tree} {p : Path} (h : t.kind p ≠ .absent) :
    getProject t p false = if isProject t p then openProject t p else (.error .lookup, []) := by
  rw [getProject, if_neg h]
  cases hp : isProject t p
  · rfl
  · exact getProjectFrom_found (findProject_self hp)

theorem getProject_nosearch_of_not_project {t : Tree} {p : Path} (hp : isProject t p = false) :
    getProject t p false = (.error .lookup, []) := by
  by_cases hk : t.kind p = .absent
  · exact getProject_absent hk _
  · rw [getProject_nosearch hk, hp]; rfl

end Signac.Disc
