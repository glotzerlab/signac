/-
  Invariant of the workspace model: every job is stored under the hash of its state
  point, ids are unique.  Preserved by every operation.  Core only.
-/
import Signac.Proofs.WsOps
namespace Signac.Ws
open Signac

section
variable (hash : JVal → String)

def JobsInv (js : Jobs) : Prop :=
  (∀ id jd, (id, jd) ∈ js → hash jd.sp = id) ∧ (js.map Prod.fst).Nodup

def WsInv (w : World) : Prop := JobsInv hash w.p0 ∧ JobsInv hash w.p1

theorem jobsInv_nil : JobsInv hash [] := ⟨fun _ _ h => (nomatch h), List.nodup_nil⟩

theorem wsInv_empty : WsInv hash World.empty := ⟨jobsInv_nil hash, jobsInv_nil hash⟩

variable {hash}

theorem wsInv_jobs {w : World} (h : WsInv hash w) (p : Nat) : JobsInv hash (w.jobs p) := by
  unfold World.jobs; split
  · exact h.1
  · exact h.2

theorem wsInv_setJobs {w : World} (h : WsInv hash w) (p : Nat) {j : Jobs} (hj : JobsInv hash j) :
    WsInv hash (w.setJobs p j) := by
  unfold World.setJobs; split
  · exact ⟨hj, h.2⟩
  · exact ⟨h.1, hj⟩

theorem wsInv_of_jobs_eq {w w' : World} (h : WsInv hash w) (h0 : w'.p0 = w.p0) (h1 : w'.p1 = w.p1) :
    WsInv hash w' := by
  unfold WsInv; rw [h0, h1]; exact h

theorem jobsInv_erase {js : Jobs} (h : JobsInv hash js) (k : String) : JobsInv hash (aerase k js) :=
  ⟨fun id jd hm => h.1 id jd (mem_aerase_iff.mp hm).1, aerase_nodup h.2⟩

theorem jobsInv_append {js : Jobs} (h : JobsInv hash js) {id : String} {jd : JobData}
    (hnew : alookup id js = none) (hid : hash jd.sp = id) : JobsInv hash (js ++ [(id, jd)]) := by
  refine ⟨fun i d hm => ?_, ?_⟩
  · rcases List.mem_append.mp hm with hm | hm
    · exact h.1 i d hm
    · cases List.mem_singleton.mp hm; exact hid
  · exact nodup_keys_append h.2 (alookup_eq_none_iff.mp hnew) jd

theorem jobsInv_aset {js : Jobs} (h : JobsInv hash js) {id : String} {jd jd' : JobData}
    (hl : alookup id js = some jd) (hsp : jd'.sp = jd.sp) : JobsInv hash (aset id jd' js) := by
  have hmem := alookup_some_mem hl
  refine ⟨fun i d hm => ?_, ?_⟩
  · rcases mem_aset hm with hm | hm
    · cases hm; rw [hsp]; exact h.1 _ _ hmem
    · exact h.1 i d hm
  · rw [aset_keys_of_mem (List.mem_map.mpr ⟨_, hmem, rfl⟩)]
    exact h.2

theorem ensure_inv {w : World} (h : WsInv hash w) (hd : Handle) : WsInv hash (ensure hash w hd) := by
  unfold ensure
  dsimp only
  cases hl : alookup (hash hd.sp) (w.jobs hd.proj) with
  | some _ => exact h
  | none => exact wsInv_setJobs h _ (jobsInv_append (wsInv_jobs h _) hl rfl)

theorem modJob_inv {w : World} (h : WsInv hash w) (hd : Handle) (f : JobData → JobData)
    (hf : ∀ jd, (f jd).sp = jd.sp) : WsInv hash (modJob hash w hd f) := by
  unfold modJob
  dsimp only
  have h1 := ensure_inv h hd
  cases hl : alookup (hash hd.sp) ((ensure hash w hd).jobs hd.proj) with
  | some jd => exact wsInv_setJobs h1 _ (jobsInv_aset (wsInv_jobs h1 _) hl (hf jd))
  | none => exact h1

theorem remove_inv {w : World} (h : WsInv hash w) (p : Nat) (id : String) :
    WsInv hash (w.setJobs p (aerase id (w.jobs p))) :=
  wsInv_setJobs h _ (jobsInv_erase (wsInv_jobs h _) _)

theorem rekey_inv {w : World} (h : WsInv hash w) (hd : Handle) (newSp : JVal) :
    WsInv hash (rekey hash w hd newSp).1 := by
  refine rekey_cases (motive := fun r => WsInv hash r.1) w hd newSp (fun _ => h) (fun _ _ => h)
    (fun _ => h) (fun jd hne _ hdst => ?_)
  refine wsInv_setJobs (w := w) h hd.proj
    (jobsInv_append (id := hash newSp) (jobsInv_erase (wsInv_jobs h hd.proj) (hash hd.sp)) ?_ rfl)
  rw [alookup_aerase_ne (Ne.symm hne)]
  exact hdst

/-- A job found under `id` in one project and added under the same id to a project that has none
    of that id (`move` after the source entry is erased, `clone`). -/
theorem transfer_inv {w : World} (h : WsInv hash w) {p q : Nat} {id : String} {jd : JobData}
    (hsrc : alookup id (w.jobs p) = some jd) {w' : World} (h' : WsInv hash w')
    (hdst : alookup id (w'.jobs q) = none) : WsInv hash (w'.setJobs q (w'.jobs q ++ [(id, jd)])) :=
  wsInv_setJobs h' q (jobsInv_append (wsInv_jobs h' q) hdst ((wsInv_jobs h p).1 _ _ (alookup_some_mem hsrc)))

theorem newHandle_inv {w : World} (h : WsInv hash w) (n : String) (p : Nat) (sp : JVal) :
    WsInv hash (newHandle w n p sp) := h

/- From here on `ensure`, `modJob` and `rekey` are used through their lemmas only; sealing them keeps
   the unifier from unfolding them when a goal `(…, r).1` meets a lemma about one of them. -/
attribute [local irreducible] ensure modJob rekey

/-- Most operations act through a handle and do nothing when it is undefined. -/
theorem inv_withHandle {w : World} (h : WsInv hash w) (o : Option Handle) {f : Handle → World × Res}
    {r : Res} (hf : ∀ hd, WsInv hash (f hd).1) :
    WsInv hash (match o with
      | some hd => f hd
      | none => (w, r)).1 := by
  cases o with
  | none => exact h
  | some hd => exact hf hd

theorem step_inv {w : World} (h : WsInv hash w) (op : Op) : WsInv hash (step hash w op).1 := by
  cases op
  case openSp | openId | ucache | rmcache | session | copy | deepcopy | pickle | drop | plant =>
    exact wsInv_of_jobs_eq h (handle_ops_keep_jobs w _ rfl).1 (handle_ops_keep_jobs w _ rfl).2
  all_goals dsimp only [step]
  case init => exact inv_withHandle h _ fun hd => ensure_inv h hd
  case dset | dclear | dreset | put | reset =>
    exact inv_withHandle h _ fun hd => modJob_inv h hd _ fun _ => rfl
  case ddel =>
    refine inv_withHandle h _ fun hd => ?_
    split
    · split
      · exact modJob_inv h hd _ fun _ => rfl
      · exact ensure_inv h hd
    · exact ensure_inv h hd
  case clear =>
    refine inv_withHandle h _ fun hd => ?_
    split
    · exact modJob_inv h hd _ fun _ => rfl
    · exact h
  case remove => exact inv_withHandle h _ fun hd => remove_inv h _ _
  case spset | spassign => exact inv_withHandle h _ fun hd => rekey_inv h hd _
  case spdel =>
    refine inv_withHandle h _ fun hd => ?_
    split
    · exact rekey_inv h hd _
    · exact h
  case spnest =>
    refine inv_withHandle h _ fun hd => ?_
    split
    · exact rekey_inv h hd _
    · exact h
    · exact h
  case update =>
    refine inv_withHandle h _ fun hd => ?_
    split
    · exact h
    · exact rekey_inv h hd _
  case move hn p =>
    refine inv_withHandle h _ fun hd => ?_
    cases hl : alookup (hash hd.sp) (w.jobs hd.proj) with
    | none => exact h
    | some jd =>
      dsimp only
      by_cases hp : hd.proj = p
      · rw [if_pos hp]; exact h
      · rw [if_neg hp]
        by_cases hdst : (alookup (hash hd.sp) (w.jobs p)).isSome = true
        · rw [if_pos hdst]; exact h
        · rw [if_neg hdst]
          refine wsInv_of_jobs_eq (transfer_inv (id := hash hd.sp) h hl (remove_inv h hd.proj _) ?_) rfl rfl
          rw [jobs_setJobs]
          split
          · exact alookup_aerase_self _ _
          · exact Option.not_isSome_iff_eq_none.mp hdst
  case clone hn p h2 =>
    refine inv_withHandle h _ fun hd => ?_
    cases hl : alookup (hash hd.sp) (w.jobs hd.proj) with
    | none => exact h
    | some jd =>
      dsimp only
      by_cases hdst : (alookup (hash hd.sp) (w.jobs p)).isSome = true
      · rw [if_pos hdst]; exact h
      · rw [if_neg hdst]
        refine newHandle_inv ?_ _ _ _
        exact transfer_inv (id := hash hd.sp) h hl (w' := { w with handles := aerase h2 w.handles }) h
          (Option.not_isSome_iff_eq_none.mp hdst)

theorem run_inv {w : World} (h : WsInv hash w) (ops : List Op) : WsInv hash (run hash w ops) := by
  induction ops generalizing w with
  | nil => exact h
  | cons op ops ih => exact ih (step_inv h op)

theorem check_nil_of_inv {js : Jobs} (h : JobsInv hash js) : check hash js = [] := by
  unfold check
  rw [List.filter_eq_nil_iff.mpr, List.map_nil]
  intro e he
  rw [h.1 e.1 e.2 he, bne_self_eq_false]
  exact Bool.false_ne_true

end
end Signac.Ws
