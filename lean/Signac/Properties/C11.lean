/-
  C11 — crashes and I/O errors in lifecycle operations never lose data or forge a job.
  Property theorems only (model: Signac/Lifecycle.lean; lemmas: Signac/Proofs/Life*.lean).

  An *event schedule* `ev : Nat → Option Ev` says what happens to the n-th file-system step:
  nothing, process death before it, a torn write inside it, or an injected errno.  All theorems
  quantify over ALL pre-states, payloads and schedules (any number of faults, death anywhere,
  also inside the error handling) unless a hypothesis says otherwise; `NoENOENT ev`: ENOENT is
  not injected (signac reads it as "not there" by design — the property excludes it).
-/
import Signac.Proofs.LifeEnoent
import Signac.Proofs.LifeRefine
namespace Signac.C11
open Signac.Life

variable {Sp : Type}

/-- every id-named directory validates against its id or is reported by `check()` -/
theorem check_complete (C : Codec Sp) (w : World Sp) (k : Key) (h : (w k).isSome = true) :
    validAt C w k = true ∨ corruptAt C w k = true := by
  obtain ⟨d, hd⟩ := Option.isSome_iff_exists.mp h
  rw [validAt_some C hd, corruptAt_some C hd]
  cases d.valid C k.2 <;> simp

/-- every job directory other than the operation's own (for clone: other than the destination —
    so also the source) is identical afterwards, for every operation and schedule -/
theorem others_untouched (C : Codec Sp) (op : Op Sp) (ev : Nat → Option Ev) (w : World Sp) {k : Key}
    (hk : k ∉ op.keys) : (run C ev (op.prog C) w).w k = w k :=
  exec_frame C ev op.keys (opProg_all C op) w {} hk

/-- `Job.init()`: payload and backup kept; the directory validates afterwards only if nothing
    changed or no state-point file was there before and the complete requested one is there now
    (an existing non-matching file is never overwritten); normal return ⇒ valid, no fault consumed;
    exception ⇒ unchanged or reported by check() -/
theorem init_safe (C : Codec Sp) (k : Key) (v : Sp) (w : World Sp) (ev : Nat → Option Ev) :
    InitSpec C k v w false (run C ev (initProg C k v false) w) := init_spec C k v w ev {}

/-- state-point change (re-key protocol with rollback and reload): the data is in exactly one of
    the two directories at every moment, a taken destination is never touched, the new directory
    validates only with the complete new state point; normal return ⇒ moved, valid, no fault
    consumed; exception ⇒ old job intact or a directory reported by check() -/
theorem rekey_safe (C : Codec Sp) (ev : Nat → Option Ev) (x y : Key) (v : Sp) (w : World Sp) (D : JobDir Sp)
    (hxy : x ≠ y) (hne : NoENOENT ev) (hD : w x = some D) (c : Content Sp) (hsp : D.sp = some c) :
    RekeySpec C x y v w D (run C ev (rekeyProg C x y v) w) := rekey_spec C ev x y v w D hxy hne hD c hsp

/-- `Job.move`: all or nothing -/
theorem move_safe (C : Codec Sp) (a b : Key) (hab : a ≠ b) (w : World Sp) (ev : Nat → Option Ev) :
    MoveSpec a b w (run C ev (moveProg a b) w) := by
  refine move_rule C ev a b {} w _ (fun r acc' hr => .inl ⟨rfl, rfl, hr⟩) fun d hd hfree => ?_
  refine .inr ⟨rfl, rfl, hfree, by rw [hd]; rfl, upd_same .., ?_⟩
  show upd (upd w b (some d)) a none b = w a
  rw [upd_other _ _ (Ne.symm hab), upd_same, hd]

/-- `Job.remove`: the directory is gone or keeps its old state-point file or none (it never
    starts to validate); a consumed fault never ends in a normal return -/
theorem remove_safe (C : Codec Sp) (ev : Nat → Option Ev) (k : Key) (order : List Ref) (D : JobDir Sp)
    (w : World Sp) (hD : w k = some D) : RemovalSpec ev k D (run C ev (removeProg k order) w) :=
  ⟨(remove_shrunk C ev k order D w hD).imp id fun ⟨d, hd, hsp, _⟩ => ⟨d, hd, hsp⟩,
   fun hne hf => (removal_okClean C ev hne k _ {} w).not_ok_of_faulted hf⟩

theorem clear_safe (C : Codec Sp) (ev : Nat → Option Ev) (k : Key) (order : List Ref) (D : JobDir Sp)
    (w : World Sp) (hD : w k = some D) : RemovalSpec ev k D (run C ev (clearProg k order) w) :=
  ⟨.inr ((clear_keeps_sp C ev k order {} w D hD).imp fun _ h => ⟨h.1, .inl h.2⟩),
   fun hne hf => (removal_okClean C ev hne k _ {} w).not_ok_of_faulted hf⟩

/-- an interrupted / failed `remove` leaves a sub-list of the old payload: nothing appears -/
theorem remove_only_shrinks (C : Codec Sp) (ev : Nat → Option Ev) (k : Key) (order : List Ref) (D : JobDir Sp)
    (w : World Sp) (hD : w k = some D) : RemoveShrinks k D (run C ev (removeProg k order) w) :=
  (remove_shrunk C ev k order D w hD).imp id fun ⟨d, hd, _, hsub⟩ => ⟨d, hd, hsub⟩

/-- `Good` holds after ANY schedule (faults, second faults, death inside the error handling) -/
theorem any_schedule_safe (C : Codec Sp) (op : Op Sp) (hc : op.covered) (w : World Sp) (ev : Nat → Option Ev)
    (hne : NoENOENT ev) : Good C op w (run C ev (op.prog C) w).w := by
  refine ⟨fun k hk => check_complete C _ k hk, fun k hk => others_untouched C op ev w hk, ?_⟩
  cases op with
  | init k v f =>
    cases hc
    exact ⟨(init_safe C k v w ev).1, (init_safe C k v w ev).2.1⟩
  | rekey x y v =>
    intro D hD hsp
    obtain ⟨c, hs⟩ := Option.isSome_iff_exists.mp hsp
    exact (rekey_safe C ev x y v w D hc hne hD c hs).1
  | move a b =>
    rcases move_safe C a b hc w ev with ⟨h1, h2, _⟩ | ⟨_, _, h3, h4, h5, h6⟩
    · exact Or.inl ⟨h1, h2⟩
    · exact Or.inr ⟨h3, h4, h5, h6⟩
  | clone s d o => trivial
  | remove k o => intro D hD; exact (remove_safe C ev k o D w hD).1
  | clear k o => intro D hD; exact (clear_safe C ev k o D w hD).1

/-- `Good` holds of every state a process death can leave behind (before any step, inside any write) -/
theorem crash_safe (C : Codec Sp) (op : Op Sp) (hc : op.covered) (w w' : World Sp)
    (h : crashStates C (op.prog C) w w') : Good C op w w' := by
  obtain ⟨ev, hnf, _, rfl⟩ := h
  exact any_schedule_safe C op hc w ev fun n => hnf n _

/-- a consumed fault propagates as an exception and leaves the old job or a state check() reports -/
theorem fault_safe (C : Codec Sp) (op : Op Sp) (hc : op.covered) (w : World Sp) (ev : Nat → Option Ev)
    (hne : NoENOENT ev) (hf : (run C ev (op.prog C) w).faulted = true)
    (hnc : (run C ev (op.prog C) w).res ≠ .crashed) :
    (∃ n, (run C ev (op.prog C) w).res = .exc n) ∧ FaultGood C w (run C ev (op.prog C) w).w op := by
  have hexc := Res.exc_of_ne ((op_okClean C op hc.distinct ev (fun _ => hne) w).not_ok_of_faulted hf) hnc
  refine ⟨hexc, ?_⟩
  obtain ⟨n, hn⟩ := hexc
  cases op with
  | init k v f => cases hc; exact (init_safe C k v w ev).2.2.2 n hn
  | rekey x y v =>
    intro D hD hsp
    obtain ⟨c, hs⟩ := Option.isSome_iff_exists.mp hsp
    exact (rekey_safe C ev x y v w D hc hne hD c hs).2.2 n hn
  | move a b =>
    rcases move_safe C a b hc w ev with ⟨h1, h2, _⟩ | ⟨h2, _⟩
    · exact ⟨h1, h2⟩
    · exact Res.noConfusion (hn.symm.trans h2)
  | clone s d o => exact hc.elim
  | remove k o => trivial
  | clear k o => trivial

/-- the single-fault instance: step `k` fails with `e ≠ ENOENT` -/
theorem fault_safe_single (C : Codec Sp) (op : Op Sp) (hc : op.covered) (w : World Sp) (k : Nat) (e : Errno)
    (he : e ≠ .ENOENT) (hf : (run C (faultAt k e) (op.prog C) w).faulted = true)
    (hnc : (run C (faultAt k e) (op.prog C) w).res ≠ .crashed) :
    (∃ n, (run C (faultAt k e) (op.prog C) w).res = .exc n) ∧
      FaultGood C w (run C (faultAt k e) (op.prog C) w).w op :=
  fault_safe C op hc w _ (noENOENT_faultAt k e he) hf hnc

/-- `Project.clone`, the provable part: source untouched; a taken destination untouched and an
    error; a fresh destination is absent or a partial copy whose state-point file is absent, junk
    or the source's; a consumed fault never ends in a normal return; and as long as the
    state-point file is not completely copied (hypothesis = complement of the S-11 class on
    non-returning runs) the destination is absent or reported by check() -/
theorem clone_safe_partial (C : Codec Sp) (ev : Nat → Option Ev) (src dst : Key) (hsd : src ≠ dst)
    (order : List Ref) (w : World Sp) (S : JobDir Sp) (hS : w src = some S) :
    CloneSpec src dst w S (run C ev (cloneProg src dst order) w) ∧
    (w dst = none → (∀ d, (run C ev (cloneProg src dst order) w).w dst = some d → d.sp ≠ S.sp) →
      (run C ev (cloneProg src dst order) w).w dst = none ∨
      corruptAt C (run C ev (cloneProg src dst order) w).w dst = true) :=
  ⟨clone_spec C ev src dst hsd order w S hS,
   fun hd hsp => clone_undetected_only_after_sp C src dst w S _ (clone_spec C ev src dst hsd order w S hS) hd hsp⟩

/-- S-11 in the model (process death): after the state-point file was copied the destination
    passes check() and lacks a file of the source -/
theorem clone_partial_passes_check_crash :
    let o := run cexCodec (crashAt 3) (cloneProg cexSrc cexDst cexOrder) cexW
    o.res = .crashed ∧ validAt cexCodec o.w cexDst = true ∧ corruptAt cexCodec o.w cexDst = false ∧
    ∃ d, o.w cexDst = some d ∧ hasItem d (.file "f") = false :=
  ⟨by decide +kernel, by decide +kernel, by decide +kernel, exists_of_any (by decide +kernel)⟩

/-- S-11 in the model (I/O error): clone raises, the destination passes check() and lacks the file -/
theorem clone_partial_passes_check_fault :
    let o := run cexCodec (faultAt 3 .EIO) (cloneProg cexSrc cexDst cexOrder) cexW
    o.res = .exc "Error" ∧ o.faulted = true ∧ validAt cexCodec o.w cexDst = true ∧
    corruptAt cexCodec o.w cexDst = false ∧ ∃ d, o.w cexDst = some d ∧ hasItem d (.file "f") = false :=
  ⟨by decide +kernel, by decide +kernel, by decide +kernel, by decide +kernel, exists_of_any (by decide +kernel)⟩

/-- hence the full statement for clone is false of the model (and of the code: known finding S-11) -/
theorem clone_safe_full_is_false : ¬ clone_safe_full := by
  intro h
  have h1 := h Nat cexCodec cexSrc cexDst cexOrder cexW (crashAt 3) (by decide) (by decide) (noENOENT_crashAt 3)
  obtain ⟨_, _, hc, d0, hd0, hno⟩ := clone_partial_passes_check_crash
  rcases h1 with h1 | h1 | ⟨d, hd, hall⟩
  · rw [hd0] at h1; have hw : cexW cexDst = none := by decide
    rw [hw] at h1; cases h1
  · rw [hc] at h1; cases h1
  · rw [hd0] at hd
    injection hd with hd
    subst hd
    have := hall (.file "f") (by simp [cexOrder])
    rw [hno] at this; cases this

/- ---- non-vacuity: concrete instances of the hypotheses ---- -/
/-- `rekey_safe` / `clone_safe_partial`: a world with an initialised job holding a data file,
    distinct directories, a schedule with a fault and no ENOENT -/
example : cexSrc ≠ cexDst ∧ cexW cexSrc = some cexS ∧ cexS.sp = some (.ok 1) ∧ NoENOENT (faultAt 1 .EIO) ∧
    cexW cexDst = none :=
  ⟨by decide +kernel, if_pos rfl, rfl, noENOENT_faultAt 1 .EIO Errno.noConfusion, if_neg (by decide +kernel)⟩

/-- `crash_safe`: a covered operation with a non-trivial crash state (death inside the write of
    the state-point file of a re-key) -/
example : (Op.rekey cexSrc (0, "x") 2 : Op Nat).covered ∧
    crashStates cexCodec ((Op.rekey cexSrc (0, "x") 2 : Op Nat).prog cexCodec) cexW
      (run cexCodec (tornAt 4 1) (rekeyProg cexCodec cexSrc (0, "x") 2) cexW).w :=
  ⟨(by decide +kernel : cexSrc ≠ (0, "x")), tornAt 4 1, by intro n e; simp only [tornAt]; split <;> simp, by decide +kernel, rfl⟩

/-- `fault_safe`: a schedule whose fault is consumed and which does not end in a death -/
example : (run cexCodec (faultAt 1 .EIO) ((Op.rekey cexSrc (0, "x") 2 : Op Nat).prog cexCodec) cexW).faulted = true ∧
    (run cexCodec (faultAt 1 .EIO) ((Op.rekey cexSrc (0, "x") 2 : Op Nat).prog cexCodec) cexW).res ≠ .crashed := by
  decide +kernel

/-- `remove_safe` / `clear_safe` / `remove_only_shrinks`: an existing directory with payload -/
example : cexW cexSrc = some cexS ∧ cexS.entries ≠ [] := ⟨if_pos rfl, List.cons_ne_nil _ _⟩

/- ---- `Job.reset()` = `clear(); init()`: sequencing, and "the job itself stays" ---- -/

/-- sequencing (`Prog.seq`: `p`, then — if `p` returned normally — `q`; one program, steps numbered
    through): the run of the composite is the run of `p`; if that returned normally, followed by the
    run of `q` from the world `p` left under the schedule shifted by the number of steps `p`
    announced (`shiftEv m ev = fun n => ev (m + n)`), with `p`'s step count, trace and fault flag
    carried over (`Outcome.after`: counts add, traces concatenate, the fault flag is or-ed; world and
    result are those of `q`).  An exception or a death of `p` is the outcome of the composite. -/
theorem run_seq (C : Codec Sp) (ev : Nat → Option Ev) (p q : Prog Sp) (w : World Sp) :
    run C ev (p.seq q) w =
      if (run C ev p w).res = .ok then
        (run C (shiftEv (run C ev p w).acc.n ev) q (run C ev p w).w).after (run C ev p w).acc
      else run C ev p w := run_seq_eq C ev p q w

/-- `clear()` never removes THE JOB: after EVERY schedule — death anywhere, torn writes, any
    injected errno, ENOENT included — the job directory is still there and its state-point file is
    untouched (same content, or still absent) -/
theorem clear_keeps_job (C : Codec Sp) (ev : Nat → Option Ev) (k : Key) (order : List Ref) (w : World Sp)
    (d : JobDir Sp) (hd : w k = some d) :
    ∃ d', (run C ev (clearProg k order) w).w k = some d' ∧ d'.sp = d.sp :=
  clear_keeps_sp C ev k order {} w d hd

/-- on a job that validates the closing `init()` announces no step: `reset` and `clear` have the same
    outcome (world, result, step trace, fault flag) under every schedule -/
theorem reset_of_valid_job_is_clear (C : Codec Sp) (ev : Nat → Option Ev) (k : Key) (order : List Ref) (v : Sp)
    (w : World Sp) (hv : validAt C w k = true) :
    run C ev (resetProg C k order v) w = run C ev (clearProg k order) w := by
  cases hd : w k with
  | none => simp [validAt, hd] at hv
  | some d =>
    obtain ⟨d', hd', hsp⟩ := clear_keeps_sp C ev k order {} w d hd
    have hv' : validAt C (exec C ev (clearProg k order) {} w).w k = true := by
      rw [validAt_of_sp_eq C hd hd' hsp]; exact hv
    simp only [run, resetProg]
    rw [exec_seq]
    split
    · rename_i hok
      rw [exec_init_valid C ev k v false _ _ hv']
      exact outcome_eta_ok _ hok
    · rfl

/-- `reset()` never removes THE JOB: if the job validates before, then after EVERY schedule its
    directory is still there, its state-point file is untouched, and it still validates -/
theorem reset_keeps_job (C : Codec Sp) (ev : Nat → Option Ev) (k : Key) (order : List Ref) (v : Sp)
    (w : World Sp) (d : JobDir Sp) (hd : w k = some d) (hv : validAt C w k = true) :
    ∃ d', (run C ev (resetProg C k order v) w).w k = some d' ∧ d'.sp = d.sp ∧
      validAt C (run C ev (resetProg C k order v) w).w k = true := by
  rw [reset_of_valid_job_is_clear C ev k order v w hv]
  obtain ⟨d', hd', hsp⟩ := clear_keeps_job C ev k order w d hd
  exact ⟨d', hd', hsp, (validAt_of_sp_eq C hd hd' hsp).trans hv⟩

/-- … and whatever the state-point file looks like (absent, torn, foreign): the directory of an
    existing job is still there after `reset`, under every schedule -/
theorem reset_keeps_dir (C : Codec Sp) (ev : Nat → Option Ev) (k : Key) (order : List Ref) (v : Sp)
    (w : World Sp) (hd : (w k).isSome = true) : ((run C ev (resetProg C k order v) w).w k).isSome = true := by
  obtain ⟨d, hd⟩ := Option.isSome_iff_exists.mp hd
  obtain ⟨d1, hd1, _⟩ := clear_keeps_job C ev k order w d hd
  rw [resetProg, run_seq]
  split
  · have h := (init_safe C k v (run C ev (clearProg k order) w).w
      (shiftEv (run C ev (clearProg k order) w).acc.n ev)).1
    rw [hd1] at h
    obtain ⟨d2, hd2, _⟩ := h
    rw [Outcome.after_w, hd2]; rfl
  · rw [hd1]; rfl

/-- frame: every other job directory is identical after `reset`, under every schedule -/
theorem reset_others_untouched (C : Codec Sp) (ev : Nat → Option Ev) (k : Key) (order : List Ref) (v : Sp)
    (w : World Sp) {k' : Key} (hk : k' ≠ k) : (run C ev (resetProg C k order v) w).w k' = w k' :=
  exec_frame C ev [k] (seq_all (clearProg_all k order List.mem_cons_self) (initProg_all C k v false List.mem_cons_self))
    w {} fun h => hk (List.mem_singleton.mp h)

/-- a consumed fault never ends in a normal return (any pre-state), provided ENOENT is not
    injected — `clear` reads ENOENT as "not there" (`Op.readsENOENT (.clear k order)`); the proviso
    is needed: `reset_enoent_swallowed`.  If the process did not die, an exception propagates. -/
theorem reset_fault_raises (C : Codec Sp) (ev : Nat → Option Ev) (k : Key) (order : List Ref) (v : Sp)
    (w : World Sp) (hne : (Op.clear k order : Op Sp).readsENOENT → NoENOENT ev)
    (hf : (run C ev (resetProg C k order v) w).faulted = true) :
    (run C ev (resetProg C k order v) w).res ≠ .ok ∧
    ((run C ev (resetProg C k order v) w).res ≠ .crashed →
      ∃ n, (run C ev (resetProg C k order v) w).res = .exc n) := by
  have h := (reset_okClean C ev (hne trivial) k order v w).not_ok_of_faulted hf
  exact ⟨h, Res.exc_of_ne h⟩

/-- a normal return means done: the whole outcome is that of the event-free run (ENOENT not injected) … -/
theorem reset_ok_means_done (C : Codec Sp) (ev : Nat → Option Ev) (k : Key) (order : List Ref) (v : Sp)
    (w : World Sp) (hne : (Op.clear k order : Op Sp).readsENOENT → NoENOENT ev)
    (hok : (run C ev (resetProg C k order v) w).res = .ok) :
    run C ev (resetProg C k order v) w = run C noEv (resetProg C k order v) w :=
  run_eq_noEv_of_ok C ev _ w hok (reset_okClean C ev (hne trivial) k order v w hok)

/-- … and for a settled job whose directory the scan order enumerates, that is: payload removed,
    document reset to `{}`, state-point file (and every other directory) as before -/
theorem reset_ok_final_state (C : Codec Sp) (ev : Nat → Option Ev) (k : Key) (order : List Ref) (v : Sp)
    (w : World Sp) (d : JobDir Sp) (hne : (Op.clear k order : Op Sp).readsENOENT → NoENOENT ev)
    (hw : w k = some d) (hd : Settled C k.2 d) (hs : Scans (fun p => getEntry p d.entries) order)
    (hok : (run C ev (resetProg C k order v) w).res = .ok) :
    (run C ev (resetProg C k order v) w).w = upd w k (some { d with entries := [(docName, some "{}")] }) := by
  rw [reset_ok_means_done C ev k order v w hne hok,
    reset_of_valid_job_is_clear C noEv k order v w (validAt_of_settled C hw hd), run_noEv_w,
    clear_ev0 C k order w d hw hd hs]

/-- the event-free `reset` of such a job does return normally (non-vacuity of the two above) -/
theorem reset_event_free_ok (C : Codec Sp) (k : Key) (order : List Ref) (v : Sp) (w : World Sp) (d : JobDir Sp)
    (hw : w k = some d) (hd : Settled C k.2 d) (hs : Scans (fun p => getEntry p d.entries) order) :
    (run C noEv (resetProg C k order v) w).res = .ok := by
  rw [reset_of_valid_job_is_clear C noEv k order v w (validAt_of_settled C hw hd), run_noEv_res,
    clear_ev0 C k order w d hw hd hs]

/-- the ENOENT proviso is needed: the unlink of the data file `f` (step 0) fails with an injected
    ENOENT; `clear` reads it as "not there" and stops, `init` finds a valid job — normal return with
    a consumed fault, `f` still there, no document; the event-free run deletes `f` and writes `{}` -/
theorem reset_enoent_swallowed :
    let o := run cexCodec (faultAt 0 .ENOENT) (resetProg cexCodec cexSrc cexOrder 1) cexW
    let o0 := run cexCodec noEv (resetProg cexCodec cexSrc cexOrder 1) cexW
    o.res = .ok ∧ o.faulted = true ∧ hasFile o.w cexSrc "f" = true ∧ hasFile o.w cexSrc docName = false ∧
      o0.res = .ok ∧ hasFile o0.w cexSrc "f" = false ∧ hasFile o0.w cexSrc docName = true := by
  decide +kernel

/-- the regression `reset = remove(); init()` (`removeThenInitProg`) loses the job: the job of
    `cexW` validates; steps 0–2 are the removal (unlink state point, unlink `f`, rmdir), step 3
    would be `init`'s mkdir; the process dies right after the last step of the removal — no
    directory is left.  (`reset_keeps_job` excludes this for `resetProg`, for every schedule.) -/
theorem remove_then_init_loses_job :
    let o := run cexCodec (crashAt 3) (removeThenInitProg cexCodec cexSrc cexOrder 1) cexW
    validAt cexCodec cexW cexSrc = true ∧ o.res = .crashed ∧ o.w cexSrc = none :=
  ⟨by decide +kernel, by decide +kernel, Option.isNone_iff_eq_none.mp (by decide +kernel)⟩

/-- the same with a handled I/O error: `init`'s mkdir (step 3) fails with EIO, an exception
    propagates, and the job is gone -/
theorem remove_then_init_loses_job_fault :
    let o := run cexCodec (faultAt 3 .EIO) (removeThenInitProg cexCodec cexSrc cexOrder 1) cexW
    o.res = .exc "OSError(EIO)" ∧ o.w cexSrc = none :=
  ⟨by decide +kernel, Option.isNone_iff_eq_none.mp (by decide +kernel)⟩

/-- hence "the job stays under every schedule" separates the two implementations: it holds of
    `resetProg` (`reset_keeps_job`) and fails for `removeThenInitProg` -/
theorem remove_then_init_not_keeps_job :
    ¬ ∀ (ev : Nat → Option Ev), ∃ d',
        (run cexCodec ev (removeThenInitProg cexCodec cexSrc cexOrder 1) cexW).w cexSrc = some d' := by
  intro h
  obtain ⟨d', hd'⟩ := h (crashAt 3)
  rw [remove_then_init_loses_job.2.2] at hd'
  cases hd'

/-- non-vacuity of `reset_keeps_job` / `clear_keeps_job` on the same instance and schedule -/
example : cexW cexSrc = some cexS ∧ validAt cexCodec cexW cexSrc = true ∧
    (run cexCodec (crashAt 3) (resetProg cexCodec cexSrc cexOrder 1) cexW).res = .crashed :=
  ⟨if_pos rfl, by decide +kernel, by decide +kernel⟩

end Signac.C11
