/-
  Refinement — the file-system level lifecycle programs (model of C11, `Signac.Lifecycle`)
  implement the abstract workspace operations (the sentences of C04; model `Signac.Workspace`).
  Property theorems only (lemmas: Signac/Proofs/LifeRefine.lean, LifeRefineWs.lean).

  Layering:   step program, run event-free   ──absW──▶   abstract operation (`Op.spec`)   ◀──WsRel──   `Ws.step`

  * `Clean C w`   every directory of the world is settled: complete state-point file whose hash is
                  the directory name, no backup, no stray temp files, payload paths distinct and
                  non-empty (`Settled`).  The state between operations of a healthy workspace.
  * `absW w`      (project, id) ↦ (state point, payload as path ↦ bytes | directory).
  * `Refines C prog w spec`:  the event-free run `run C noEv prog w` returns `(spec (absW w)).2`,
                  ends in a `Clean` world, and `absW final = (spec (absW w)).1`.
  * `Scans P order`: `order` lists each item of the directory once (state-point file, one `file`
                  per file path, one `dir` per directory path), as `scandir` would.

  Trusted reading: model-to-model.  Both models are tied to the Python code separately, by the
  differential tests of their drivers; nothing here talks about the code itself, about events
  (crashes / faults: C11), or about handles and caches (C03/C04/C08).
-/
import Signac.Proofs.LifeRefineWs
import Signac.Proofs.LifeExactRuns
import Signac.Proofs.LifeEnoent
namespace Signac.Refinement
open Signac Signac.Life Signac.Refine

variable {Sp : Type}

/-- `Job.init()`: an absent job (no directory — or an existing EMPTY directory) becomes
    `(v, no payload)`; an existing job is left alone; the result is ok.  `force` plays no role. -/
theorem init_refines (C : Codec Sp) (k : Key) (v : Sp) (force : Bool) (w : World Sp)
    (hc : CleanBut C w k) (hv : C.hash v = k.2) : Refines C (initProg C k v force) w (specInit k v) :=
  Life.init_refines C k v force w hc hv

/-- state-point change `x → y` with new state point `v` from a clean world: `y` absent ⟹ `y` holds
    `x`'s payload with state point `v` and `x` is gone; `y` present ⟹ DestinationExistsError and
    nothing changes; `x` absent ⟹ ok and nothing changes -/
theorem rekey_refines (C : Codec Sp) (x y : Key) (v : Sp) (w : World Sp) (hxy : x ≠ y)
    (hc : Clean C w) (hv : C.hash v = y.2) : Refines C (rekeyProg C x y v) w (specRekey x y v) :=
  Life.rekey_refines C x y v w hxy hc hv

/-- the code's peculiarity: re-key onto an existing EMPTY directory succeeds exactly as onto an
    absent one (`os.replace` accepts an empty target); `CleanBut C w y` = clean except that `y` may
    be an empty directory, which the abstraction does not see -/
theorem rekey_onto_empty_dir (C : Codec Sp) (x y : Key) (v : Sp) (w : World Sp) (hxy : x ≠ y)
    (hc : CleanBut C w y) (hv : C.hash v = y.2) (hx : (w x).isSome = true) :
    Refines C (rekeyProg C x y v) w (specRekey x y v) :=
  Life.rekey_refines_emptyDst C x y v w hxy hc hv hx

/-- `Job.move` `a → b` (same id, other project): as re-key, state point kept; a job that is not
    there: RuntimeError -/
theorem move_refines (C : Codec Sp) (a b : Key) (w : World Sp) (hab : a ≠ b) (hid : a.2 = b.2)
    (hc : Clean C w) : Refines C (moveProg a b) w (specMove a b) :=
  Life.move_refines C a b w hab hid hc

theorem move_onto_empty_dir (C : Codec Sp) (a b : Key) (w : World Sp) (hab : a ≠ b) (hid : a.2 = b.2)
    (hc : CleanBut C w b) (hx : (w a).isSome = true) : Refines C (moveProg a b) w (specMove a b) :=
  Life.move_refines_emptyDst C a b w hab hid hc hx

/-- `Project.clone` (copytree, entry by entry in scan order): `dst` gets a copy of state point and
    payload, `src` unchanged; `dst` present: DestinationExistsError; `src` absent: ValueError -/
theorem clone_refines (C : Codec Sp) (src dst : Key) (order : List Ref) (w : World Sp) (hid : src.2 = dst.2)
    (hc : Clean C w) (hs : ∀ v P, absW w src = some (v, P) → Scans P order) :
    Refines C (cloneProg src dst order) w (specClone src dst) :=
  Life.clone_refines C src dst order w hid hc hs

/-- `Job.remove()` (rmtree in scan order): the job disappears -/
theorem remove_refines (C : Codec Sp) (k : Key) (order : List Ref) (w : World Sp) (hc : Clean C w)
    (hs : ∀ v P, absW w k = some (v, P) → Scans P order) : Refines C (removeProg k order) w (specRemove k) :=
  Life.remove_refines C k order w hc hs

/-- `Job.clear()`: the state point stays, the payload becomes `emptyDoc` — every file and
    directory goes and an empty job document `{}` is written -/
theorem clear_refines (C : Codec Sp) (k : Key) (order : List Ref) (w : World Sp) (hc : Clean C w)
    (hs : ∀ v P, absW w k = some (v, P) → Scans P order) : Refines C (clearProg k order) w (specClear k) :=
  Life.clear_refines C k order w hc hs

/-- all operations at once -/
theorem op_refines (C : Codec Sp) (op : Op Sp) (w : World Sp) (hc : Clean C w) (hp : op.pre C (absW w)) :
    Refines C (op.prog C) w op.spec := Life.op_refines C op w hc hp

/-- simulation: every finite history of operations, each run event-free, from a clean world ends
    in a clean world whose abstraction is the fold of the abstract operations over the
    abstraction of the initial world; the results agree one by one -/
theorem history_refines (C : Codec Sp) (ops : List (Op Sp)) (w : World Sp) (hc : Clean C w)
    (hp : PreOps C ops (absW w)) :
    Clean C (runOps C ops w).1 ∧ absW (runOps C ops w).1 = (specOps ops (absW w)).1 ∧
      (runOps C ops w).2 = (specOps ops (absW w)).2 := by
  induction ops generalizing w with
  | nil => exact ⟨hc, rfl, rfl⟩
  | cons op ops ih =>
    obtain ⟨hres, hclean, habs⟩ := op_refines C op w hc hp.1
    have ih := ih (run C noEv (op.prog C) w).w hclean (habs ▸ hp.2)
    simp only [runOps, specOps]
    rw [habs] at ih
    exact ⟨ih.1, ih.2.1, by rw [hres, ih.2.2]⟩

/- ---- the abstract operations are what `Ws.step` does to the job tables (`WsRel`, projects 0, 1;
        `R` relates a payload to (document, files)) ---- -/
section ws
variable {R : PayRel} (C : Codec JVal)

theorem init_square (w : Life.World JVal) (ws : Ws.World) (hc : Clean C w) (hrel : WsRel R (absW w) ws)
    (h : String) (hd : Ws.Handle) (f : Bool) (hh : Ws.alookup h ws.handles = some hd) (hp : hd.proj < 2)
    (hR : R noPayload [] []) :
    let o := run C noEv (initProg C (hd.proj, C.hash hd.sp) hd.sp f) w
    Clean C o.w ∧ WsRel R (absW o.w) (Ws.step C.hash ws (.init h)).1 ∧
      o.res = resMap (Ws.step C.hash ws (.init h)).2 := glue (Life.init_refines C _ hd.sp f w (hc.but _) rfl) (ws_init C.hash hrel h hd hh hp hR)

/-- `Ws.rekey` is what `spset`, `spdel`, `spnest`, `spassign`, `update` of `Ws.step` reduce to -/
theorem rekey_square (w : Life.World JVal) (ws : Ws.World) (hc : Clean C w) (hrel : WsRel R (absW w) ws)
    (hd : Ws.Handle) (newSp : JVal) (hp : hd.proj < 2) (hne : C.hash hd.sp ≠ C.hash newSp) :
    let o := run C noEv (rekeyProg C (hd.proj, C.hash hd.sp) (hd.proj, C.hash newSp) newSp) w
    Clean C o.w ∧ WsRel R (absW o.w) (Ws.rekey C.hash ws hd newSp).1 ∧
      o.res = resMap (Ws.rekey C.hash ws hd newSp).2 := glue (Life.rekey_refines C _ _ newSp w (fun e => hne (congrArg Prod.snd e)) hc rfl) (ws_rekey C.hash hrel hd newSp hp hne)

theorem move_square (w : Life.World JVal) (ws : Ws.World) (hc : Clean C w) (hrel : WsRel R (absW w) ws)
    (h : String) (hd : Ws.Handle) (p : Nat) (hh : Ws.alookup h ws.handles = some hd) (hp : hd.proj < 2)
    (hp' : p < 2) (hne : hd.proj ≠ p) :
    let o := run C noEv (moveProg (hd.proj, C.hash hd.sp) (p, C.hash hd.sp)) w
    Clean C o.w ∧ WsRel R (absW o.w) (Ws.step C.hash ws (.move h p)).1 ∧
      o.res = resMap (Ws.step C.hash ws (.move h p)).2 := glue (Life.move_refines C (hd.proj, C.hash hd.sp) (p, C.hash hd.sp) w (fun e => hne (congrArg Prod.fst e)) rfl hc)
    (ws_move C.hash hrel h hd p hh hp hp' hne)

theorem clone_square (w : Life.World JVal) (ws : Ws.World) (hc : Clean C w) (hrel : WsRel R (absW w) ws)
    (h h2 : String) (hd : Ws.Handle) (p : Nat) (order : List Ref) (hh : Ws.alookup h ws.handles = some hd)
    (hp : hd.proj < 2) (hp' : p < 2)
    (hs : ∀ v P, absW w (hd.proj, C.hash hd.sp) = some (v, P) → Scans P order) :
    let o := run C noEv (cloneProg (hd.proj, C.hash hd.sp) (p, C.hash hd.sp) order) w
    Clean C o.w ∧ WsRel R (absW o.w) (Ws.step C.hash ws (.clone h p h2)).1 ∧
      o.res = resMap (Ws.step C.hash ws (.clone h p h2)).2 :=
  glue (Life.clone_refines C (hd.proj, C.hash hd.sp) (p, C.hash hd.sp) order w rfl hc hs)
    (ws_clone C.hash hrel h h2 hd p hh hp hp')

theorem remove_square (w : Life.World JVal) (ws : Ws.World) (hc : Clean C w) (hrel : WsRel R (absW w) ws)
    (h : String) (hd : Ws.Handle) (order : List Ref) (hh : Ws.alookup h ws.handles = some hd) (hp : hd.proj < 2)
    (hs : ∀ v P, absW w (hd.proj, C.hash hd.sp) = some (v, P) → Scans P order) :
    let o := run C noEv (removeProg (hd.proj, C.hash hd.sp) order) w
    Clean C o.w ∧ WsRel R (absW o.w) (Ws.step C.hash ws (.remove h)).1 ∧
      o.res = resMap (Ws.step C.hash ws (.remove h)).2 := glue (Life.remove_refines C _ order w hc hs) (ws_remove C.hash hrel h hd hh hp)

theorem clear_square (w : Life.World JVal) (ws : Ws.World) (hc : Clean C w) (hrel : WsRel R (absW w) ws)
    (h : String) (hd : Ws.Handle) (order : List Ref) (hh : Ws.alookup h ws.handles = some hd) (hp : hd.proj < 2)
    (hs : ∀ v P, absW w (hd.proj, C.hash hd.sp) = some (v, P) → Scans P order) (hR : R emptyDoc [] []) :
    let o := run C noEv (clearProg (hd.proj, C.hash hd.sp) order) w
    Clean C o.w ∧ WsRel R (absW o.w) (Ws.step C.hash ws (.clear h)).1 ∧
      o.res = resMap (Ws.step C.hash ws (.clear h)).2 := glue (Life.clear_refines C _ order w hc hs) (ws_clear C.hash hrel h hd hh hp hR)

/-- the two empty workspaces are related, for every `R` -/
theorem empty_related : WsRel R (absW (Sp := JVal) (fun _ => none)) Ws.World.empty := by
  intro q _ i
  simp only [Ws.World.jobs, Ws.World.empty]
  split <;> simp [absW, Ws.alookup, Rel1]

end ws

/- ---- non-vacuity: concrete instances of the hypotheses ---- -/
/-- the world of the C11 counter-example (one job `j` in project 0 with a data file `f`) is clean -/
theorem cexW_clean : Clean cexCodec cexW := by
  intro k d h
  simp only [cexW] at h
  split at h
  · cases h; subst_vars
    exact ⟨⟨1, rfl, rfl⟩, rfl, rfl, by simp [cexS], by simp [cexS]⟩
  · cases h

theorem absW_cexW :
    absW cexW = aupd (fun _ => none) cexSrc (some (1, fun p => getEntry p [("f", some "data")])) := by
  funext k
  simp only [absW, cexW, aupd, cexSrc]
  by_cases h : k = (0, "j")
  · simp only [h, if_true]; rfl
  · simp only [h, if_false]; rfl

/-- `[sp, file f]` scans the directory of job `j` -/
theorem scans_cex : Scans (fun p => getEntry p [("f", some "data")]) cexOrder := by
  refine ⟨by decide, ?_⟩
  intro r
  simp only [cexOrder, List.mem_cons, List.not_mem_nil, or_false, getEntry]
  constructor
  · rintro (rfl | rfl)
    · exact Or.inl rfl
    · exact Or.inr (Or.inl ⟨"f", "data", rfl, by simp⟩)
  · rintro (rfl | ⟨p, b, rfl, h⟩ | ⟨p, rfl, h⟩)
    · exact Or.inl rfl
    · split at h
      · subst_vars; exact Or.inr rfl
      · cases h
    · split at h <;> cases h

def cexOps : List (Op Nat) :=
  [.clone cexSrc cexDst cexOrder, .rekey cexSrc (0, "x") 2, .remove cexDst cexOrder,
   .clear (0, "x") cexOrder, .init cexSrc 1 false, .move (0, "x") (1, "x")]

/-- a history using every operation (clone with a data file, re-key, remove, clear, init, move)
    satisfies the preconditions of `history_refines` from a clean world with a non-trivial job -/
theorem cexOps_pre : PreOps cexCodec cexOps (absW cexW) := by
  rw [absW_cexW]
  refine ⟨⟨rfl, ?_⟩, ⟨by decide, rfl⟩, ?_, ?_, rfl, ⟨by decide, rfl⟩, trivial⟩
  · intro v P h
    simp [aupd, cexSrc] at h
    obtain ⟨_, rfl⟩ := h
    exact scans_cex
  · intro v P h
    simp [Op.spec, specClone, specRekey, aupd, cexSrc, cexDst] at h
    obtain ⟨_, rfl⟩ := h
    exact scans_cex
  · intro v P h
    simp [Op.spec, specClone, specRekey, specRemove, aupd, cexSrc, cexDst] at h
    obtain ⟨_, rfl⟩ := h
    exact scans_cex

/-- … and the event-free runs return ok six times -/
example : (runOps cexCodec cexOps cexW).2 = [.ok, .ok, .ok, .ok, .ok, .ok] := by
  rw [(history_refines cexCodec cexOps cexW cexW_clean cexOps_pre).2.2, absW_cexW]
  simp [cexOps, specOps, Op.spec, specClone, specRekey, specRemove, specClear, specInit, specMove, aupd,
    cexSrc, cexDst]

/-- `rekey_onto_empty_dir`: a world that is clean except for an empty directory at the target -/
example : CleanBut cexCodec (upd cexW (0, "x") (some {})) (0, "x") ∧ cexSrc ≠ (0, "x") ∧
    cexCodec.hash 2 = "x" ∧ (upd cexW (0, "x") (some {}) cexSrc).isSome = true ∧
    (upd cexW (0, "x") (some {}) (0, "x")).isSome = true := by
  refine ⟨?_, by decide, rfl, by decide, by decide⟩
  intro k d h
  simp only [upd] at h
  split at h
  · cases h; exact Or.inr ⟨by assumption, rfl⟩
  · exact Or.inl (cexW_clean k d h)

/-- a payload relation satisfying both side conditions of the squares: files by name, the empty
    document is "no document file" or `{}` -/
def stdRel : PayRel := fun P doc files =>
  (∀ n, n ≠ docName → P n = (Ws.alookup n files).map some) ∧
  (doc = [] → P docName = none ∨ P docName = some (some "{}"))

example : stdRel noPayload [] [] ∧ stdRel emptyDoc [] [] := by
  refine ⟨⟨fun n _ => rfl, fun _ => Or.inl rfl⟩, ⟨fun n hn => ?_, fun _ => Or.inr ?_⟩⟩
  · simp [emptyDoc, hn, Ws.alookup]
  · simp [emptyDoc]

/- ================================================================================================
   Step level: "never rewrites" (C02) and "a collision leaves both jobs byte-identical" (C04).
   `Outcome.acc` records every step ANNOUNCED to the file system (performed, failed by itself, or
   faulted): `n` their number, `trace` the steps newest first, `faulted` whether a fault was consumed.
   `{}` is the empty record (n = 0, trace = [], faulted = false).  World equalities are exact.
   ================================================================================================ -/

/-- C02: `init()` of a settled job — under EVERY event schedule (crash, torn write, fault at any
    position) — announces no step: nothing is written, no event can fire, the world is untouched, the
    result is ok.  Only directory `k` is constrained; `v` and `force` are arbitrary (in particular
    `force = false`), and the hypothesis actually used is just `validAt C w k` (`exec_init_valid`). -/
theorem init_settled_no_step (C : Codec Sp) (ev : Nat → Option Ev) (k : Key) (v : Sp) (force : Bool)
    (w : World Sp) (d : JobDir Sp) (hw : w k = some d) (hd : Settled C k.2 d) :
    run C ev (initProg C k v force) w = ⟨w, .ok, {}⟩ :=
  exec_init_valid C ev k v force {} w (validAt_of_settled C hw hd)

/-- … so it coincides with the event-free run: a crash "during" a re-init cannot damage a valid job -/
theorem init_settled_any_schedule (C : Codec Sp) (ev : Nat → Option Ev) (k : Key) (v : Sp) (force : Bool)
    (w : World Sp) (d : JobDir Sp) (hw : w k = some d) (hd : Settled C k.2 d) :
    run C ev (initProg C k v force) w = run C noEv (initProg C k v force) w := by
  rw [init_settled_no_step C ev k v force w d hw hd, init_settled_no_step C noEv k v force w d hw hd]

/-- the first `init()` of an absent job: exactly mkdir, open temp, write temp, rename temp onto the
    state-point file (no Clean needed) -/
theorem init_fresh_trace (C : Codec Sp) (k : Key) (v : Sp) (force : Bool) (w : World Sp) (hk : w k = none)
    (hv : C.hash v = k.2) :
    run C noEv (initProg C k v force) w =
      ⟨upd w k (some { sp := some (.ok v) }), .ok,
       ⟨4, [.tmpCommit k spName, .tmpWrite k spName (.ok v), .tmpOpen k spName, .mkdir k], false⟩⟩ :=
  init_fresh_run C k v force w hk hv

/-- C02 idempotence: after a successful first `init()` a second one (any arguments, any schedule)
    announces no step -/
theorem init_twice_no_step (C : Codec Sp) (ev : Nat → Option Ev) (k : Key) (v v' : Sp) (f f' : Bool)
    (w : World Sp) (hk : w k = none) (hv : C.hash v = k.2) :
    let w1 := (run C noEv (initProg C k v f) w).w
    run C ev (initProg C k v' f') w1 = ⟨w1, .ok, {}⟩ := Life.init_twice_no_step C ev k v v' f f' w hk hv

/-- C04: re-key / move / clone onto a destination holding a settled job, event-free, source settled
    (other directories arbitrary): DestinationExistsError and the final world IS the initial world.
    Re-key announces three steps — the state-point file of `x` is parked as `…json~`, the rename
    fails by itself (ENOTEMPTY), the rollback renames the file back —; move announces the one failing
    rename; clone the one failing `mkdir`. -/
theorem rekey_collision_no_damage (C : Codec Sp) (x y : Key) (v : Sp) (order : List Ref) (w : World Sp)
    (D D' : JobDir Sp) (hxy : x ≠ y) (hx : w x = some D) (hD : Settled C x.2 D)
    (hy : w y = some D') (hD' : Settled C y.2 D') :
    run C noEv (rekeyProg C x y v) w =
      ⟨w, destExists, ⟨3, [.bakToSp x, .renameDir x y, .spToBak x], false⟩⟩ ∧
    run C noEv (moveProg x y) w = ⟨w, destExists, ⟨1, [.renameDir x y], false⟩⟩ ∧
    run C noEv (cloneProg x y order) w = ⟨w, destExists, ⟨1, [.cpMkdir y ""], false⟩⟩ := by
  obtain ⟨v0, hsp, hh⟩ := hD.sp
  exact ⟨rekey_collision_exact C x y v hxy hx hsp hh hD.bak hy (settled_not_empty C hD'),
    move_collision_exact C x y w D D' hx hy (settled_not_empty C hD'),
    clone_collision_exact C x y order w D D' hx hy⟩

/-- the three re-key steps one by one: park changes `x`, the rename fails and changes nothing, the
    rollback gives back exactly the initial world -/
theorem rekey_collision_steps (C : Codec Sp) (x y : Key) (w : World Sp) (D D' : JobDir Sp) (c : Content Sp)
    (hxy : x ≠ y) (hx : w x = some D) (hsp : D.sp = some c) (hb : D.bak = none)
    (hy : w y = some D') (hD' : D'.isEmpty = false) :
    let w1 := upd w x (some { D with sp := none, bak := some c })
    apply C w (.spToBak x) = .ok w1 ∧ apply C w1 (.renameDir x y) = .error .ENOTEMPTY ∧
      apply C w1 (.bakToSp x) = .ok w := by
  refine ⟨apply_spToBak C hx hsp,
    apply_renameDir_taken C (upd_same ..) ((upd_other _ _ (Ne.symm hxy)).trans hy) hD', ?_⟩
  rw [apply_bakToSp C (upd_same ..) rfl, upd_upd_same, ← hsp, upd_bak_none x hx hb]

/-- exactness has one proviso, visible when `x` is NOT required to be settled: a stale backup file
    `…json~` that `x` already had is overwritten by the parking step and gone afterwards — that is
    the only difference (strays and payload of `x`, `y`, everything else: identical) -/
theorem rekey_collision_stale_backup (C : Codec Sp) (x y : Key) (v v0 : Sp) (w : World Sp) (D D' : JobDir Sp)
    (hxy : x ≠ y) (hx : w x = some D) (hsp : D.sp = some (.ok v0)) (hh : C.hash v0 = x.2)
    (hy : w y = some D') (hD' : D'.isEmpty = false) :
    run C noEv (rekeyProg C x y v) w =
      ⟨upd w x (some { D with bak := none }), destExists,
       ⟨3, [.bakToSp x, .renameDir x y, .spToBak x], false⟩⟩ :=
  rekey_collision_run C x y v hxy hx hsp hh hy hD'

/-- one injected fault (`e ≠ ENOENT`) in a re-key collision.
    Fault in the parking step or in the rename: the world is still exactly the initial one (for the
    rename whatever `y` holds; the exception is DestinationExistsError for EEXIST/ENOTEMPTY/EACCES).
    Fault in the ROLLBACK: NOT restored — the state-point file of `x` stays parked as backup, which is
    the whole difference; `x` is then reported by `check()` (this is the C11 `rekey_safe` alternative
    "exception ⇒ old job intact or a directory reported by check()", made exact). -/
theorem rekey_collision_single_fault (C : Codec Sp) (x y : Key) (v v0 : Sp) (w : World Sp) (D D' : JobDir Sp)
    (e : Errno) (he : e ≠ .ENOENT) (hxy : x ≠ y) (hx : w x = some D) (hD : Settled C x.2 D)
    (hsp : D.sp = some (.ok v0)) (hy : w y = some D') (hD' : Settled C y.2 D') :
    run C (faultAt 0 e) (rekeyProg C x y v) w = ⟨w, osExc e, ⟨1, [.spToBak x], true⟩⟩ ∧
    run C (faultAt 1 e) (rekeyProg C x y v) w =
      ⟨w, if e = .EEXIST ∨ e = .ENOTEMPTY ∨ e = .EACCES then destExists else osExc e,
       ⟨3, [.bakToSp x, .renameDir x y, .spToBak x], true⟩⟩ ∧
    run C (faultAt 2 e) (rekeyProg C x y v) w =
      ⟨upd w x (some { D with sp := none, bak := some (.ok v0) }), osExc e,
       ⟨3, [.bakToSp x, .renameDir x y, .spToBak x], true⟩⟩ ∧
    corruptAt C (upd w x (some { D with sp := none, bak := some (.ok v0) })) x = true := by
  have hh : C.hash v0 = x.2 := by
    obtain ⟨v1, h1, h2⟩ := hD.sp
    rw [hsp] at h1; cases h1; exact h2
  refine ⟨?_, ?_, ?_, corrupt_of_sp_none C _ x _ (upd_same ..) rfl⟩
  · rw [run, rekeyProg_eq, exec_fault C rfl]
    exact congrArg (exec C _ · _ _) (if_neg he)
  · -- the rollback runs and the reloaded file validates
    rw [run, rekeyProg_eq, exec_none_ok C rfl (apply_spToBak C hx hsp), exec_fault C rfl,
      rollback_run C x y v v0 he (upd_same ..) rfl hh _ rfl, upd_upd_same, ← hsp, upd_bak_none x hx hD.bak]
    rfl
  · rw [run, rekeyProg_eq, exec_none_ok C rfl (apply_spToBak C hx hsp), exec_none_err C rfl
      (apply_renameDir_taken C (upd_same ..) ((upd_other _ _ (Ne.symm hxy)).trans hy) (settled_not_empty C hD'))]
    unfold rekeyRollback
    rw [exec_fault C rfl]
    exact congrArg (exec C _ · _ _) (if_neg he)

/- ---- non-vacuity ---- -/
/-- `init_settled_no_step` / `init_twice_no_step`: job `j` of the C11 counter-example world is settled
    (the world holds a data file, so "nothing rewritten" is not about an empty directory);
    `(0, "x")` is absent and `hash 2 = "x"` -/
example : cexW cexSrc = some cexS ∧ Settled cexCodec cexSrc.2 cexS ∧ cexW (0, "x") = none ∧
    cexCodec.hash 2 = "x" :=
  ⟨if_pos rfl, cexW_clean cexSrc cexS (if_pos rfl), if_neg (by decide), rfl⟩

/-- a world with two more settled jobs: a copy of `j` in project 1 and job `x` in project 0 -/
def cexW2 : World Nat := upd (upd cexW cexDst (some cexS)) (0, "x") (some { sp := some (.ok 2) })

/-- `rekey_collision_no_damage` / `rekey_collision_single_fault`: source `j`, destination `x` (re-key)
    resp. the copy in project 1 (move, clone) -/
example : cexSrc ≠ (0, "x") ∧ cexW2 cexSrc = some cexS ∧ Settled cexCodec cexSrc.2 cexS ∧
    cexW2 (0, "x") = some { sp := some (.ok 2) } ∧
    Settled cexCodec "x" ({ sp := some (.ok 2) } : JobDir Nat) ∧
    cexSrc ≠ cexDst ∧ cexW2 cexDst = some cexS ∧ Settled cexCodec cexDst.2 cexS :=
  ⟨by decide, (upd_other _ _ (by decide)).trans ((upd_other _ _ (by decide)).trans (if_pos rfl)),
   cexW_clean cexSrc cexS (if_pos rfl), upd_same .., settled_fresh cexCodec "x" 2 rfl, by decide,
   (upd_other _ _ (by decide)).trans (upd_same ..), cexW_clean cexSrc cexS (if_pos rfl)⟩

/- ================================================================================================
   Every schedule: "a lifecycle operation that returns normally did exactly what its specification
   says" (lemmas: Signac/Proofs/LifeRun.lean, LifeAllOps.lean).
   A run that consumed no fault and did not die is the event-free run (`run_eq_noEv_of_quiet`, all
   programs); a normal return of init / move / clone consumed no fault under ANY schedule; a normal
   return of re-key / remove / clear consumed no fault unless ENOENT was INJECTED — these three read
   ENOENT as "not there" and go on, so the unrestricted statement is false (`ok_means_done_false`).
   ================================================================================================ -/

/-- all programs: no fault consumed and no death ⇒ the run IS the event-free run (whole outcome:
    world, result, step count, trace, flag) -/
theorem quiet_run_is_event_free (C : Codec Sp) (ev : Nat → Option Ev) (p : Prog Sp) (w : World Sp)
    (hf : (run C ev p w).faulted = false) (hc : (run C ev p w).res ≠ .crashed) :
    run C ev p w = run C noEv p w := run_eq_noEv_of_quiet C ev p w hf hc

/-- all six operations (re-key: `x ≠ y`): a normal return is the event-free run, provided ENOENT
    is not injected into re-key / remove / clear (`Op.readsENOENT`) -/
theorem ok_run_is_event_free_partial (C : Codec Sp) (op : Op Sp) (hd : op.distinct) (ev : Nat → Option Ev)
    (hne : op.readsENOENT → NoENOENT ev) (w : World Sp) (hok : (run C ev (op.prog C) w).res = .ok) :
    run C ev (op.prog C) w = run C noEv (op.prog C) w :=
  run_eq_noEv_of_ok C ev _ w hok (op_okClean C op hd ev hne w hok)

/-- the statement asked for, over ALL schedules -/
def ok_means_done_full : Prop :=
  ∀ (Sp : Type) (C : Codec Sp) (op : Op Sp) (w : World Sp) (ev : Nat → Option Ev),
    Clean C w → op.pre C (absW w) → (run C ev (op.prog C) w).res = .ok →
    Clean C (run C ev (op.prog C) w).w ∧ absW (run C ev (op.prog C) w).w = (op.spec (absW w)).1 ∧
      (op.spec (absW w)).2 = .ok

/-- **ok_means_done**, the true variant: from a clean world, an operation with its abstract
    precondition, ANY schedule (deaths, torn writes, faults anywhere — only ENOENT must not be
    injected into re-key / remove / clear): if the call returns normally, the final world is clean,
    its abstraction is the abstract operation's result state, the abstract result is ok as well —
    and the run is the event-free run. -/
theorem ok_means_done_partial (C : Codec Sp) (op : Op Sp) (w : World Sp) (hc : Clean C w)
    (hp : op.pre C (absW w)) (ev : Nat → Option Ev) (hne : op.readsENOENT → NoENOENT ev)
    (hok : (run C ev (op.prog C) w).res = .ok) :
    Clean C (run C ev (op.prog C) w).w ∧ absW (run C ev (op.prog C) w).w = (op.spec (absW w)).1 ∧
      (op.spec (absW w)).2 = .ok ∧ run C ev (op.prog C) w = run C noEv (op.prog C) w := by
  have hd : op.distinct := by
    cases op <;> simp only [Op.distinct]
    exact hp.1
  have h := ok_run_is_event_free_partial C op hd ev hne w hok
  obtain ⟨h1, h2, h3⟩ := op_refines C op w hc hp
  rw [h] at hok ⊢
  exact ⟨h2, h3, by rw [← h1, hok], rfl⟩

/-- init, move, clone: under EVERY schedule, no proviso -/
theorem ok_means_done_any_schedule (C : Codec Sp) (op : Op Sp) (hn : ¬ op.readsENOENT) (w : World Sp)
    (hc : Clean C w) (hp : op.pre C (absW w)) (ev : Nat → Option Ev)
    (hok : (run C ev (op.prog C) w).res = .ok) :
    Clean C (run C ev (op.prog C) w).w ∧ absW (run C ev (op.prog C) w).w = (op.spec (absW w)).1 ∧
      (op.spec (absW w)).2 = .ok :=
  have h := ok_means_done_partial C op w hc hp ev (fun h => absurd h hn) hok
  ⟨h.1, h.2.1, h.2.2.1⟩

/-- re-key, remove, clear: every schedule without an injected ENOENT -/
theorem ok_means_done_noENOENT (C : Codec Sp) (op : Op Sp) (w : World Sp) (hc : Clean C w)
    (hp : op.pre C (absW w)) (ev : Nat → Option Ev) (hne : NoENOENT ev)
    (hok : (run C ev (op.prog C) w).res = .ok) :
    Clean C (run C ev (op.prog C) w).w ∧ absW (run C ev (op.prog C) w).w = (op.spec (absW w)).1 ∧
      (op.spec (absW w)).2 = .ok :=
  have h := ok_means_done_partial C op w hc hp ev (fun _ => hne) hok
  ⟨h.1, h.2.1, h.2.2.1⟩

theorem cex_remove_pre : (Op.remove cexSrc cexOrder : Op Nat).pre cexCodec (absW cexW) :=
  cexOps_pre.1.2

/-- witness 1 (remove): the first unlink fails with an injected ENOENT, `remove()` returns normally
    and NOTHING was removed: the final world is clean, but the job the abstract operation deleted
    is still there -/
theorem remove_ok_but_not_done :
    let o := run cexCodec (faultAt 0 .ENOENT) ((Op.remove cexSrc cexOrder : Op Nat).prog cexCodec) cexW
    o.res = .ok ∧ (absW o.w cexSrc).isSome = true ∧
      (((Op.remove cexSrc cexOrder : Op Nat).spec (absW cexW)).1 cexSrc).isSome = false := by
  decide +kernel

/-- witness 2 (re-key): the removal of the parked backup fails with an injected ENOENT, the re-key
    returns normally and the new directory keeps a backup file holding the OLD state point: not a
    clean world -/
theorem rekey_ok_but_not_clean :
    let o := run cexCodec (faultAt 2 .ENOENT) ((Op.rekey cexSrc (0, "x") 2 : Op Nat).prog cexCodec) cexW
    o.res = .ok ∧ ¬ Clean cexCodec o.w := by
  refine ⟨rekey_enoent_swallowed.1, fun hcl => ?_⟩
  have hb := rekey_enoent_swallowed.2.2.2.1
  simp only [bakPresent] at hb
  split at hb
  · rename_i d hd
    have := (hcl (0, "x") d hd).bak
    rw [this] at hb; cases hb
  · cases hb

/-- hence the statement over ALL schedules is false of the model (the code reads ENOENT as
    "not there" by design; C11 excludes injected ENOENT for the same reason) -/
theorem ok_means_done_false : ¬ ok_means_done_full := by
  intro h
  have h1 := h Nat cexCodec (.remove cexSrc cexOrder) cexW (faultAt 0 .ENOENT) cexW_clean cex_remove_pre
    remove_ok_but_not_done.1
  have h2 := remove_ok_but_not_done.2.1
  have h3 := remove_ok_but_not_done.2.2
  rw [h1.2.1, h3] at h2
  cases h2

/- ---- non-vacuity ---- -/
/-- `ok_means_done_partial`: the clean world `cexW`, a re-key `j → x` (6 steps: park, rename, drop the
    backup, open / write / rename the new state-point file) under a schedule with a process death
    placed at step 6, i.e. right AFTER the last step of the run: hypotheses hold, the call returns ok -/
example : Clean cexCodec cexW ∧ (Op.rekey cexSrc (0, "x") 2 : Op Nat).pre cexCodec (absW cexW) ∧
    ((Op.rekey cexSrc (0, "x") 2 : Op Nat).readsENOENT → NoENOENT (crashAt 6)) ∧
    crashAt 6 6 = some .crash ∧
    (run cexCodec (crashAt 6) ((Op.rekey cexSrc (0, "x") 2 : Op Nat).prog cexCodec) cexW).res = .ok ∧
    (run cexCodec (crashAt 6) ((Op.rekey cexSrc (0, "x") 2 : Op Nat).prog cexCodec) cexW).acc.n = 6 ∧
    (run cexCodec (crashAt 5) ((Op.rekey cexSrc (0, "x") 2 : Op Nat).prog cexCodec) cexW).res = .crashed :=
  ⟨cexW_clean, ⟨by decide, rfl⟩, fun _ => noENOENT_crashAt 6, rfl, by decide +kernel⟩

/-- the same with a consumed non-ENOENT fault: never ok (so `ok_means_done_partial` is not about
    fault-free schedules only, its hypothesis `res = ok` does the selecting) -/
example : NoENOENT (faultAt 2 .EIO) ∧
    (run cexCodec (faultAt 2 .EIO) ((Op.rekey cexSrc (0, "x") 2 : Op Nat).prog cexCodec) cexW).res ≠ .ok :=
  ⟨noENOENT_faultAt 2 .EIO (by decide), by decide⟩

/-- `ok_means_done_any_schedule`: init of an absent job (4 steps: mkdir, open / write / rename the
    state-point file) under a schedule with an (even ENOENT) fault placed right after the last step -/
example : ¬ (Op.init (0, "x") 2 false : Op Nat).readsENOENT ∧
    (Op.init (0, "x") 2 false : Op Nat).pre cexCodec (absW cexW) ∧
    (run cexCodec (faultAt 4 .ENOENT) ((Op.init (0, "x") 2 false : Op Nat).prog cexCodec) cexW).res = .ok :=
  ⟨fun h => h, rfl, by decide⟩

end Signac.Refinement
