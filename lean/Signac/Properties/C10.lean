/-
  C10 — documents and the cache file are replaced atomically.
  Lemmas: Signac/Proofs/FsCrash.lean, FsProto.lean; the model (steps, crash states, discipline,
  protocols) is Signac/FsSteps.lean.

  Reading guide.  `crashStates fs steps` is every state a process death can leave (before each
  step, after every proper prefix of every write chunk, after the last step); `f t` is what is
  at path `t` in state `f`; `readLog` is what reader steps placed among the steps see.  All
  statements hold for any content unit `α`, any number and size of chunks, any pre-state `fs`.
-/
import Signac.Proofs.FsProto
namespace Signac.C10
open Signac.Fs
variable {α : Type}

/-- The crash-prefix theorem (DESIGN §4, C10): when no step of `pre` touches the target, then in every
    crash state of `pre ++ [rename tmp t]` the target holds its old node or exactly what the
    temp file held when the writer finished `pre` — never anything in between. -/
theorem atomic_replace {t tmp : Path} (hu : unrelated tmp t = true) (pre : List (Step α))
    (hpre : ∀ s ∈ pre, touches t s = false) (fs : FS α) :
    ∀ f ∈ crashStates fs (pre ++ [.rename tmp t]), f t = fs t ∨ f t = run fs pre tmp :=
  atomic_replace_last hu pre hpre fs

/-- ... also with trailing steps that leave the target alone. -/
theorem atomic_replace_trailing {t tmp : Path} (hu : unrelated tmp t = true) (pre post : List (Step α))
    (hpre : ∀ s ∈ pre, touches t s = false) (hpost : ∀ s ∈ post, touches t s = false) (fs : FS α) :
    ∀ f ∈ crashStates fs (pre ++ [.rename tmp t] ++ post), f t = fs t ∨ f t = run fs pre tmp :=
  atomic_replace_framed hu pre post hpre hpost fs

/-- The general discipline (any number of writes to the same target, anything in between):
    if the only steps touching `t` are renames onto `t` of unrelated, closed files, every crash
    state shows the old node or exactly the file some rename moved in, as it was at that rename. -/
theorem atomic_discipline {t : Path} {steps : List (Step α)} (h : AtomicOn t steps = true) (fs : FS α) :
    ∀ f ∈ crashStates fs steps,
      f t = fs t ∨ ∃ pre a post, steps = pre ++ .rename a t :: post ∧ f t = run fs pre a :=
  renameOnly_crash (atomicScan_renameOnly h) fs

/-- Absent target: absent or complete, never an empty or partial file. -/
theorem absent_or_complete {t : Path} {steps : List (Step α)} (h : AtomicOn t steps = true) (fs : FS α)
    (habs : fs t = none) :
    ∀ f ∈ crashStates fs steps,
      f t = none ∨ ∃ pre a post, steps = pre ++ .rename a t :: post ∧ f t = run fs pre a :=
  fun f hf => (atomic_discipline h fs f hf).imp (·.trans habs) id

/-- The state the driver computes for a crash point `(k, p)` is a crash state, and every crash
    state is the state of some crash point — so the theorems speak about what the harness injects. -/
theorem crash_point_is_crash_state (fs : FS α) (steps : List (Step α)) (k p : Nat) :
    crashAt fs steps k p ∈ crashStates fs steps := mem_crashStates_iff_crashAt.mpr ⟨k, p, rfl⟩

theorem crash_state_is_crash_point {fs f : FS α} {steps : List (Step α)} (h : f ∈ crashStates fs steps) :
    ∃ k p, f = crashAt fs steps k p := mem_crashStates_iff_crashAt.mp h

/-- A reader step placed anywhere sees the target's old node or a complete new one. -/
theorem reader_sees_old_or_new {t : Path} {steps : List (Step α)} (h : AtomicOn t steps = true) (fs : FS α)
    {v : Option (Node α)} (hv : (t, v) ∈ readLog fs steps) :
    v = fs t ∨ ∃ pre a post, steps = pre ++ .rename a t :: post ∧ v = run fs pre a := by
  obtain ⟨f, hf, rfl⟩ := readLog_crashState hv
  exact atomic_discipline h fs f hf

/-- "Anywhere": inserting the reader step at any position of a disciplined writer keeps the
    discipline and does not change what the writer does. -/
theorem reader_anywhere {t p : Path} (pre post : List (Step α)) (h : AtomicOn t (pre ++ post) = true)
    (fs : FS α) :
    AtomicOn t (pre ++ .read p :: post) = true ∧ run fs (pre ++ .read p :: post) = run fs (pre ++ post) :=
  ⟨by rw [AtomicOn, atomicScan_append, atomicScan_read_cons, ← atomicScan_append]; exact h,
   by rw [run_append, run_read_cons, ← run_append]⟩

/-- Whatever differs from the pre-state in a crash state was touched by a step ... -/
theorem crash_changes_only_touched {p : Path} {steps : List (Step α)} {fs f : FS α}
    (hf : f ∈ crashStates fs steps) (hd : f p ≠ fs p) : ∃ s ∈ steps, touches p s = true :=
  Decidable.byContradiction fun hn =>
    hd (crash_untouched (fun s hs => Bool.eq_false_iff.mpr fun ht => hn ⟨s, hs, ht⟩) fs f hf)

/-- ... so a crashed temp+replace write differs from the pre-state at most at the target and at
    the temp file (`under x p`: `p` is `x` or below it; nothing is below a file). -/
theorem strays_only_tmp {tmp t : Path} (chunks : List (List α)) (fs f : FS α)
    (hf : f ∈ crashStates fs (docWrite tmp t chunks)) (p : Path) (hd : f p ≠ fs p) :
    under t p = true ∨ under tmp p = true := by
  obtain ⟨s, hs, ht⟩ := crash_changes_only_touched hf hd
  exact (docWrite_touches hs ht).symm

/-- The temp+replace protocol: satisfies the discipline; every crash state shows the old node or
    the complete blob; a completed write delivers exactly the blob and leaves no temp file. -/
theorem docWrite_atomic {tmp t : Path} (hu : unrelated tmp t = true) (chunks : List (List α)) (fs : FS α) :
    AtomicOn t (docWrite tmp t chunks) = true
    ∧ (∀ f ∈ crashStates fs (docWrite tmp t chunks), f t = fs t ∨ f t = some (.file chunks.flatten))
    ∧ run fs (docWrite tmp t chunks) t = some (.file chunks.flatten)
    ∧ run fs (docWrite tmp t chunks) tmp = none :=
  ⟨docWrite_atomicOn hu chunks, docWrite_crash hu chunks fs, docWrite_delivers hu chunks fs⟩

/-- A reader at any position of a temp+replace write sees the old node or the complete blob. -/
theorem docWrite_reader {tmp t : Path} (hu : unrelated tmp t = true) (chunks : List (List α)) (fs : FS α)
    (pre post : List (Step α)) (hw : pre ++ post = docWrite tmp t chunks) {v : Option (Node α)}
    (hv : (t, v) ∈ readLog fs (pre ++ .read t :: post)) :
    v = fs t ∨ v = some (.file chunks.flatten) := by
  obtain ⟨f, hf, rfl⟩ := readLog_crashState hv
  exact docWrite_crash hu chunks fs f (hw ▸ mem_crashStates_of_insert_read hf)

/-- `JSONCollection._save_to_resource` (job and project documents, state point file): the temp
    name `._<uuid>_<name>` is a sibling different from the target, so the protocol theorem applies. -/
theorem jsonSave_atomic {t : Path} (ht : t ≠ []) (chunks : List (List α)) (fs : FS α) :
    AtomicOn t (jsonSave t chunks) = true
    ∧ (∀ f ∈ crashStates fs (jsonSave t chunks), f t = fs t ∨ f t = some (.file chunks.flatten))
    ∧ run fs (jsonSave t chunks) t = some (.file chunks.flatten)
    ∧ run fs (jsonSave t chunks) (tmpOf t) = none :=
  docWrite_atomic (tmpOf_unrelated ht) chunks fs

/-- `Project.update_cache`: gzip member chunks to `<name>~`, then replace. -/
theorem cacheWrite_atomic {t : Path} (ht : t ≠ []) (chunks : List (List α)) (fs : FS α) :
    AtomicOn t (cacheWrite t chunks) = true
    ∧ (∀ f ∈ crashStates fs (cacheWrite t chunks), f t = fs t ∨ f t = some (.file chunks.flatten))
    ∧ run fs (cacheWrite t chunks) t = some (.file chunks.flatten)
    ∧ run fs (cacheWrite t chunks) (tildeOf t) = none :=
  docWrite_atomic (tildeOf_unrelated ht) chunks fs

/-- A buffered flush (one temp+replace write per dirty file, files pairwise unrelated): for
    EVERY file of the flush the discipline holds, every crash state shows its old node or its
    complete new blob, and the completed flush delivers every blob. -/
theorem flush_atomic {ws : List (W α)} (hu : pairwiseUnrelated (flushPaths ws) = true) (fs : FS α) :
    ∀ w ∈ ws,
      AtomicOn w.t (flush ws) = true
      ∧ (∀ f ∈ crashStates fs (flush ws), f w.t = fs w.t ∨ f w.t = some (.file w.chunks.flatten))
      ∧ run fs (flush ws) w.t = some (.file w.chunks.flatten) := by
  intro w hw
  -- the flush is: writes that leave `w.t` alone, the write of `w`, writes that leave `w.t` alone
  obtain ⟨ws1, ws2, e, h, h1, h2⟩ := flush_split hu hw
  rw [e]
  refine ⟨?_, crash_frame h1 h2 fs (docWrite_crash h _ _), ?_⟩
  · rw [AtomicOn, List.append_assoc, atomicScan_append, atomicScan_untouched h1, track_flush,
      atomicScan_append, atomicScan_untouched h2, Bool.and_true]
    exact docWrite_atomicOn h _
  · rw [run_append, run_untouched h2, run_append]
    exact (docWrite_delivers h _ _).1

/-- What the driver establishes on a REAL trace: when `asFlush steps = some ws`, the recorded
    steps are literally a flush over unrelated paths, so the theorem above speaks about them. -/
theorem real_trace_atomic [DecidableEq α] {steps : List (Step α)} {ws : List (W α)}
    (h : asFlush steps = some ws) (fs : FS α) :
    ∀ w ∈ ws,
      AtomicOn w.t steps = true
      ∧ (∀ f ∈ crashStates fs steps, f w.t = fs w.t ∨ f w.t = some (.file w.chunks.flatten))
      ∧ run fs steps w.t = some (.file w.chunks.flatten) := by
  obtain ⟨rfl, hu⟩ := asFlush_sound h
  exact flush_atomic hu fs

/-- The model tells the two protocols apart: writing the target in place violates the discipline
    and has a crash state with a torn target (here: empty), for every old content that is not
    empty and every non-empty new blob. -/
theorem direct_write_not_atomic (t : Path) (old new : List α) (ho : old ≠ []) (hn : new ≠ [])
    (fs : FS α) (hfs : fs t = some (.file old)) :
    AtomicOn t [.create t, .append t new, .close t] = false
    ∧ ∃ f ∈ crashStates fs [.create t, .append t new, .close t],
        f t ≠ fs t ∧ f t ≠ run fs [.create t, .append t new, .close t] t := by
  -- the witness is the state right after `create`: the target is empty
  refine ⟨?_, apply fs (.create t), run_mem_crashStates fs [.create t] _, ?_, ?_⟩
  · show (!decide (t = t) && _) = false
    rw [decide_eq_true rfl]
    rfl
  · simp [apply, upd, hfs, ho.symm]
  · simp [run, apply, upd, hn.symm]

/-! ### non-vacuity -/

def exT : Path := ["workspace", "42b7", "signac_job_document.json"]
def exCache : Path := [".signac", "statepoint_cache.json.gz"]
def exFs : FS Nat := fun q => if q = exT then some (.file [0]) else if q = exCache then some (.file [9]) else none

/- hypotheses of `atomic_replace` / `atomic_replace_trailing`: a writer with three chunks -/
example : unrelated (tmpOf exT) exT = true
    ∧ (∀ s ∈ ([.create (tmpOf exT), .append (tmpOf exT) [1, 2], .append (tmpOf exT) [], .append (tmpOf exT) [3],
               .close (tmpOf exT)] : List (Step Nat)), touches exT s = false)
    ∧ (∀ s ∈ ([.mkdir ["workspace", "ffff"], .read exT] : List (Step Nat)), touches exT s = false) := by
  decide +kernel

/- hypothesis of `atomic_discipline` / `reader_sees_old_or_new`: two successive writes of the same
   document with a reader and unrelated steps in between; and of `absent_or_complete` -/
example : AtomicOn exT (jsonSave exT [[1, 2], [3]] ++ [.read exT, .mkdir ["x"]] ++ jsonSave exT [[4]]
            : List (Step Nat)) = true
    ∧ (fun _ => none : FS Nat) exT = none := by decide +kernel

/- the reader of that trace does occur in the read log, with the complete first blob -/
example : (exT, some (Node.file [1, 2, 3])) ∈
    readLog exFs (jsonSave exT [[1, 2], [3]] ++ [.read exT, .mkdir ["x"]] ++ jsonSave exT [[4]]) := by
  decide +kernel

/- hypotheses of `jsonSave_atomic`, `cacheWrite_atomic`, `flush_atomic`, `real_trace_atomic` -/
example : exT ≠ [] ∧ exCache ≠ [] ∧ tildeOf exCache = [".signac", "statepoint_cache.json.gz~"]
    ∧ tmpOf exT = ["workspace", "42b7", "._TMP_signac_job_document.json"] := by decide +kernel

example : pairwiseUnrelated (flushPaths
      ([⟨tmpOf exT, exT, [[1], [2]]⟩, ⟨tildeOf exCache, exCache, [[3]]⟩] : List (W Nat))) = true
    ∧ asFlush (flush ([⟨tmpOf exT, exT, [[1], [2]]⟩, ⟨tildeOf exCache, exCache, [[3]]⟩] : List (W Nat)))
        = some [⟨tmpOf exT, exT, [[1], [2]]⟩, ⟨tildeOf exCache, exCache, [[3]]⟩] := by decide +kernel

/- hypothesis of `docWrite_reader`: a split of the writer -/
example : ([.create (tmpOf exT), .append (tmpOf exT) [1]] : List (Step Nat))
      ++ [.close (tmpOf exT), .rename (tmpOf exT) exT]
    = docWrite (tmpOf exT) exT [[1]] := rfl

/- hypotheses of `direct_write_not_atomic` -/
example : ([0] : List Nat) ≠ [] ∧ ([1, 2] : List Nat) ≠ [] ∧ exFs exT = some (.file [0]) :=
  ⟨by decide, by decide, if_pos rfl⟩

end Signac.C10
