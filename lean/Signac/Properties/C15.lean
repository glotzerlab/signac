/-
  C15 — sync options are honoured: dry-run writes nothing, deep, exclude, selection, parallel.

  Same model as C13 (Signac/Sync.lean), i.e. the code with the fixes F-15a…f applied: every
  file mutation is gated by the proxy (also `copytree`), nested documents are proxied, `deep` is
  forwarded to the job level, `copytree` prunes excluded names, a dry run onto a missing
  destination job is a no-op.  Property theorems only; proofs in Signac/Proofs/Sync*.lean.
-/
import Signac.Proofs.SyncDry
import Signac.Proofs.SyncParallel
namespace Signac.C15
open Signac Signac.Sync

/-- With `dry_run=True` no mutating step is performed and the destination is
    returned unchanged — at every entry point, for every outcome. -/
theorem dry_run_no_step (o : Opts) (h : o.dry = true) (e : Entry) (w : World) :
    (run o e w).log = [] ∧ (w.after o e).dst = w.dst ∧ (w.after o e).src = w.src :=
  ⟨(run_dry o h e w).1, (run_dry o h e w).2, rfl⟩

/-- The dry run reports exactly what the real run from the same state reports:
    ok, FileSyncConflict(f), DocumentSyncConflict(keys), SchemaSyncConflict, ….  Hypotheses: directory
    listings of the source have distinct names; source job documents have distinct keys; the
    implicit exclude patterns match the file names they are made from (`TablesOk`, true of
    `re.match`). -/
theorem dry_run_same_outcome (o : Opts) (e : Entry) (w : World) (hw : WFEntries (wsOf w.src))
    (ht : TablesOk o)
    (hdoc : ∀ id sjob, getE id (wsOf w.src) = some (.dir sjob) →
      (keys (docOf Extracted.FN_JOB_DOCUMENT sjob)).Nodup) :
    (run o.asDry e w).err = (run o e w).err := (run_err_dry o e w hw ht hdoc).symm

/-- Under `deep=True` two files differ iff their bytes differ, whatever their
    sizes' and timestamps' relation (equal bytes have equal size). -/
theorem deep_by_content (a b : FMeta) (h : SizeOfCid a b) : differs true a b = true ↔ a.cid ≠ b.cid :=
  differs_deep_iff a b h

/-- … at the job level: with `deep` and no strategy a reachable non-excluded file with different
    bytes — even with equal size and mtime — makes `sync_jobs` raise FileSyncConflict … -/
theorem deep_conflict_detected (o : Opts) (hdeep : o.deep = true) (sjob djob : Entries) (n : Name)
    (p : Path) (ms md : FMeta) (hwf : WFEntries sjob) (hb : Both sjob djob n p ms md)
    (hrec : p ≠ [] → o.recursive = true) (hsz : SizeOfCid ms md) (hbytes : ms.cid ≠ md.cid)
    (hx : excluded o (lastName n p) = false) (hst : o.strategy = Strategy.none) :
    ∃ fn, (syncJobDirs o sjob djob).err = some (.fileConflict fn) := by
  have hdiff : differs o.deep ms md = true := by rw [hdeep]; exact (differs_deep_iff ms md hsz).mpr hbytes
  have hne := walk_conflict_fails o hb [] hwf hrec hdiff hx hst
  cases he : (walkDir o [] (.dir sjob) djob).err with
  | none => exact absurd he hne
  | some e =>
    obtain ⟨fn, hfn⟩ := walkDir_err_kind o [] (.dir sjob) djob e he
    exact ⟨fn, by simp only [syncJobDirs, he, hfn]⟩

/-- … and at the project level: a successful project sync has run `sync_jobs` with the very same
    options (in particular the same `deep`) on every selected job that existed, so with `deep`
    and no strategy such a job has no reachable non-excluded file with different bytes. -/
theorem deep_at_project_level (o : Opts) (hdry : o.dry = false) (hdeep : o.deep = true) (w : World)
    (id : Name) (sjob djob ws : Entries) (n : Name) (p : Path) (ms md : FMeta)
    (hnd : (names (wsOf w.src)).Nodup) (hs : getE id (wsOf w.src) = some (.dir sjob))
    (hsel : selected o id = true) (hws : getE WS w.dst = some (.dir ws))
    (hd : getE id ws = some (.dir djob))
    (hwf : WFEntries sjob) (hb : Both sjob djob n p ms md) (hrec : p ≠ [] → o.recursive = true)
    (hsz : SizeOfCid ms md) (hbytes : ms.cid ≠ md.cid) (hx : excluded o (lastName n p) = false)
    (hst : o.strategy = Strategy.none) :
    (run o .project w).err ≠ none := by
  intro hok
  have h := syncProjects_ok o w.src w.dst hok
  simp only [run] at hok
  rw [h.2] at hok
  have hws' : getE WS (syncDoc o Extracted.FN_PROJECT_DOCUMENT w.src ⟨w.dst, []⟩).d = some (.dir ws) := by
    rw [getE_WS_syncDoc]; exact hws
  obtain ⟨fn, hfn⟩ := deep_conflict_detected o hdeep sjob djob n p ms md hwf hb hrec hsz hbytes hx hst
  rcases syncJobs_job o hdry id sjob (wsOf w.src) _ ws hnd hs hsel hws' hok with ⟨h0, _⟩ | ⟨dj, h1, h2, _⟩ | ⟨m, h1⟩
  · rw [hd] at h0; cases h0
  · rw [hd] at h1; cases h1
    rw [hfn] at h2; cases h2
  · rw [hd] at h1; cases h1

/-- Existing job: a path whose last name is excluded and that the
    destination does not have is not created; a destination file with an excluded name is not
    modified — in every run, at every depth (the walk, and `copytree` of a missing directory). -/
theorem exclude_never_touched (o : Opts) (sjob djob : Entries) (n : Name) (p : Path) (hwf : WFEntries sjob)
    (hx : excluded o (lastName n p) = true)
    (h1 : n ≠ Extracted.FN_JOB_DOCUMENT) (h2 : n ≠ Extracted.FN_JOB_DOCUMENT ++ "~") :
    (lookupP n p djob = none → lookupP n p (syncJobDirs o sjob djob).d = none) ∧
    (∀ md, lookupP n p djob = some (.file md) → lookupP n p (syncJobDirs o sjob djob).d = some (.file md)) := by
  rw [syncJobDirs_lookup o sjob djob n p h1 h2]
  exact ⟨fun h => (walk_excluded o p n [] sjob djob hwf hx (by simp [h])).trans h,
         fun md h => (walk_excluded o p n [] sjob djob hwf hx (by simp [h])).trans h⟩

/-- Cloned job: a clone holds no top-level name matching a user pattern
    (other than the state point and the document) and, below the top level, no path whose last
    name matches a user pattern. -/
theorem exclude_never_cloned (o : Opts) (sjob : Entries) (n : Name) :
    (cloneIgnored o n = true → lookupP n [] (cloneJob o sjob) = none) ∧
    (∀ k q, o.userExcl (lastName k q) = true → lookupP n (k :: q) (cloneJob o sjob) = none) := by
  refine ⟨fun h => by simp [lookupP, cloneJob, getE_copyTop, h], fun k q h => ?_⟩
  simp only [lookupP, cloneJob, getE_copyTop]
  cases cloneIgnored o n with
  | true => simp
  | false =>
    simp only [Bool.false_eq_true, if_false]
    cases hg : getE n sjob with
    | none => simp
    | some c =>
      cases c with
      | file m => simp [copyNode]
      | dir ch =>
        simp only [Option.map, copyNode]
        exact copy_lookup_ignored o.now o.userExcl q k ch h

/-- A job outside the selection (or one the source does not have) is
    neither created nor modified by a project sync, in every run. -/
theorem unselected_never_touched (o : Opts) (w : World) (id : Name)
    (h : ∀ sn, (id, sn) ∈ wsOf w.src → selected o id = false) :
    getE id (wsOf (w.after o .project).dst) = getE id (wsOf w.dst) := by
  simp only [World.after, run]
  rcases syncProjects_ws o w.src w.dst with h' | h'
  · rw [h']
  · rw [h', syncJobs_job_other o id (wsOf w.src) h, wsOf_syncDoc]

/-- The steps logged for one job all have their footprint inside that
    job's directory (`head_under`), steps with different footprints commute, hence two schedules
    (e.g. the sequential one and any interleaving produced by the thread pool) that contain each
    job's steps in the same order leave every job directory in the same state.  Assumes each
    step is atomic. -/
theorem parallel_eq_sequential (ws : Entries) (l1 l2 : List Step)
    (h : ∀ job, stepsOf job l1 = stepsOf job l2) (job : Name) :
    getE job (applyAll ws l1) = getE job (applyAll ws l2) := schedules_agree ws l1 l2 h job

/-- the per-job step lists have pairwise disjoint footprints -/
theorem per_job_footprint (id k : Name) (ss : List Step) :
    stepsOf k (ss.map (Step.under id)) = if id = k then ss.map (Step.under id) else [] := by
  by_cases h : id = k
  · subst h; simp [stepsOf_map_under_same]
  · simp [h, stepsOf_map_under_other h]

/-! non-vacuity -/

def exOpts (dry deep : Bool) : Opts :=
  { strategy := .none, docSync := .byKey none, recursive := true,
    userExcl := fun n => n == "skip.log",
    spPat := fun n => n == Extracted.FN_STATE_POINT,
    docPat := fun n => n == Extracted.FN_JOB_DOCUMENT || n == Extracted.FN_JOB_DOCUMENT ++ "~",
    selection := some ["j1"], checkSchema := false, gate := false, dry := dry, deep := deep, now := 9 }

def exSrcJob : Entries :=
  [("both", .file ⟨4, 3, 5, none⟩), ("d", .dir [("skip.log", .file ⟨3, 2, 5, none⟩)]), ("f", .file ⟨8, 1, 5, none⟩)]
def exDstJob : Entries := [("both", .file ⟨5, 3, 5, none⟩)]

def exWorld : World :=
  { src := [(WS, .dir [("j1", .dir exSrcJob), ("j2", .dir exSrcJob)])],
    dst := [(WS, .dir [("j1", .dir exDstJob)])] }

example : WFEntries (wsOf exWorld.src) ∧ TablesOk (exOpts false true) ∧
    (run (exOpts true true) .project exWorld).err = some (.fileConflict "both") ∧
    (run (exOpts true false) .project exWorld).err = none :=
  ⟨by simp [WFEntries, WFNode, exWorld, wsOf, getE, WS, exSrcJob, names],
   ⟨⟨by simp [exOpts], by simp [exOpts]⟩, by simp [exOpts]⟩, by rfl, by decide +kernel⟩

example : Both exSrcJob exDstJob "both" [] ⟨4, 3, 5, none⟩ ⟨5, 3, 5, none⟩ ∧
    SizeOfCid ⟨4, 3, 5, none⟩ ⟨5, 3, 5, none⟩ ∧ excluded (exOpts false true) (lastName "d" ["skip.log"]) = true ∧
    lookupP "d" ["skip.log"] exDstJob = none ∧
    (∀ sn, ("j2", sn) ∈ wsOf exWorld.src → selected (exOpts false false) "j2" = false) :=
  ⟨Both.top (by rfl) (by rfl), by simp [SizeOfCid], by decide +kernel, by rfl, fun _ _ => by decide +kernel⟩

example : ∀ job, stepsOf job [Step.put "a" ["x"] (.dir []), .put "b" [] (.dir []), .del "a" ["y"]] =
    stepsOf job [Step.put "b" [] (.dir []), .put "a" ["x"] (.dir []), .del "a" ["y"]] := by
  intro job
  simp only [stepsOf, List.filter, Step.head]
  cases ha : "a" == job <;> cases hb : "b" == job <;> first
    | rfl
    | exact absurd ((beq_iff_eq.mp ha).trans (beq_iff_eq.mp hb).symm) (by simp)

end Signac.C15
