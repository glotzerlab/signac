/-
  C09 — state point corruption is always detected, never accepted, and repairable.
  Model: Signac.Cache (workspace listing with each directory's state point file as
  absent / parsed value / unparsable, cache file, session cache); what `json.loads`
  makes of each file is given (`SpFile`; the harness reports which of the three a damaged file is).
-/
import Signac.Proofs.CacheRepairRename
namespace Signac.C09
open Signac Signac.Ws Signac.Cache

variable (hash : JVal → String)

/-- Never accepted: whatever bytes the file holds, a load that succeeds returns a value whose
    hash is the directory name. -/
theorem load_sound (d : Dir) (id : String) (v : JVal) (h : loadValid hash d id = some v) : hash v = id :=
  loadValid_hash h

/-- check() names exactly the damaged jobs: those whose file is missing, unparsable, or parses to a
    value with another hash (which covers truncation, byte damage, replacement by other JSON and
    renamed directories alike). -/
theorem check_exact (s : St) (id : String) :
    id ∈ check hash s ↔ ∃ d, (id, d) ∈ s.ws ∧
      (d.sp = .absent ∨ d.sp = .garbage ∨ ∃ v, d.sp = .valid v ∧ hash v ≠ id) :=
  Cache.check_exact s id

/-- check() passes iff every directory validates. -/
theorem check_passes_iff (s : St) : check hash s = [] ↔ AllValid hash s.ws := check_nil_iff s

/-- Opening a job by id in a fresh session never yields a state point whose hash differs from
    the id, for ANY damage to the workspace; it is an error or a correct state point. -/
theorem open_by_id_sound (s : St) (hfile : ∀ c, s.cacheFile = some c → MapInv hash c)
    (id : String) (v : JVal) (hr : (openById hash (newSession s) id).2 = .ok v) : hash v = id :=
  openById_fresh_sound s hfile id v hr

/-- ... and an undamaged job always opens. -/
theorem open_by_id_intact (s : St) (id : String) (d : Dir) (hl : alookup id s.ws = some d)
    (hv : (loadValid hash d id).isSome = true) : ∃ v, (openById hash s id).2 = .ok v :=
  openById_intact s id d hl hv

/-- repair() with every listed job's state point known from the cache (session ∪ cache file):
    nothing is reported, check() passes afterwards, the listing is unchanged and every directory
    keeps its payload (documents and data files are not touched) — for any damage to the state
    point files (missing, unparsable, foreign), any number of jobs. -/
theorem repair_restores_known (s : St) (hc : CacheInv hash s) (hnd : (K s.ws).Nodup)
    (hk : Known hash (readCache s)) :
    (repair hash s).2 = [] ∧ check hash (repair hash s).1 = [] ∧ K (repair hash s).1.ws = K s.ws ∧
    (∀ j d d', alookup j s.ws = some d → alookup j (repair hash s).1.ws = some d' → d'.payload = d.payload) :=
  Cache.repair_restores_known s hc hnd hk

/-- repair() — successful or not, whatever the damage — keeps every entry of the session cache
    and of the cache file sound (a state point read without validation is registered under its
    true id or dropped again). -/
theorem repair_keeps_cache_sound (s : St) (hc : CacheInv hash s) : CacheInv hash (repair hash s).1 :=
  cacheInv_repair s hc

/-- Hence even after repair() followed by update_cache() in the same session, a fresh session
    opening any id gets an error or a state point hashing to that id (this is the sequence on which
    the pinned tree handed out wrong state points, finding F-9d). -/
theorem open_by_id_sound_after_repair (s : St) (hc : CacheInv hash s) (id : String) (v : JVal)
    (hr : (openById hash (newSession (updateCache hash (repair hash s).1).1) id).2 = .ok v) :
    hash v = id :=
  openById_fresh_sound _ (cacheInv_updateCache (cacheInv_repair s hc)).2 id v hr

/-- The stronger reading of "restores" — after repair every payload sits with the state point it
    belonged to — is FALSE of the model (and of the code: known finding F-9b): two directories
    swapped by renaming while the cache knows both ids. -/
def repair_payload_full : Prop :=
  ∀ (s : St), CacheInv (fun v => canonText v) s → (K s.ws).Nodup → Known (fun v => canonText v) (readCache s) →
    ∀ id d v, alookup id s.ws = some d → d.sp = .valid v →
      ∀ id' d', alookup id' (repair (fun v => canonText v) s).1.ws = some d' → d'.payload = d.payload →
        ∃ w, d'.sp = .valid w ∧ canonText w = canonText v

def swapWitness : St :=
  let a : JVal := .obj [("a", .int 1)]
  let b : JVal := .obj [("a", .int 2)]
  { ws := [(canonText a, ⟨.valid b, 2⟩), (canonText b, ⟨.valid a, 1⟩)],
    cacheFile := some [(canonText a, a), (canonText b, b)],
    session := [], cacheRead := false, nextPayload := 3 }

theorem repair_payload_full_false : ¬ repair_payload_full := by
  intro h
  have hc : CacheInv (fun v => canonText v) swapWitness :=
    ⟨nofun, fun _ hc => Option.some.inj hc ▸
      mapInv_of_values [JVal.obj [("a", .int 1)], JVal.obj [("a", .int 2)]]⟩
  obtain ⟨w, hw, he⟩ := h swapWitness hc (by decide +kernel)
    (known_of_isSome (cacheInv_readCache hc).1 (by decide +kernel))
    (canonText (.obj [("a", .int 1)])) ⟨.valid (.obj [("a", .int 2)]), 2⟩ (.obj [("a", .int 2)])
    (by rfl) rfl
    (canonText (.obj [("a", .int 1)])) ⟨.valid (.obj [("a", .int 1)]), 2⟩ (by rfl) rfl
  cases hw
  revert he
  decide +kernel

/- non-vacuity of repair_restores_known: a project whose cache lists two jobs, one state point file
   truncated (unparsable), the other deleted. -/
example :
    let a : JVal := .obj [("a", .int 1)]
    let b : JVal := .obj [("b", .str "x")]
    let s : St := { ws := [(canonText a, ⟨.garbage, 1⟩), (canonText b, ⟨.absent, 2⟩)],
                    cacheFile := some [(canonText a, a), (canonText b, b)],
                    session := [], cacheRead := false, nextPayload := 3 }
    (check (fun v => canonText v) s).length = 2 ∧
    (repair (fun v => canonText v) s).2 = [] ∧
    check (fun v => canonText v) (repair (fun v => canonText v) s).1 = [] := by decide +kernel

/- ---------- the rename route of repair() ---------- -/

/-- A single renamed directory as the loop of repair() meets it (cache just read): directory `id`
    holds an intact state point file with a mapping whose hash is `id' ≠ id`, the cache (session ∪
    cache file) does not know `id`, and `id'` is not listed.  Then `id` is not reported, it is no
    longer listed, `id'` is listed with the same state point file and the same payload (documents
    and data moved along untouched), and every other entry is unchanged.  (Holds for any state:
    neither the cache invariant nor duplicate-freeness of the listing is needed.) -/
theorem repair_rename_one (s : St) (id id' : String) (d : Dir) (kvs : List (String × JVal))
    (hd : alookup id s.ws = some d) (hsp : d.sp = .valid (.obj kvs))
    (hh : hash (.obj kvs) = id') (hne : id' ≠ id) (hfree : id' ∉ K s.ws)
    (hunk : alookup id (readCache s).session = none) :
    (repairOne hash (readCache s) id).2 = false ∧
    (repairOne hash (readCache s) id).1.ws = aerase id s.ws ++ [(id', d)] ∧
    alookup id (repairOne hash (readCache s) id).1.ws = none ∧
    (∃ d', alookup id' (repairOne hash (readCache s) id).1.ws = some d' ∧
        d'.sp = .valid (.obj kvs) ∧ d'.payload = d.payload) ∧
    (∀ j, j ≠ id → j ≠ id' →
        alookup j (repairOne hash (readCache s) id).1.ws = alookup j s.ws) :=
  Cache.repair_rename_one s id id' d kvs hd hsp hh hne hfree hunk

/-- The hypothesis "destination free" matters: if `id'` is occupied by a non-empty directory, `id`
    is reported as corrupted and no directory changes. -/
theorem repair_rename_blocked (s : St) (id id' : String) (d d2 : Dir) (kvs : List (String × JVal))
    (hd : alookup id s.ws = some d) (hsp : d.sp = .valid (.obj kvs))
    (hh : hash (.obj kvs) = id') (hne : id' ≠ id)
    (hocc : alookup id' s.ws = some d2) (hfull : dirEmpty d2 = false)
    (hunk : alookup id (readCache s).session = none) :
    (repairOne hash (readCache s) id).2 = true ∧ (repairOne hash (readCache s) id).1.ws = s.ws :=
  Cache.repair_rename_blocked s id id' d d2 kvs hd hsp hh hne hocc hfull hunk

/-- ... whereas an EMPTY directory at `id'` (no state point file, no payload) is simply replaced. -/
theorem repair_rename_onto_empty (s : St) (id id' : String) (d d2 : Dir) (kvs : List (String × JVal))
    (hd : alookup id s.ws = some d) (hsp : d.sp = .valid (.obj kvs))
    (hh : hash (.obj kvs) = id') (hne : id' ≠ id)
    (hocc : alookup id' s.ws = some d2) (hempty : dirEmpty d2 = true)
    (hunk : alookup id (readCache s).session = none) :
    (repairOne hash (readCache s) id).2 = false ∧
    (repairOne hash (readCache s) id).1.ws = aset id' d (aerase id s.ws) :=
  Cache.repair_rename_onto_empty s id id' d d2 kvs hd hsp hh hne hocc hempty hunk

/-- The whole of repair(), any number of jobs.  `Repairable hash s` (decidable) says: every listed
    directory is known to the cache (session ∪ cache file) or holds an intact mapping — which then
    hashes to the directory name (intact job) or to another id (renamed job); the destination of a
    renamed directory is not a listed id; no two directories have the same destination.
    `dest hash (readCache s).session e` is the destination of entry `e`: its own id if the cache
    knows it, else the hash of the mapping in its state point file.
    Then repair() reports nothing, check() passes afterwards, and the result lists exactly the
    directories of the start — name/payload pairs are a permutation of destination/payload pairs,
    names are duplicate-free — so every payload appears exactly once, for a renamed directory under
    the hash of its own state point and for every other under its old id, in a directory that
    validates. -/
theorem repair_restores_renamed (s : St) (hc : CacheInv hash s) (hnd : (K s.ws).Nodup)
    (hR : Repairable hash s) :
    (repair hash s).2 = [] ∧ check hash (repair hash s).1 = [] ∧
    (K (repair hash s).1.ws).Nodup ∧
    ((repair hash s).1.ws.map pay).Perm
      (s.ws.map fun e => (dest hash (readCache s).session e, e.2.payload)) ∧
    (∀ e, e ∈ s.ws → ∃ d', alookup (dest hash (readCache s).session e) (repair hash s).1.ws = some d' ∧
        d'.payload = e.2.payload ∧ (loadValid hash d' (dest hash (readCache s).session e)).isSome = true) :=
  Cache.repair_restores_renamed s hc hnd hR

/-- `dest` spelled out for a directory the cache knows and for one it does not know that holds a
    mapping (any other directory stays under its name). -/
theorem dest_known (sess : List (String × JVal)) (id : String) (d : Dir)
    (h : (alookup id sess).isSome = true) : dest hash sess (id, d) = id :=
  dest_of_cached h

theorem dest_unknown (sess : List (String × JVal)) (id : String) (d : Dir) (kvs : List (String × JVal))
    (h : alookup id sess = none) (hsp : d.sp = .valid (.obj kvs)) :
    dest hash sess (id, d) = hash (.obj kvs) :=
  dest_of_read h hsp

/- non-vacuity of repair_restores_renamed: two jobs, `a` intact, `b` in a directory renamed to
   "moved" (an id the cache does not know); the cache file lists the two original ids. -/
def renameWitness : St :=
  let a : JVal := .obj [("a", .int 1)]
  let b : JVal := .obj [("b", .str "x")]
  { ws := [(canonText a, ⟨.valid a, 1⟩), ("moved", ⟨.valid b, 2⟩)],
    cacheFile := some [(canonText a, a), (canonText b, b)],
    session := [], cacheRead := false, nextPayload := 3 }

example : CacheInv (fun v => canonText v) renameWitness :=
  ⟨nofun, fun _ hc => Option.some.inj hc ▸
    mapInv_of_values [JVal.obj [("a", .int 1)], JVal.obj [("b", .str "x")]]⟩

example :
    let h : JVal → String := fun v => canonText v
    Repairable h renameWitness ∧ (K renameWitness.ws).Nodup ∧
    check h renameWitness = ["moved"] ∧
    (repair h renameWitness).2 = [] ∧
    check h (repair h renameWitness).1 = [] ∧
    (repair h renameWitness).1.ws.map pay =
      [(canonText (.obj [("a", .int 1)]), 1), (canonText (.obj [("b", .str "x")]), 2)] := by decide +kernel

/- the negative side on a concrete project: the original directory of `b` still exists (with data),
   next to the renamed copy; repair() reports "moved" and leaves the listing alone. -/
example :
    let h : JVal → String := fun v => canonText v
    let b : JVal := .obj [("b", .str "x")]
    let s : St := { ws := [(canonText b, ⟨.valid b, 1⟩), ("moved", ⟨.valid b, 2⟩)],
                    cacheFile := none, session := [], cacheRead := false, nextPayload := 3 }
    ¬ Repairable h s ∧ (repair h s).2 = ["moved"] ∧
    (repair h s).1.ws.map pay = s.ws.map pay := by decide +kernel

/- Why `Repairable` asks an unknown directory to hold a MAPPING rather than merely to validate:
   in the model a directory whose state point file parses to a non-mapping value hashing to the
   directory name passes check() but is reported by repair() (`_get_statepoint(validate=False)`
   yields nothing for it). -/
example :
    let h : JVal → String := fun v => canonText v
    let s : St := { ws := [(canonText (.int 1), ⟨.valid (.int 1), 1⟩)],
                    cacheFile := none, session := [], cacheRead := false, nextPayload := 2 }
    check h s = [] ∧ (repair h s).2 = [canonText (.int 1)] := by decide +kernel

end Signac.C09
