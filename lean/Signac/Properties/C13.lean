/-
  C13 — a successful sync makes the destination a superset and touches nothing else.

  Model: Signac/Sync.lean (`sync_projects`, `sync_jobs`, `Project.clone`, `filecmp.dircmp`,
  `shutil.copy/copytree`, document merge under backup) — with the proposed fixes F-13, F-14a,
  F-15a…f applied.  Strategies and exclusion tables are arbitrary functions; `WFEntries` says
  "names within one directory listing are distinct" (true of every real directory).
-/
import Signac.Proofs.SyncDry
import Signac.Proofs.SyncIdem
import Signac.Proofs.SyncParallel
import Signac.Proofs.SyncIdemFull
import Signac.Proofs.SyncLiveLemmas
import Signac.Proofs.SyncWitness
namespace Signac.C13
open Signac Signac.Sync

/-- Frame: the source project is returned unchanged by every call — successful or not, at every
    entry point. -/
theorem sync_src_frame (o : Opts) (e : Entry) (w : World) : (w.after o e).src = w.src := rfl

/-- Every mutation goes through the proxy: replaying the logged steps — each a `put`/`del` on a
    path of the destination tree — on the destination before the call gives the destination after
    it.  (Together with `sync_src_frame`: "every mutating step targets a path under dst".) -/
theorem sync_steps_on_dst (o : Opts) (e : Entry) (w : World) :
    applyAll w.dst (run o e w).log = (w.after o e).dst := run_refines o e w

/-- What a selected source job has become after a successful real project sync: if it did not
    exist, a clone of the source job; if it did, the result of `sync_jobs` on the pair, which
    succeeded; nothing is said where a regular file stands under the job's id.  (The link from
    the project level to the job-level theorems below.) -/
theorem sync_job_result (o : Opts) (hdry : o.dry = false) (w : World) (id : Name) (sjob ws : Entries)
    (hnd : (names (wsOf w.src)).Nodup) (hs : getE id (wsOf w.src) = some (.dir sjob))
    (hsel : selected o id = true) (hws : getE WS w.dst = some (.dir ws))
    (hok : (run o .project w).err = none) :
    (getE id ws = none ∧
      getE id (wsOf (w.after o .project).dst) = some (.dir (cloneJob o sjob)))
    ∨ (∃ djob, getE id ws = some (.dir djob) ∧ (syncJobDirs o sjob djob).err = none ∧
      getE id (wsOf (w.after o .project).dst) = some (.dir (syncJobDirs o sjob djob).d))
    ∨ (∃ m, getE id ws = some (.file m)) := by
  have h := syncProjects_ok o w.src w.dst hok
  simp only [World.after, run] at hok ⊢
  rw [h.2] at hok ⊢
  exact syncJobs_job o hdry id sjob (wsOf w.src) _ ws hnd hs hsel
    ((getE_syncDoc_other o _ w.src ⟨w.dst, []⟩ WS pdoc_ne_ws pdoc_bak_ne_ws).trans hws) hok

/-- Superset of jobs, same state point: after a successful real project sync every selected source
    job exists in the destination, and its state point file holds the source's bytes — copied if
    the job was cloned, untouched if the job existed (jobs with equal id have equal state point
    files: hypothesis `hsame`, which is C01/C02's business). -/
theorem sync_sp_superset (o : Opts) (hdry : o.dry = false) (w : World) (id : Name) (sjob ws : Entries)
    (m : FMeta) (hnd : (names (wsOf w.src)).Nodup) (hs : getE id (wsOf w.src) = some (.dir sjob))
    (hwf : WFEntries sjob) (hsel : selected o id = true) (hws : getE WS w.dst = some (.dir ws))
    (hm : getE Extracted.FN_STATE_POINT sjob = some (.file m))
    (hsp : o.spPat Extracted.FN_STATE_POINT = true)
    (hsame : ∀ x, getE id ws = some x → ∃ djob md, x = .dir djob ∧
      getE Extracted.FN_STATE_POINT djob = some (.file md) ∧ md.cid = m.cid)
    (hok : (run o .project w).err = none) :
    ∃ dj m', getE id (wsOf (w.after o .project).dst) = some (.dir dj) ∧
      getE Extracted.FN_STATE_POINT dj = some (.file m') ∧ m'.cid = m.cid := by
  rcases sync_job_result o hdry w id sjob ws hnd hs hsel hws hok with ⟨_, h⟩ | ⟨djob, hd, _, h⟩ | ⟨m', hd⟩
  · exact ⟨_, touch o.now m, h, clone_sp o sjob m hm, rfl⟩
  · obtain ⟨_, md, ⟨⟩, hmd, hc⟩ := hsame _ hd
    exact ⟨_, md, h, syncJobDirs_sp o sjob djob md hwf hsp hmd, hc⟩
  · obtain ⟨_, _, ⟨⟩, _⟩ := hsame _ hd

/-- Files present (existing job): after a successful real `sync_jobs` every source file the walk
    has to deliver (`Reach`: reached through directories common to both sides — below the top
    level only when `recursive` —, absent in the destination, its name / the missing directory and
    everything below it not excluded) is present with the source's bytes.  Not about the job
    document and its backup at the top level (`h1`, `h2`): those belong to the document merge. -/
theorem sync_files_present (o : Opts) (hdry : o.dry = false) (sjob djob : Entries) (n : Name) (p : Path)
    (m : FMeta) (hwf : WFEntries sjob) (hr : Reach o sjob djob n p m)
    (h1 : n ≠ Extracted.FN_JOB_DOCUMENT) (h2 : n ≠ Extracted.FN_JOB_DOCUMENT ++ "~")
    (hok : (syncJobDirs o sjob djob).err = none) :
    lookupP n p (syncJobDirs o sjob djob).d = some (.file (touch o.now m)) := by
  rw [syncJobDirs_lookup o sjob djob n p h1 h2]
  exact walk_files_present o hdry hr [] hwf (syncJobDirs_walk_ok o sjob djob hok)

/-- Files present (cloned job): the clone holds every source file whose top-level name is not left
    out (user patterns; state point and document are never left out) and none of whose lower path
    components matches a user exclude pattern — byte-identically, at any depth. -/
theorem clone_files_present (o : Opts) (sjob : Entries) (n : Name) (m : FMeta)
    (hn : cloneIgnored o n = false) :
    (getE n sjob = some (.file m) → lookupP n [] (cloneJob o sjob) = some (.file (touch o.now m))) ∧
    (∀ ch k q, getE n sjob = some (.dir ch) → InCopy o.userExcl ch k q m →
      lookupP n (k :: q) (cloneJob o sjob) = some (.file (touch o.now m))) := by
  refine ⟨fun h => ?_, fun ch k q h hin => ?_⟩
  · simp [lookupP, cloneJob, getE_copyTop, hn, h, copyNode]
  · simp only [lookupP, cloneJob, getE_copyTop, hn, h, Bool.false_eq_true, if_false, Option.map, copyNode]
    exact copy_lookup o.now o.userExcl hin

/-- Destination-only files are untouched: a path the source job does not have (other than the job
    document and its backup at the top level) keeps its destination node — in every run, also a
    failed one. -/
theorem sync_dst_only_files_untouched (o : Opts) (sjob djob : Entries) (n : Name) (p : Path)
    (hwf : WFEntries sjob) (h : lookupP n p sjob = none)
    (h1 : n ≠ Extracted.FN_JOB_DOCUMENT) (h2 : n ≠ Extracted.FN_JOB_DOCUMENT ++ "~") :
    lookupP n p (syncJobDirs o sjob djob).d = lookupP n p djob := by
  rw [syncJobDirs_lookup o sjob djob n p h1 h2]
  exact walk_dst_only o p n [] sjob djob hwf h

/-- Destination-only jobs (and unselected ones) are untouched by a project sync, in every run. -/
theorem sync_dst_only_jobs_untouched (o : Opts) (w : World) (id : Name)
    (h : ∀ sn, (id, sn) ∈ wsOf w.src → selected o id = false) :
    getE id (wsOf (w.after o .project).dst) = getE id (wsOf w.dst) := by
  simp only [World.after, run]
  rcases syncProjects_ws o w.src w.dst with h' | h'
  · rw [h']
  · rw [h', syncJobs_job_other o id (wsOf w.src) h, wsOf_syncDoc]

/-- Destination-only document keys are untouched by the key-by-key merge, at any depth below
    mappings present on both sides (`DocOnly`), whatever the key strategy. -/
theorem sync_dst_only_keys_untouched (ks : Option (String → Bool)) (s d : Doc) (p : List String)
    (h : DocOnly s d p) (hte : (byKeyItems ks "" s ⟨d, [], false, false⟩).typeErr = false) :
    docGet (runDocSync (.byKey ks) s d).doc p = docGet d p := by
  rw [runDocSync_byKey rfl hte]
  exact byKeyItems_dst_only ks h "" ⟨d, [], false, false⟩ rfl hte

/-- … and by `DocSync.update` (top-level keys: it is a plain `dict.update`). -/
theorem sync_dst_only_keys_untouched_update (s d : Doc) (k : String) (h : k ∉ keys s) :
    lookupKV k (runDocSync .update s d).doc = lookupKV k d := updateItems_other k s d h

/-- Idempotence of the file synchronisation (`_sync_job_workspaces`, at every depth, for every
    strategy / exclusion / comparison mode): after a successful real walk, walking again over the
    result changes nothing and succeeds. -/
theorem sync_idempotent_files (o : Opts) (hdry : o.dry = false) (sjob djob : Entries) (sub : Path)
    (hwf : WFEntries sjob) (hok : (walkDir o sub (.dir sjob) djob).err = none) :
    (walkDir o sub (.dir sjob) (walkDir o sub (.dir sjob) djob).d).d = (walkDir o sub (.dir sjob) djob).d ∧
    (walkDir o sub (.dir sjob) (walkDir o sub (.dir sjob) djob).d).err = none :=
  walk_idempotent o hdry sjob sub djob hwf hok

/-- Idempotence of `sync_jobs` when documents are not merged (NO_SYNC, or COPY where the document
    is an ordinary file of the walk): repeating a successful real sync changes nothing. -/
theorem sync_idempotent_partial (o : Opts) (hdry : o.dry = false)
    (hds : o.docSync = .noSync ∨ o.docSync = .copy) (sjob djob : Entries)
    (hwf : WFEntries sjob) (hok : (syncJobDirs o sjob djob).err = none) :
    (syncJobDirs o sjob (syncJobDirs o sjob djob).d).d = (syncJobDirs o sjob djob).d ∧
    (syncJobDirs o sjob (syncJobDirs o sjob djob).d).err = none :=
  syncJobDirs_idem o hdry sjob djob hwf (hds.imp_right .inl) hok

/-- The full idempotence statement of C13 ("repeating the same sync changes nothing"), including
    the document merge and the loop over the jobs, with no hypothesis beyond well-formed trees.
    As it stands it is FALSE of the model (`sync_idempotent_full_false` below): the model's
    documents are association lists (duplicate keys possible) and its exclusion tables are
    arbitrary functions.  With the two facts every real call satisfies — source documents have
    distinct keys in every mapping, the document pattern matches the job document file and its
    backup — it is proved: `sync_idempotent_full_partial`.
    (`o.gate` is an input: with check_schema the real gate may refuse the second call because the
    first one changed the destination's schema; the harness passes the second call's own gate.) -/
def sync_idempotent_full : Prop :=
  ∀ (o : Opts) (e : Entry) (w : World), WFEntries w.src → WFEntries w.dst → o.dry = false →
    (run o e w).err = none →
    (run o e (w.after o e)).err = none ∧ (run o e (w.after o e)).d = (w.after o e).dst

/-- Witness 1: realistic tables (`DocPatOk`), `DocSync.ByKey(lambda key: True)`. -/
def w1Opts : Opts :=
  { strategy := .none, docSync := .byKey (some fun _ => true), recursive := true,
    userExcl := fun _ => false,
    spPat := fun n => n == Extracted.FN_STATE_POINT,
    docPat := fun n => n == Extracted.FN_JOB_DOCUMENT || n == Extracted.FN_JOB_DOCUMENT ++ "~",
    selection := none, checkSchema := false, gate := false, dry := false, deep := false, now := 9 }

/-- Two projects without jobs; the source project document is the association list
    `{"a": {"x": 1}, "a": 5}` — the key `a` twice, which no parsed JSON file can be —, the
    destination project document is `{"a": {"x": 1}}`. -/
def w1World : World :=
  { src := [(Extracted.FN_PROJECT_DOCUMENT,
      .file ⟨1, 1, 5, some (.obj [("a", .obj [("x", .int 1)]), ("a", .int 5)])⟩)],
    dst := [(Extracted.FN_PROJECT_DOCUMENT,
      .file ⟨2, 1, 5, some (.obj [("a", .obj [("x", .int 1)])])⟩)] }

/-- `sync_idempotent_full` is false.  First call: the first `a` is `==` on both sides, the second
    `a` (5 against a mapping) is a conflict the key strategy resolves by overwriting: destination
    `{"a": 5}`, no exception.  Second call: the first `a` now meets the integer 5, and iterating
    the source mapping `{"x": 1}` against an integer is the TypeError of `key in 5`.  An artefact
    of the model's documents being association lists: excluded by `NodupKeysObj`. -/
theorem sync_idempotent_full_false : ¬ sync_idempotent_full := by
  have hrun : (run w1Opts .project w1World).err = none ∧
      (run w1Opts .project (w1World.after w1Opts .project)).err ≠ none := by decide +kernel
  exact fun h => hrun.2 (h w1Opts .project w1World
    ⟨List.not_mem_nil, trivial, trivial⟩ ⟨List.not_mem_nil, trivial, trivial⟩ rfl hrun.1).1

example : DocPatOk w1Opts := ⟨by simp [w1Opts], by simp [w1Opts]⟩

/-- Witness 2: documents with distinct keys, but a document pattern that does NOT match the job
    document file (impossible for `re.match("signac_job_document.json", ·)`), file strategy
    `update`, document strategy `update`, and a clock (`now = 1`) that is behind the source
    file's mtime (5). -/
def w2Opts : Opts :=
  { strategy := .update, docSync := .update, recursive := true,
    userExcl := fun _ => false,
    spPat := fun n => n == Extracted.FN_STATE_POINT,
    docPat := fun _ => false,
    selection := none, checkSchema := false, gate := false, dry := false, deep := false, now := 1 }

def w2SrcJob : Entries :=
  [(Extracted.FN_JOB_DOCUMENT, .file ⟨1, 1, 5, some (.obj [("a", .int 1)])⟩)]

def w2DstJob : Entries :=
  [(Extracted.FN_JOB_DOCUMENT, .file ⟨2, 1, 7, some (.obj [("b", .int 2)])⟩)]

def w2World : World :=
  { src := [(WS, .dir [("j", .dir w2SrcJob)])], dst := [(WS, .dir [("j", .dir w2DstJob)])] }

def w2Probe (es : Entries) : Nat :=
  match lookupP WS ["j", Extracted.FN_JOB_DOCUMENT] es with
  | some (.file m) => m.cid
  | _ => 99

/-- Without `DocPatOk` the file walk and the document merge fight over the document file.  First
    call: the walk sees two different document files, the destination's is newer (7 > 5), keeps
    it; the merge writes `{"b": 2, "a": 1}` with mtime `now = 1`.  Second call: now the source's
    file is newer (5 > 1), the walk overwrites the merged document with a copy of the source's,
    and key `b` is lost: both calls succeed, the second one changes the destination. -/
theorem sync_idempotent_needs_docPat :
    WFEntries w2World.src ∧ WFEntries w2World.dst ∧
    NodupKeysObj (docOf Extracted.FN_JOB_DOCUMENT w2SrcJob) ∧
    (run w2Opts (.job "j" "j" 0) w2World).err = none ∧
    (run w2Opts (.job "j" "j" 0) (w2World.after w2Opts (.job "j" "j" 0))).err = none ∧
    (run w2Opts (.job "j" "j" 0) (w2World.after w2Opts (.job "j" "j" 0))).d ≠
      (w2World.after w2Opts (.job "j" "j" 0)).dst := by
  have hrun : (run w2Opts (.job "j" "j" 0) w2World).err = none ∧
      (run w2Opts (.job "j" "j" 0) (w2World.after w2Opts (.job "j" "j" 0))).err = none ∧
      w2Probe (run w2Opts (.job "j" "j" 0) (w2World.after w2Opts (.job "j" "j" 0))).d ≠
        w2Probe (w2World.after w2Opts (.job "j" "j" 0)).dst := by decide +kernel
  refine ⟨?_, ?_, ?_, hrun.1, hrun.2.1, fun h => hrun.2.2 (congrArg w2Probe h)⟩
  · exact ⟨List.not_mem_nil, ⟨List.not_mem_nil, ⟨List.not_mem_nil, trivial, trivial⟩, trivial⟩, trivial⟩
  · exact ⟨List.not_mem_nil, ⟨List.not_mem_nil, ⟨List.not_mem_nil, trivial, trivial⟩, trivial⟩, trivial⟩
  · have hw : WFEntries w2SrcJob := ⟨List.not_mem_nil, trivial, trivial⟩
    rw [docOf_eq (getE_of_mem hw.nodup (.head _)) rfl]
    decide +kernel

/-- **Idempotence of the document merge alone**, for `DocSync.update`, `DocSync.ByKey(ks)` with
    every key strategy `ks` (also none), NO_SYNC and COPY, at any nesting depth: if merging the
    source document `s` (distinct keys in every mapping) into `d` raised nothing, then merging `s`
    into the result raises nothing and changes nothing. -/
theorem doc_merge_idempotent (ds : DocSync) (s d : Doc) (hs : NodupKeysObj s)
    (hok : (runDocSync ds s d).err = none) :
    (runDocSync ds s (runDocSync ds s d).doc).err = none ∧
    (runDocSync ds s (runDocSync ds s d).doc).doc = (runDocSync ds s d).doc :=
  runDocSync_idem ds s d hs hok

/-- … and nothing is even written the second time by ByKey: the second pass over the same source
    into the result of the first, for any key strategy, leaves the document alone, sets neither
    the `wrote` flag nor the type-error flag, and records no conflict if the first pass recorded
    none. -/
theorem doc_merge_bykey_quiet (ks : Option (String → Bool)) (s d : Doc) (hs : NodupKeysObj s)
    (hte : (byKeyItems ks "" s ⟨d, [], false, false⟩).typeErr = false) :
    Quiet (byKeyItems ks "" s ⟨(byKeyItems ks "" s ⟨d, [], false, false⟩).dst, [], false, false⟩)
      (byKeyItems ks "" s ⟨d, [], false, false⟩).dst [] false (byKeyItems ks "" s ⟨d, [], false, false⟩) :=
  byKeyItems_quiet ks s hs "" ⟨d, [], false, false⟩ hte _ [] false (fun _ _ => rfl)

/-- Idempotence of the document synchronisation of one directory, with its backup-and-restore
    context (`create_backup` / in-memory backup), for any document file name. -/
theorem doc_sync_idempotent (o : Opts) (hdry : o.dry = false) (fn : Name) (src : Entries) (a : Acc)
    (hs : DocHyp o (docOf fn src)) (hok : (syncDoc o fn src a).err = none) (l : List Step) :
    (syncDoc o fn src ⟨(syncDoc o fn src a).d, l⟩).d = (syncDoc o fn src a).d ∧
    (syncDoc o fn src ⟨(syncDoc o fn src a).d, l⟩).err = none :=
  syncDoc_idem o hdry fn src a hs hok l

/-- **Idempotence of a whole job-level sync** (`sync_jobs(src_job, dst_job)`: file walk, then
    document merge), for every file strategy (also custom functions), comparison mode, exclusion
    table, clock value and every document strategy.  Hypothesis `JobHyp o sjob`: the document
    strategy is NO_SYNC or COPY, or else `DocPatOk o` and the source job document has distinct
    keys in every mapping.  Extends `sync_idempotent_partial`. -/
theorem sync_job_idempotent_partial (o : Opts) (hdry : o.dry = false) (sjob djob : Entries)
    (hwf : WFEntries sjob) (H : JobHyp o sjob) (hok : (syncJobDirs o sjob djob).err = none) :
    (syncJobDirs o sjob (syncJobDirs o sjob djob).d).d = (syncJobDirs o sjob djob).d ∧
    (syncJobDirs o sjob (syncJobDirs o sjob djob).d).err = none :=
  syncJobDirs_idem o hdry sjob djob hwf H hok

/-- A freshly cloned job is a fixed point of `sync_jobs` from its source (what the second project
    sync meets where the first one cloned). -/
theorem sync_clone_fixed_point (o : Opts) (sjob : Entries) (hwf : WFEntries sjob)
    (H : DocHyp o (docOf Extracted.FN_JOB_DOCUMENT sjob)) :
    (syncJobDirs o sjob (cloneJob o sjob)).d = cloneJob o sjob ∧
    (syncJobDirs o sjob (cloneJob o sjob)).err = none :=
  syncJobDirs_noop o sjob _ (clone_stable o sjob hwf H)

/-- **Idempotence of the project-level sync** (project document first, then the clone-or-sync loop
    over the selected source jobs).  `SyncHyp o src`: the project document satisfies `DocHyp`, and
    every source job satisfies `JobHyp`. -/
theorem sync_project_idempotent_partial (o : Opts) (hdry : o.dry = false) (src dst : Entries)
    (hwf : WFEntries src) (H : SyncHyp o src) (hok : (syncProjects o src dst).err = none) :
    (syncProjects o src (syncProjects o src dst).d).d = (syncProjects o src dst).d ∧
    (syncProjects o src (syncProjects o src dst).d).err = none :=
  syncProjects_idem o hdry src dst hwf H hok

/-- **`sync_idempotent`** — `sync_idempotent_full` with the one extra hypothesis `SyncHyp o w.src`
    (and without `WFEntries w.dst`, which is not needed): at every entry point, after a successful
    real sync, repeating the same call — same `o`, so also the same clock value `o.now`: with a
    later one `DocSync.update` rewrites the document file under a new mtime — raises nothing and
    changes nothing.  No hypothesis on the value of `o.now`, the mtimes, the strategy function,
    the key strategy or `o.gate`. -/
theorem sync_idempotent_full_partial (o : Opts) (e : Entry) (w : World) (hwf : WFEntries w.src)
    (hdry : o.dry = false) (H : SyncHyp o w.src) (hok : (run o e w).err = none) :
    (run o e (w.after o e)).err = none ∧ (run o e (w.after o e)).d = (w.after o e).dst :=
  run_idem o e w hwf hdry H hok

/-- for NO_SYNC and COPY there is no hypothesis at all -/
theorem sync_idempotent_nomerge (o : Opts) (e : Entry) (w : World) (hwf : WFEntries w.src)
    (hdry : o.dry = false) (hds : o.docSync = .noSync ∨ o.docSync = .copy)
    (hok : (run o e w).err = none) :
    (run o e (w.after o e)).err = none ∧ (run o e (w.after o e)).d = (w.after o e).dst :=
  run_idem o e w hwf hdry ⟨hds.imp_right .inl, fun _ _ _ => hds.imp_right .inl⟩ hok

/-! non-vacuity: a concrete pair of jobs satisfying the hypotheses above -/

def exOpts : Opts :=
  { strategy := .always, docSync := .byKey none, recursive := true,
    userExcl := fun n => n == "skip.log",
    spPat := fun n => n == Extracted.FN_STATE_POINT,
    docPat := fun n => n == Extracted.FN_JOB_DOCUMENT || n == Extracted.FN_JOB_DOCUMENT ++ "~",
    selection := none, checkSchema := false, gate := false, dry := false, deep := false, now := 9 }

def exSrcJob : Entries :=
  [(Extracted.FN_STATE_POINT, .file ⟨1, 8, 5, none⟩), ("f1", .file ⟨2, 1, 5, none⟩),
   ("sub", .dir [("x", .file ⟨3, 2, 5, none⟩)]), ("both", .file ⟨4, 1, 7, none⟩)]

def exDstJob : Entries :=
  [(Extracted.FN_STATE_POINT, .file ⟨1, 8, 5, none⟩), ("both", .file ⟨5, 1, 5, none⟩),
   ("only", .file ⟨6, 1, 5, none⟩)]

def exWorld : World :=
  { src := [(WS, .dir [("j1", .dir exSrcJob), ("j2", .dir exSrcJob)])],
    dst := [(WS, .dir [("j1", .dir exDstJob), ("j9", .dir exDstJob)])] }

example : WFEntries exSrcJob ∧ (syncJobDirs exOpts exSrcJob exDstJob).err = none ∧
    Reach exOpts exSrcJob exDstJob "f1" [] ⟨2, 1, 5, none⟩ ∧
    Reach exOpts exSrcJob exDstJob "sub" ["x"] ⟨3, 2, 5, none⟩ ∧
    lookupP "only" [] exSrcJob = none := by
  have hw : WFEntries exSrcJob := by simp [WFEntries, WFNode, exSrcJob, names, Extracted.FN_STATE_POINT]
  obtain ⟨hok, hf, hfx, hs, hsx, hxx, ho⟩ : (syncJobDirs exOpts exSrcJob exDstJob).err = none ∧
      getE "f1" exDstJob = none ∧ excluded exOpts "f1" = false ∧
      getE "sub" exDstJob = none ∧ excluded exOpts "sub" = false ∧ excluded exOpts "x" = false ∧
      lookupP "only" [] exSrcJob = none := by decide +kernel
  exact ⟨hw, hok, .top (getE_of_mem hw.nodup (.tail _ (.head _))) hf hfx,
    .tree (getE_of_mem hw.nodup (.tail _ (.tail _ (.head _)))) hs hsx rfl (.file rfl hxx), ho⟩

example : (names (wsOf exWorld.src)).Nodup ∧ (run exOpts .project exWorld).err = none ∧
    getE "j1" (wsOf exWorld.src) = some (.dir exSrcJob) ∧ selected exOpts "j1" = true ∧
    (∀ sn, ("j9", sn) ∈ wsOf exWorld.src → selected exOpts "j9" = false) := by
  have h : (names (wsOf exWorld.src)).Nodup ∧ (run exOpts .project exWorld).err = none ∧
      "j9" ∉ names (wsOf exWorld.src) := by decide +kernel
  exact ⟨h.1, h.2.1, by rfl, rfl, fun _ hm => absurd (List.mem_map_of_mem (f := Prod.fst) hm) h.2.2⟩

example : ({ exOpts with docSync := .noSync } : Opts).docSync = .noSync ∧
    (syncJobDirs { exOpts with docSync := .noSync } exSrcJob exDstJob).err = none ∧
    (walkDir exOpts ["sub"] (.dir exSrcJob) exDstJob).err = none :=
  ⟨rfl, by decide +kernel⟩

example : DocOnly [("a", .obj [("x", .int 1)])] [("a", .obj [("y", .int 2)]), ("b", .int 3)] ["a", "y"] ∧
    DocOnly [("a", .obj [("x", .int 1)])] [("a", .obj [("y", .int 2)]), ("b", .int 3)] ["b"] :=
  ⟨DocOnly.sub (by decide +kernel) (by rfl) (by rfl) (DocOnly.top (by decide +kernel)), DocOnly.top (by decide +kernel)⟩

/-! non-vacuity of the idempotence hypotheses: two projects with documents on both sides, nested
    conflicts, a key strategy, one job to synchronise and one to clone -/

def exDocOpts : Opts := { exOpts with docSync := .byKey (some fun k => k == "cfg.n" || k == "a.n") }

def exDocSrcJob : Entries :=
  exSrcJob ++ [(Extracted.FN_JOB_DOCUMENT,
    .file ⟨7, 3, 5, some (.obj [("a", .obj [("n", .int 1), ("k", .int 0)]), ("b", .int 2)])⟩)]

def exDocDstJob : Entries :=
  exDstJob ++ [(Extracted.FN_JOB_DOCUMENT,
    .file ⟨8, 3, 5, some (.obj [("a", .obj [("n", .int 4)]), ("b", .int 9), ("c", .int 3)])⟩)]

def exDocWorld : World :=
  { src := [(Extracted.FN_PROJECT_DOCUMENT,
        .file ⟨9, 3, 5, some (.obj [("p", .int 1), ("cfg", .obj [("n", .int 2), ("m", .int 3)])])⟩),
      (WS, .dir [("j1", .dir exDocSrcJob), ("j2", .dir exDocSrcJob)])],
    dst := [(Extracted.FN_PROJECT_DOCUMENT,
        .file ⟨10, 3, 5, some (.obj [("cfg", .obj [("n", .int 5), ("z", .int 0)]), ("q", .int 7)])⟩),
      (WS, .dir [("j1", .dir exDocDstJob), ("j9", .dir exDstJob)])] }

example : DocPatOk exDocOpts := ⟨by simp [exDocOpts, exOpts], by simp [exDocOpts, exOpts]⟩

theorem exDoc_wf : WFEntries exDocWorld.src := by
  simp [WFEntries, WFNode, exDocWorld, exDocSrcJob, exSrcJob, names, WS,
    Extracted.FN_JOB_DOCUMENT, Extracted.FN_STATE_POINT, Extracted.FN_PROJECT_DOCUMENT]

theorem exDoc_hyp : SyncHyp exDocOpts exDocWorld.src := by
  have hws := getE_of_mem exDoc_wf.nodup (.tail _ (.head _))
  have hwj : WFEntries exDocSrcJob := (exDoc_wf.sub hws).mem (.head _)
  have hj : JobHyp exDocOpts exDocSrcJob :=
    .inr (.inr ⟨⟨by simp [exDocOpts, exOpts], by simp [exDocOpts, exOpts]⟩, by
      rw [docOf_eq (getE_of_mem hwj.nodup (List.mem_append_right _ (.head _))) rfl]
      decide +kernel⟩)
  refine .of_listing hws (.inr (.inr ?_)) fun e he sjob hs => ?_
  · rw [docOf_eq (getE_of_mem exDoc_wf.nodup (.head _)) rfl]
    decide +kernel
  · -- both source jobs are `exDocSrcJob`
    simp only [List.mem_cons, List.not_mem_nil, or_false] at he
    rcases he with rfl | rfl <;> cases hs <;> exact hj

example : WFEntries exDocWorld.src ∧ exDocOpts.dry = false ∧
    (run exDocOpts .project exDocWorld).err = none ∧
    (run exDocOpts (.job "j1" "j1" 1) exDocWorld).err = none :=
  ⟨exDoc_wf, rfl, by decide +kernel⟩

example : (run exDocOpts .project (exDocWorld.after exDocOpts .project)).err = none ∧
    (run exDocOpts .project (exDocWorld.after exDocOpts .project)).d =
      (exDocWorld.after exDocOpts .project).dst :=
  sync_idempotent_full_partial exDocOpts .project exDocWorld exDoc_wf rfl exDoc_hyp (by decide +kernel)

example : (run exDocOpts (.job "j1" "j1" 1) (exDocWorld.after exDocOpts (.job "j1" "j1" 1))).err = none ∧
    (run exDocOpts (.job "j1" "j1" 1) (exDocWorld.after exDocOpts (.job "j1" "j1" 1))).d =
      (exDocWorld.after exDocOpts (.job "j1" "j1" 1)).dst :=
  sync_idempotent_full_partial exDocOpts (.job "j1" "j1" 1) exDocWorld exDoc_wf rfl exDoc_hyp (by decide +kernel)

/-- the first project sync of the example really changes the destination (a job is cloned) -/
example : getE "j2" (wsOf exDocWorld.dst) = none ∧
    (getE "j2" (wsOf (exDocWorld.after exDocOpts .project).dst)).isSome = true := by
  decide +kernel

/-! ## The document merge on a LIVE destination (model: Signac/SyncLive.lean)

  The destination document is a file that another process may rewrite between any two accesses of
  the merge (`runLive env`: before step `n` the environment rewrites the file with `env n`).
  Proofs: Signac/Proofs/SyncLiveLemmas.lean. -/

/-- `DocSync.ByKey(ks)`: with no other process the step program ends with the
    file, the skipped keys, the "wrote anything" flag and the type-error flag of the pure model —
    for every key strategy, at every nesting depth, type errors included.  Hypotheses: mappings
    with pairwise distinct keys on both sides (true of every Python dict; needed because the code
    compares `dst[key] == value` in one place and `src == dst` in another and the model's `==`
    is symmetric only on such values). -/
theorem live_refines_pure (ks : Option (String → Bool)) (s d : Doc)
    (hs : NodupKeysObj s) (hd : NodupKeysObj d) :
    (runQuiet (liveByKey ks s) d).file = (byKeyItems ks "" s ⟨d, [], false, false⟩).dst ∧
    (runQuiet (liveByKey ks s) d).res.skipped = (byKeyItems ks "" s ⟨d, [], false, false⟩).skipped ∧
    (runQuiet (liveByKey ks s) d).res.wrote = (byKeyItems ks "" s ⟨d, [], false, false⟩).wrote ∧
    (runQuiet (liveByKey ks s) d).res.typeErr = (byKeyItems ks "" s ⟨d, [], false, false⟩).typeErr := by
  rw [(runQuiet_eq _ d).1, (runQuiet_eq _ d).2, liveByKey_quiet ks s d hs hd]
  exact ⟨rfl, rfl, rfl, rfl⟩

/-- The same for `DocSync.update`: no hypotheses. -/
theorem live_refines_pure_update (s d : Doc) :
    (runQuiet (liveUpdate s) d).file = updateItems s d ∧
    (runQuiet (liveUpdate s) d).res.skipped = [] ∧
    (runQuiet (liveUpdate s) d).res.wrote = !s.isEmpty ∧
    (runQuiet (liveUpdate s) d).res.typeErr = false := by
  rw [(runQuiet_eq _ d).1, (runQuiet_eq _ d).2, liveUpdate_quiet s d]
  exact ⟨rfl, rfl, rfl, rfl⟩

/-- … and against `runDocSync`, the function the directory-level model uses: whenever the pure
    strategy raises nothing, the quiet step program leaves its document and its `wrote` flag. -/
theorem live_refines_runDocSync (ds : DocSync) (s d : Doc) (hs : NodupKeysObj s) (hd : NodupKeysObj d)
    (hok : (runDocSync ds s d).err = none) :
    (runQuiet (liveDocSync ds s) d).file = (runDocSync ds s d).doc ∧
    (runQuiet (liveDocSync ds s) d).res.wrote = (runDocSync ds s d).wrote := by
  cases ds with
  | byKey ks =>
    rw [runDocSync_byKey rfl (runDocSync_byKey_typeErr hok)]
    exact ⟨(live_refines_pure ks s d hs hd).1, (live_refines_pure ks s d hs hd).2.2.1⟩
  | update => exact ⟨(live_refines_pure_update s d).1, (live_refines_pure_update s d).2.2.1⟩
  | noSync | copy => exact ⟨rfl, rfl⟩

/-- `DocSync.ByKey` with any key strategy, `DocSync.update`
    (and NO_SYNC / COPY, which run no merge).  The environment is ANY sequence of rewrites each of
    which leaves every top-level key of the source untouched; it may add, change and delete any
    other top-level key, and it may read everything.  Then
      (1) the merge reports what the quiet run reports (skipped keys, wrote, type error);
      (2) under every top-level key of the source the final file holds what the quiet run leaves;
      (3) NO STEP of the merge changes any other top-level key: for every step, the file just
          after the step holds under every key the source does not mention exactly what the
          environment's last rewrite left there (`traceLive`: the pairs (file as the environment
          left it before the step, file after the step));
      (4) the final file is the file after the last step (the initial one if there was no step).
    So whatever the other process wrote to keys the source does not hold survives: the sync never
    puts back a stale copy. -/
theorem live_foreign_keys_preserved (ds : DocSync) (s d : Doc) (hs : NodupKeysObj s) (hd : NodupKeysObj d)
    (env : Nat → Doc → Doc)
    (henv : ∀ n x, ∀ k ∈ keys s, lookupKV k (env n x) = lookupKV k x) :
    (runLive env (liveDocSync ds s) d).res = (runQuiet (liveDocSync ds s) d).res ∧
    (∀ k ∈ keys s, lookupKV k (runLive env (liveDocSync ds s) d).file =
        lookupKV k (runQuiet (liveDocSync ds s) d).file) ∧
    (∀ ba ∈ traceLive env (liveDocSync ds s) d, ∀ k, k ∉ keys s → lookupKV k ba.2 = lookupKV k ba.1) ∧
    (runLive env (liveDocSync ds s) d).file =
      (((traceLive env (liveDocSync ds s) d).getLast?).map Prod.snd).getD d := by
  have hsim := liveDocSync_sim ds s d hs hd env henv
  have hq := runQuiet_eq (liveDocSync ds s) d
  exact ⟨by rw [hsim.1, hq.2], fun k hk => by rw [hsim.2 k hk, hq.1],
    (liveDocSync_onlyWrites ds s).trace env 0 d, runLiveFrom_file_trace env _ 0 d⟩

/-- `DocSync.update` reads nothing of the destination: (1) and (2) without the distinct-keys
    hypotheses. -/
theorem live_foreign_keys_preserved_update (s d : Doc) (env : Nat → Doc → Doc)
    (henv : ∀ n x, ∀ k ∈ keys s, lookupKV k (env n x) = lookupKV k x) :
    (runLive env (liveUpdate s) d).res = (runQuiet (liveUpdate s) d).res ∧
    (∀ k ∈ keys s, lookupKV k (runLive env (liveUpdate s) d).file =
        lookupKV k (runQuiet (liveUpdate s) d).file) ∧
    (∀ ba ∈ traceLive env (liveUpdate s) d, ∀ k, k ∉ keys s → lookupKV k ba.2 = lookupKV k ba.1) := by
  have hsim := (liveUpdate_resp s).sim henv 0 d d (AgreeOn.refl _ d)
  have hq := runQuiet_eq (liveUpdate s) d
  exact ⟨hsim.1.trans hq.2.symm, fun k hk => hq.1 ▸ hsim.2 k hk,
    (liveUpdate_resp s).onlyWrites.trace env 0 d⟩

/-- (3) needs nothing at all: not even an environment that keeps off the source's keys. -/
theorem live_steps_keep_foreign_keys (ds : DocSync) (s d : Doc) (env : Nat → Doc → Doc) :
    ∀ ba ∈ traceLive env (liveDocSync ds s) d, ∀ k, k ∉ keys s → lookupKV k ba.2 = lookupKV k ba.1 :=
  (liveDocSync_onlyWrites ds s).trace env 0 d

/-- The same as an invariant: any step-indexed property `I` of the part of the file outside the
    source's keys that every rewrite of the environment maintains holds of the final file. -/
theorem live_foreign_invariant (ds : DocSync) (s d : Doc) (env : Nat → Doc → Doc) (I : Nat → Doc → Prop)
    (hI : ∀ n x y, (∀ j, j ∉ keys s → lookupKV j x = lookupKV j y) → I n x → I n y)
    (henv : ∀ n x, I n x → I (n + 1) (env n x)) (h0 : I 0 d) :
    I (runLive env (liveDocSync ds s) d).steps (runLive env (liveDocSync ds s) d).file :=
  (liveDocSync_onlyWrites ds s).foreign_inv env I hI henv 0 d h0

/-- "In particular a key written by the other process during the merge is still there afterwards":
    the other process sets the foreign key `j` to `c` (`none`: deletes it) at step `i` and leaves
    it alone afterwards; every run that reaches step `i` ends with `c` under `j`. -/
theorem live_foreign_write_survives (ds : DocSync) (s d : Doc) (env : Nat → Doc → Doc)
    (j : String) (hj : j ∉ keys s) (i : Nat) (c : Option JVal)
    (hw : ∀ x, lookupKV j (env i x) = c)
    (hkeep : ∀ n x, i < n → lookupKV j (env n x) = lookupKV j x)
    (hlong : i < (runLive env (liveDocSync ds s) d).steps) :
    lookupKV j (runLive env (liveDocSync ds s) d).file = c :=
  (liveDocSync_onlyWrites ds s).write_survives env j hj i c hw hkeep d hlong

/-! ### the `foldl` form of the clause

  "For every `k ∉ keys s` the final file holds under `k` what the environment's rewrites ALONE
  produce from the initial file" is FALSE for arbitrary rewrites `Doc → Doc`: a rewrite may READ a
  key of the source (without changing it) and derive a foreign key from it; run alone it reads
  the old value, run during the sync it reads the merged one.  (Nothing wrong with the code: the
  other process sees the merge in progress.)  It is true of rewrites whose effect on the foreign
  keys depends on the foreign keys only (`ForeignLocal`). -/

/-- source and destination of the counterexample; the other process copies `a` to `z` at step 4 -/
def cexS : Doc := [("a", .int 1), ("b", .int 2)]
def cexD : Doc := [("a", .int 0)]
def cexEnv : Nat → Doc → Doc := fun n x =>
  if n = 4 then setKV "z" ((lookupKV "a" x).getD .null) x else x

theorem cexEnv_keeps : ∀ n x, ∀ k ∈ keys cexS, lookupKV k (cexEnv n x) = lookupKV k x := by
  intro n x k hk
  simp only [cexEnv]
  split
  · exact lookupKV_setKV_other (fun (e : k = "z") => (by decide +kernel : "z" ∉ keys cexS) (e ▸ hk)) _ _
  · rfl

/-- `live_foreign_keys_preserved` in its `foldl` form, REFUTED: the merge has already set `a` to 1
    when the other process copies it to `z`; alone, the other process would have copied the 0. -/
theorem live_foreign_envOnly_refuted :
    ¬ (∀ (ks : Option (String → Bool)) (s d : Doc) (env : Nat → Doc → Doc),
        NodupKeysObj s → NodupKeysObj d →
        (∀ n x, ∀ k ∈ keys s, lookupKV k (env n x) = lookupKV k x) →
        ∀ k, k ∉ keys s →
          lookupKV k (runLive env (liveByKey ks s) d).file =
          lookupKV k (envOnly env (runLive env (liveByKey ks s) d).steps d)) := by
  intro h
  have h1 : some (JVal.int 1) = some (.int 0) := h (some fun _ => true) cexS cexD cexEnv
    (by decide +kernel) (by decide +kernel) cexEnv_keeps "z" (by decide +kernel)
  cases h1

/-- The `foldl` form under the extra hypothesis
    `ForeignLocal (keys s) env` — what a rewrite makes of the keys outside the source depends only
    on the keys outside the source.  Then under every key the source does not hold the final file
    holds exactly what the rewrites that were applied (`env 0`, …, `env (steps-1)`), run alone on
    the initial file, produce.  (Neither distinct keys nor "the environment keeps off the source's
    keys" is needed for this half.) -/
theorem live_foreign_keys_preserved_partial (ds : DocSync) (s d : Doc) (env : Nat → Doc → Doc)
    (hloc : ForeignLocal (keys s) env) :
    ∀ k, k ∉ keys s →
      lookupKV k (runLive env (liveDocSync ds s) d).file =
      lookupKV k ((List.range (runLive env (liveDocSync ds s) d).steps).foldl (fun x i => env i x) d) :=
  (liveDocSync_onlyWrites ds s).envOnly env hloc d

/-- a source/destination pair with a nested conflict (`params.n`), a nested key only in the
    source (`params.m`), one only in the destination (`params.z`), a new key (`tag`) and a key
    the source does not mention (`progress`) -/
def exLiveSrc : Doc := [("params", .obj [("n", .int 2), ("m", .int 3)]), ("tag", .str "x")]
def exLiveDst : Doc := [("params", .obj [("n", .int 5), ("z", .int 0)]), ("progress", .obj [("step", .int 1)])]

/-- the running job: just before step `t` of the sync it records `progress.step = 2` and adds
    `checkpoint` -/
def exLiveEnv (t : Nat) : Nat → Doc → Doc := fun n x =>
  if n = t then setKV "checkpoint" (.int 7) (setPath ["progress", "step"] (.int 2) x) else x

def exAll : Option (String → Bool) := some fun _ => true

theorem exLiveEnv_keeps (t : Nat) : ∀ n x, ∀ k ∈ keys exLiveSrc, lookupKV k (exLiveEnv t n x) = lookupKV k x := by
  intro n x k hk
  simp only [exLiveEnv]
  split
  · rw [lookupKV_setKV_other fun (e : k = "checkpoint") => (by decide +kernel : "checkpoint" ∉ keys exLiveSrc) (e ▸ hk),
      lookupKV_setPath_other fun (e : k = "progress") => (by decide +kernel : "progress" ∉ keys exLiveSrc) (e ▸ hk)]
  · rfl

/-- A deliberately wrong implementation kept as a contrast (`mergeSnapshot`: load once, run the pure
    merge, store the whole document) and the code as it is (`liveDocSync`) agree when nobody else writes,
    but when the job records its progress between the load and the write-back the snapshot
    merge DROPS the new key `checkpoint` and puts the stale `progress.step` back, while the step
    program keeps both — for `ByKey` and for `update`.  So `live_foreign_keys_preserved` is not
    vacuous and tells the two implementations apart. -/
theorem snapshot_merge_loses_writes :
    -- quiet: no difference
    (runQuiet (mergeSnapshot (.byKey exAll) exLiveSrc) exLiveDst).file =
      (runQuiet (liveDocSync (.byKey exAll) exLiveSrc) exLiveDst).file ∧
    -- the other process writes just before step 1
    lookupKV "checkpoint" (runLive (exLiveEnv 1) (mergeSnapshot (.byKey exAll) exLiveSrc) exLiveDst).file = none ∧
    getPath ["progress", "step"] (runLive (exLiveEnv 1) (mergeSnapshot (.byKey exAll) exLiveSrc) exLiveDst).file
      = some (.int 1) ∧
    lookupKV "checkpoint" (runLive (exLiveEnv 1) (liveDocSync (.byKey exAll) exLiveSrc) exLiveDst).file
      = some (.int 7) ∧
    getPath ["progress", "step"] (runLive (exLiveEnv 1) (liveDocSync (.byKey exAll) exLiveSrc) exLiveDst).file
      = some (.int 2) ∧
    -- the same for `DocSync.update`
    lookupKV "checkpoint" (runLive (exLiveEnv 1) (mergeSnapshot .update exLiveSrc) exLiveDst).file = none ∧
    lookupKV "checkpoint" (runLive (exLiveEnv 1) (liveDocSync .update exLiveSrc) exLiveDst).file
      = some (.int 7) ∧
    -- the regression violates clause (3) of `live_foreign_keys_preserved`
    ¬ (∀ ba ∈ traceLive (exLiveEnv 1) (mergeSnapshot (.byKey exAll) exLiveSrc) exLiveDst,
        ∀ k, k ∉ keys exLiveSrc → lookupKV k ba.2 = lookupKV k ba.1) := by
  refine ⟨rfl, rfl, rfl, rfl, rfl, rfl, rfl, ?_⟩
  intro h
  have h1 : none = some (JVal.int 7) :=
    h (_, _) (List.mem_cons_of_mem _ List.mem_cons_self) "checkpoint" (by decide +kernel)
  cases h1

/-- the example run, other process at step 2 (after `src == dst` and `"params" in dst`): the
    nested conflict `params.n` is resolved by the key strategy, `params.m` and `tag` are added,
    `params.z` stays, and both writes of the other process are in the final file -/
example : (runLive (exLiveEnv 2) (liveByKey exAll exLiveSrc) exLiveDst).file =
    [("params", .obj [("n", .int 2), ("z", .int 0), ("m", .int 3)]),
     ("progress", .obj [("step", .int 2)]), ("checkpoint", .int 7), ("tag", .str "x")] ∧
    (runLive (exLiveEnv 2) (liveByKey exAll exLiveSrc) exLiveDst).steps = 12 ∧
    (runLive (exLiveEnv 2) (liveByKey exAll exLiveSrc) exLiveDst).res.skipped = [] := ⟨rfl, rfl, rfl⟩

/-- without a key strategy: the conflict is recorded under its dotted key and `params.n` keeps the
    destination's value; the other process's writes survive all the same -/
example : (runLive (exLiveEnv 2) (liveByKey none exLiveSrc) exLiveDst).file =
    [("params", .obj [("n", .int 5), ("z", .int 0), ("m", .int 3)]),
     ("progress", .obj [("step", .int 2)]), ("checkpoint", .int 7), ("tag", .str "x")] ∧
    (runLive (exLiveEnv 2) (liveByKey none exLiveSrc) exLiveDst).res.skipped = ["params.n"] := ⟨rfl, rfl⟩

/-- the quiet run of the same pair (= the pure model, by `live_refines_pure`) -/
example : (runQuiet (liveByKey exAll exLiveSrc) exLiveDst).file =
    [("params", .obj [("n", .int 2), ("z", .int 0), ("m", .int 3)]),
     ("progress", .obj [("step", .int 1)]), ("tag", .str "x")] := rfl

example : NodupKeysObj exLiveSrc ∧ NodupKeysObj exLiveDst :=
  by decide +kernel

example (ks : Option (String → Bool)) (t : Nat) :
    (runLive (exLiveEnv t) (liveDocSync (.byKey ks) exLiveSrc) exLiveDst).res =
      (runQuiet (liveDocSync (.byKey ks) exLiveSrc) exLiveDst).res ∧
    ∀ k ∈ keys exLiveSrc, lookupKV k (runLive (exLiveEnv t) (liveDocSync (.byKey ks) exLiveSrc) exLiveDst).file =
      lookupKV k (runQuiet (liveDocSync (.byKey ks) exLiveSrc) exLiveDst).file :=
  have h := live_foreign_keys_preserved (.byKey ks) exLiveSrc exLiveDst
    (by decide +kernel) (by decide +kernel) (exLiveEnv t) (exLiveEnv_keeps t)
  ⟨h.1, h.2.1⟩

example : lookupKV "checkpoint" (runLive (exLiveEnv 2) (liveDocSync (.byKey exAll) exLiveSrc) exLiveDst).file
    = some (.int 7) :=
  live_foreign_write_survives (.byKey exAll) exLiveSrc exLiveDst (exLiveEnv 2) "checkpoint" (by decide +kernel) 2
    (some (.int 7))
    (fun _ => lookupKV_setKV_same _ _ _)
    (fun n x hn => by simp only [exLiveEnv, if_neg (Nat.ne_of_gt hn)])
    (by decide +kernel)

end Signac.C13
