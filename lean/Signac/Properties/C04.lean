/-
  C04 — re-keying, moving and cloning carry all data and never clobber another job.
  Same model as C03 (Signac.Workspace); every state point edit funnels into `rekey`.
-/
import Signac.Proofs.WsOps
namespace Signac.C04
open Signac Signac.Ws

variable (hash : JVal → String)

/-- Setting a key, assigning the whole state point and deleting a key are the one re-key protocol
    applied to the new value (so are `spnest` and a non-conflicting `update`, by the definition of `step`). -/
theorem routes_funnel_into_rekey (w : World) (hn : String) (hd : Handle)
    (hh : alookup hn w.handles = some hd) (k : String) (v sp : JVal) :
    step hash w (.spset hn k v) = rekey hash w hd (spSet hd.sp k v) ∧
    step hash w (.spassign hn sp) = rekey hash w hd (assignSp hd.sp sp) ∧
    (spHas hd.sp k = true → step hash w (.spdel hn k) = rekey hash w hd (spDel hd.sp k)) := by
  refine ⟨?_, ?_, fun h => ?_⟩ <;> dsimp only [step] <;> rw [hh]
  exact if_pos h

/-- The job reappears under the id of the new state point with its document and every file
    identical, the old id disappears, all other jobs are untouched. -/
theorem rekey_moves_payload (w : World) (hd : Handle) (newSp : JVal) (jd : JobData)
    (hne : hash hd.sp ≠ hash newSp)
    (hsrc : alookup (hash hd.sp) (w.jobs hd.proj) = some jd)
    (hdst : alookup (hash newSp) (w.jobs hd.proj) = none) :
    (rekey hash w hd newSp).2 = .ok ∧
    alookup (hash newSp) ((rekey hash w hd newSp).1.jobs hd.proj) = some { jd with sp := newSp } ∧
    alookup (hash hd.sp) ((rekey hash w hd newSp).1.jobs hd.proj) = none ∧
    (∀ i, i ≠ hash hd.sp → i ≠ hash newSp →
      alookup i ((rekey hash w hd newSp).1.jobs hd.proj) = alookup i (w.jobs hd.proj)) :=
  Ws.rekey_moves_payload w hd newSp hne hsrc hdst

/-- ... and the other project is not touched. -/
theorem rekey_other_project_untouched (w : World) (hd : Handle) (newSp : JVal) (q : Nat)
    (hq : (hd.proj = 0) ≠ (q = 0)) : (rekey hash w hd newSp).1.jobs q = w.jobs q :=
  rekey_cases (motive := fun r => r.1.jobs q = w.jobs q) w hd newSp (fun _ => rfl) (fun _ _ => rfl)
    (fun _ => rfl) (fun _ _ _ _ => jobs_setJobs_other w _ hq)

/-- Every live copy of the handle follows: after a successful re-key each handle of the group
    carries the new state point (so its id and path are those of the new job); all other handles
    are exactly as before. -/
theorem rekey_handles_follow (w : World) (hd : Handle) (newSp : JVal)
    (hne : hash hd.sp ≠ hash newSp) (hok : (rekey hash w hd newSp).2 = .ok) :
    ∀ n h', (n, h') ∈ (rekey hash w hd newSp).1.handles →
      ∃ h0, (n, h0) ∈ w.handles ∧ h'.proj = h0.proj ∧ h'.grp = h0.grp ∧
        (if h0.grp = hd.grp then h'.sp = newSp else h'.sp = h0.sp) :=
  Ws.rekey_handles_follow w hd newSp hne hok

/-- Destination id already initialised: DestinationExistsError, and jobs AND handles are
    exactly what they were (both jobs stay identical; the handle keeps its old state point). -/
theorem rekey_dest_exists (w : World) (hd : Handle) (newSp : JVal) (jd : JobData)
    (hne : hash hd.sp ≠ hash newSp)
    (hsrc : alookup (hash hd.sp) (w.jobs hd.proj) = some jd)
    (hdst : (alookup (hash newSp) (w.jobs hd.proj)).isSome = true) :
    rekey hash w hd newSp = (w, .destExists) :=
  Ws.rekey_dest_exists w hd newSp hne hsrc hdst

/-- Any failing re-key is the identity on the whole world. -/
theorem rekey_fail_identity (w : World) (hd : Handle) (newSp : JVal)
    (hfail : (rekey hash w hd newSp).2 ≠ .ok) : (rekey hash w hd newSp).1 = w :=
  Ws.rekey_fail_identity w hd newSp hfail

/-- update_statepoint without overwrite never alters an existing key's value: KeyError, no effect. -/
theorem update_no_overwrite (w : World) (hn : String) (hd : Handle) (upd : List (String × JVal))
    (hh : alookup hn w.handles = some hd) (hc : updConflict (spEntries hd.sp) upd = true) :
    step hash w (.update hn upd false) = (w, .keyError) := by
  dsimp only [step]
  rw [hh]
  dsimp only
  rw [hc]
  rfl

/-- move() across projects keeps the id and the payload. -/
theorem move_keeps_id (w : World) (hn : String) (hd : Handle) (p : Nat) (jd : JobData)
    (hh : alookup hn w.handles = some hd) (hpq : (hd.proj = 0) ≠ (p = 0))
    (hsrc : alookup (hash hd.sp) (w.jobs hd.proj) = some jd)
    (hdst : alookup (hash hd.sp) (w.jobs p) = none) :
    (step hash w (.move hn p)).2 = .ok ∧
    alookup (hash hd.sp) ((step hash w (.move hn p)).1.jobs p) = some jd ∧
    alookup (hash hd.sp) ((step hash w (.move hn p)).1.jobs hd.proj) = none :=
  Ws.move_keeps_id w hn hd p hh hpq hsrc hdst

/-- clone() makes an identical copy and leaves the source project untouched. -/
theorem clone_independent (w : World) (hn h2 : String) (hd : Handle) (p : Nat) (jd : JobData)
    (hh : alookup hn w.handles = some hd) (hpq : (hd.proj = 0) ≠ (p = 0))
    (hsrc : alookup (hash hd.sp) (w.jobs hd.proj) = some jd)
    (hdst : alookup (hash hd.sp) (w.jobs p) = none) :
    (step hash w (.clone hn p h2)).2 = .ok ∧
    alookup (hash hd.sp) ((step hash w (.clone hn p h2)).1.jobs p) = some jd ∧
    (step hash w (.clone hn p h2)).1.jobs hd.proj = w.jobs hd.proj :=
  Ws.clone_independent w hn h2 hd p hh hpq hsrc hdst

/-- clone() onto an initialised destination: DestinationExistsError, no job changes. -/
theorem clone_dest_exists (w : World) (hn h2 : String) (hd : Handle) (p : Nat) (jd : JobData)
    (hh : alookup hn w.handles = some hd)
    (hsrc : alookup (hash hd.sp) (w.jobs hd.proj) = some jd)
    (hdst : (alookup (hash hd.sp) (w.jobs p)).isSome = true) :
    (step hash w (.clone hn p h2)).2 = .destExists ∧
    (step hash w (.clone hn p h2)).1.p0 = w.p0 ∧ (step hash w (.clone hn p h2)).1.p1 = w.p1 :=
  Ws.clone_dest_exists w hn h2 hd p hh hsrc hdst

/- non-vacuity: a world with an initialised job {a:1} carrying a document and a file, a second
   job {a:2}, two handles of one group — hypotheses of rekey_moves_payload (edit a ↦ 3) and of
   rekey_dest_exists (edit a ↦ 2) are met. -/
def exWorld : World :=
  run (fun v => canonText v) World.empty
    [.openSp "h1" 0 (.obj [("a", .int 1)]), .dset "h1" "k" (.int 2), .put "h1" "f.txt" "A",
     .copy "h1" "h2", .openSp "h3" 0 (.obj [("a", .int 2)]), .init "h3"]

example :
    (alookup "h1" exWorld.handles).isSome = true ∧ (alookup "h2" exWorld.handles).isSome = true ∧
    ((alookup (canonText (.obj [("a", .int 1)])) (exWorld.jobs 0)).map (fun jd => jd.files.length)) = some 1 ∧
    (alookup (canonText (spSet (.obj [("a", .int 1)]) "a" (.int 3))) (exWorld.jobs 0)).isNone = true ∧
    (alookup (canonText (spSet (.obj [("a", .int 1)]) "a" (.int 2))) (exWorld.jobs 0)).isSome = true := by
  decide +kernel

end Signac.C04
