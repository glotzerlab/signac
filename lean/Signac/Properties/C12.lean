/-
  C12 — concurrent processes initialise jobs and write documents without corruption.
  Property theorems only; the model is Signac/Concurrency.lean, helper lemmas live in
  Signac/Proofs/Conc*.lean.

  All theorems hold for ANY number of actors, ANY scripts over the alphabet
  {Project(); open_job(sp).init(); job.doc[k]=v; job.doc=mapping; job.doc(); len(project)} and ANY schedule
  (list of actor indices, each entry = one file-system primitive of that actor); `hash` (the job
  id function) is an arbitrary parameter.
-/
import Signac.Proofs.ConcBoundary
namespace Signac.C12
open Signac.Conc
variable {SP DV : Type} {hash : SP → JobId}

/-- `SysInv` (well-shaped file system: every state point file present is complete and hashes to
    its directory, every document file is a complete JSON object, temp files hold an empty or a
    complete payload and belong to the actor saving exactly that file; every actor has met no
    exception and the directories / files its program counter relies on exist) is preserved by
    every step of every actor. -/
theorem sys_inv_step {s : Sys SP DV} (h : SysInv hash s) (a : Nat) : SysInv hash (sysStep hash s a) :=
  (sysStep_inv_guar h a).1

/-- `SysInv` is preserved by every step (`sys_inv_step`), hence holds after every schedule. -/
theorem sys_inv_all_schedules {s : Sys SP DV} (h : SysInv hash s) (sched : List Nat) :
    SysInv hash (run hash s sched) := run_inv h sched

/-- Every configuration the property speaks about satisfies the invariant initially: a
    well-shaped workspace without temp files and any number of processes, each about to run
    `Project()` followed by an arbitrary script. -/
theorem sys_inv_initially {fs : FS SP DV} (hfs : FsInv hash fs)
    (hnt : ∀ i k a, fs.get (.tmp i k a) = none) (scripts : List (List (Op SP DV))) :
    SysInv hash { fs := fs, actors := scripts.map AState.start } := initial_inv hfs hnt scripts

/-- No actor ever fails: in every state reachable by any schedule no exception has escaped from
    any process — in particular no `mkdir` race, no failed save, and every validating load of
    `init` (the one after the write, too) succeeds. -/
theorem no_actor_fails {s : Sys SP DV} (h : SysInv hash s) (sched : List Nat) :
    NoFailure (run hash s sched) := by
  intro st hst
  obtain ⟨a, ha, rfl⟩ := List.mem_iff_getElem.1 hst
  exact ((run_inv h sched).actors a _ (List.getElem?_eq_getElem ha)).noFail

/-- No torn read: whatever a process reads, at any point of any schedule, is the complete
    content of a published file — a state point that hashes to the directory it lies in, or a
    complete document object.  (Actors never read temp files.) -/
theorem no_torn_read {s : Sys SP DV} (h : SysInv hash s) (sched : List Nat) {a : Nat}
    {st : AState SP DV} {p : Path} {c : Content SP DV}
    (hst : (run hash s sched).actors[a]? = some st) (hn : next hash a st = some (.read p))
    (hr : (exec (run hash s sched).fs (.read p)).2 = .data c) :
    ∃ i k, p = .file i k ∧ GoodC hash i k c ∧ c ≠ .torn :=
  have ⟨i, k, e, g⟩ := read_is_good (run_inv h sched).fs hn hr
  ⟨i, k, e, g, goodC_not_torn g⟩

/-- Every state point file present in any reachable state is complete and hashes to the name of
    its directory; every document file is a complete object. -/
theorem published_files_valid {s : Sys SP DV} (h : SysInv hash s) (sched : List Nat) (i : JobId) :
    (∀ n, (run hash s sched).fs.get (.file i .sp) = some n → ∃ v, n = .file (.spc v) ∧ hash v = i) ∧
    (∀ n, (run hash s sched).fs.get (.file i .doc) = some n → ∃ d, n = .file (.docc d)) :=
  files_valid (run_inv h sched).fs i

/-- Temp files are private: one exists only while its owner (an existing actor) is between the
    `open` and the `rename` of a save of exactly that file, and no step of another actor touches it. -/
theorem tmp_private {s : Sys SP DV} (h : SysInv hash s) (sched : List Nat) (i : JobId) (k : Kind) (a : Nat)
    (hne : (run hash s sched).fs.get (.tmp i k a) ≠ none) :
    (∃ st, (run hash s sched).actors[a]? = some st ∧ tmpPhase i k st.phase) ∧
    ∀ b, b ≠ a → (sysStep hash (run hash s sched) b).fs.get (.tmp i k a)
                  = (run hash s sched).fs.get (.tmp i k a) :=
  ⟨tmp_owner (run_inv h sched) hne,
   fun b hb => (sysStep_inv_guar (run_inv h sched) b).2.tmps i k a fun e => hb e.symm⟩

/-- Monotonicity: directories and published files are never removed, by anybody, in any schedule
    (contents of published files may be replaced, by complete contents only). -/
theorem published_monotone {s : Sys SP DV} (h : SysInv hash s) (sched : List Nat) :
    (∀ p, IsDir s.fs p → IsDir (run hash s sched).fs p) ∧
    (∀ i k, IsFile s.fs (.file i k) → IsFile (run hash s sched).fs (.file i k)) :=
  run_monotone h sched

/-- A completed write is seen by every later read: once actor `a` has taken the `rename` that
    completes its save of a file, every read of that file by any actor, after any further
    schedule in which no other save of the same file completes, returns exactly that content. -/
theorem write_visible {s : Sys SP DV} (h : SysInv hash s) {a : Nat} {st : AState SP DV}
    {i : JobId} {k : Kind} {c : Content SP DV}
    (hst : s.actors[a]? = some st) (hph : st.phase = .save .rename i k c)
    (sched : List Nat) (hno : NoRenameTo hash i k (sysStep hash s a) sched) :
    (exec (run hash (sysStep hash s a) sched).fs (.read (.file i k))).2 = .data c := by
  have := rename_publishes h hst hph
  rw [← run_frame sched hno] at this
  exact exec_read_file this ▸ rfl

/-- When all actors are done no temp file is left. -/
theorem final_no_tmp {s : Sys SP DV} (h : SysInv hash s) (sched : List Nat)
    (hd : AllDone (run hash s sched)) (i : JobId) (k : Kind) (a : Nat) :
    (run hash s sched).fs.get (.tmp i k a) = none :=
  done_no_tmp (run_inv h sched) hd i k a

/-- The schedule that runs the processes one after another (actor 0 until it is done, then
    actor 1, …) always completes: every actor terminates, whatever the primitives answer. -/
theorem sequential_schedule_completes (s : Sys SP DV) : AllDone (run hash s (seqSched s)) :=
  seq_completes s

/-- What any completed run leaves behind is a function of the inputs only (`FinalSpec`): the job
    directories are exactly the requested ones (there initially, or named by some script); every
    one of them holds a complete state point file that hashes to its name (what `check()` verifies);
    no state point file lies outside a job directory; the document of every job with at most one
    writing process is the initial document with that process's writes applied in program order
    (`applySets`: `doc[k] = x` sets the key, a whole-document assignment `doc = d` makes the document
    BE `d`); no temp file is left. -/
theorem final_closed_form {fs : FS SP DV} (hv : ValidStart hash fs) (scripts : List (List (Op SP DV)))
    (sched : List Nat) (hd : AllDone (run hash (startSys fs scripts) sched)) :
    FinalSpec hash fs scripts (run hash (startSys fs scripts) sched).fs :=
  final_spec hv scripts sched hd

/-- `check()` passes once all are done (special case of `final_closed_form`, stated on its own). -/
theorem final_check_passes {fs : FS SP DV} (hv : ValidStart hash fs) (scripts : List (List (Op SP DV)))
    (sched : List Nat) (hd : AllDone (run hash (startSys fs scripts) sched)) (i : JobId)
    (hdir : IsDir (run hash (startSys fs scripts) sched).fs (.jobdir i)) :
    ∃ v, (run hash (startSys fs scripts) sched).fs.get (.file i .sp) = some (.file (.spc v)) ∧ hash v = i :=
  (final_spec hv scripts sched hd).check i hdir

/-- When all actors are done, the abstract workspace (which jobs exist, with valid state point
    files; every document; nothing else) equals that of a sequential execution — the one that runs
    the processes one after another, which itself completes — provided every document has at most
    one writing process (the property speaks of documents of different jobs). -/
theorem final_is_sequential {fs : FS SP DV} (hv : ValidStart hash fs) (scripts : List (List (Op SP DV)))
    (hsw : ∀ i, ∃ w, SingleWriter hash i w scripts)
    (sched : List Nat) (hd : AllDone (run hash (startSys fs scripts) sched)) :
    AllDone (run hash (startSys fs scripts) (seqSched (startSys fs scripts))) ∧
    AbsEq (run hash (startSys fs scripts) sched).fs
          (run hash (startSys fs scripts) (seqSched (startSys fs scripts))).fs :=
  ⟨seq_completes _, absEq_of_spec (final_spec hv scripts sched hd)
      (final_spec hv scripts _ (seq_completes _)) hsw⟩

/-! ### readers only see operation boundaries

  `boundaries init ws`: `init`, then the document after the 1st, 2nd, … of the writes `ws`
  (`mem_boundaries_iff`: exactly the values `applySets init (ws.take n)`).  `writesOf hash i w scripts`
  are the writes (`doc[k] = x` → `.set k x`, `doc = d` → `.assign d`) of actor `w` on job `i` in
  program order; `SingleWriter hash i w scripts`: no other actor writes that document. -/

/-- In every state of every schedule, the PUBLISHED document of a job whose document has a single
    writing actor is one of that writer's operation-boundary values: the initial document, or the
    document after the writer's first `n` completed writes.  In particular a whole-document
    assignment is one write: nothing between "before" and "the assigned mapping" (such as the
    emptied document of a `clear()`-then-`reset()` implementation) is ever published. -/
theorem published_is_boundary {fs : FS SP DV} (hfs : FsInv hash fs)
    (hnt : ∀ i k a, fs.get (.tmp i k a) = none) (scripts : List (List (Op SP DV)))
    {i : JobId} {w : Nat} (hsw : SingleWriter hash i w scripts) (sched : List Nat) :
    docNow (run hash (startSys fs scripts) sched).fs i ∈
      boundaries (docNow fs i) (writesOf hash i w scripts) :=
  published_boundary hfs hnt scripts hsw sched

/-- Every READ of such a document, by any actor at any point of any schedule, returns a boundary
    value: an actor about to read the document file of job `i` (program counter `dload v`,
    `hash v = i`: the load of a `doc[k] = x` or of a `doc()`) continues exactly as `resumeDload`
    with a boundary value `d` of the single writer (a missing file reads as the empty document,
    which then IS the initial value). -/
theorem read_returns_boundary {fs : FS SP DV} (hfs : FsInv hash fs)
    (hnt : ∀ i k a, fs.get (.tmp i k a) = none) (scripts : List (List (Op SP DV)))
    {i : JobId} {w : Nat} (hsw : SingleWriter hash i w scripts) (sched : List Nat)
    {a : Nat} {st : AState SP DV} {v : SP}
    (hst : (run hash (startSys fs scripts) sched).actors[a]? = some st)
    (hph : st.phase = .dload v) (hv : hash v = i) :
    next hash a st = some (.read (.file i .doc)) ∧
    ∃ d, d ∈ boundaries (docNow fs i) (writesOf hash i w scripts) ∧
      resume hash st (exec (run hash (startSys fs scripts) sched).fs (.read (.file i .doc))).2
        = resumeDload hash st v d := by
  subst hv
  exact ⟨nextOf a hph, _, published_boundary hfs hnt scripts hsw sched,
    tr_dload (run_inv (initial_inv hfs hnt scripts) sched).fs hph⟩

/-- **Readers only see operation boundaries.**  In every reachable state of every schedule, for
    every actor: the values handed back so far (`st.out`, newest first) are exactly explained by the
    operations the actor has completed (`pre`, the part of its program `Project(); script` that is
    no longer on `st.script`): one value per `doc()` / `len(project)`, in program order, and the
    document handed back by a `doc()` on a job with id `j` is — for every actor `w` that is the
    single writer of that job's document — one of `w`'s operation-boundary values
    (`IsBoundary`: `∀ w, SingleWriter hash j w scripts → d ∈ boundaries (docNow fs j) (writesOf hash j w scripts)`). -/
theorem reads_see_boundaries {fs : FS SP DV} (hfs : FsInv hash fs)
    (hnt : ∀ i k a, fs.get (.tmp i k a) = none) (scripts : List (List (Op SP DV))) (sched : List Nat)
    {a : Nat} {st : AState SP DV}
    (hst : (run hash (startSys fs scripts) sched).actors[a]? = some st) :
    ∃ sc pre, scripts[a]? = some sc ∧ .project :: sc = pre ++ st.script ∧
      Explains hash (IsBoundary hash fs scripts) pre st.out.reverse :=
  obsInv_reachable hfs hnt scripts sched a st hst

/-- The same in membership form, for a reader all of whose `doc()` calls are on job `i`: every
    document it has been handed back is a boundary value of the single writer `w`. -/
theorem reads_see_boundaries_mem {fs : FS SP DV} (hfs : FsInv hash fs)
    (hnt : ∀ i k a, fs.get (.tmp i k a) = none) (scripts : List (List (Op SP DV))) (sched : List Nat)
    {i : JobId} {w : Nat} (hsw : SingleWriter hash i w scripts)
    {a : Nat} {sc : List (Op SP DV)} {st : AState SP DV} (hsc : scripts[a]? = some sc)
    (hi : ∀ v, .docGet v ∈ sc → hash v = i)
    (hst : (run hash (startSys fs scripts) sched).actors[a]? = some st)
    (d : Doc DV) (hd : .doc d ∈ st.out) :
    d ∈ boundaries (docNow fs i) (writesOf hash i w scripts) := by
  obtain ⟨sc', pre, hsc', hpre, hex⟩ := reads_see_boundaries hfs hnt scripts sched hst
  rw [hsc] at hsc'; cases hsc'
  refine explains_mem hex ?_ d (List.mem_reverse.2 hd) w hsw
  intro v hv
  have : Op.docGet v ∈ (.project :: sc : List (Op SP DV)) := by
    rw [hpre]; exact List.mem_append_left _ hv
  rcases List.mem_cons.1 this with h | h
  · cases h
  · exact hi v h

/-- `reads_see_boundaries` for an actor that is done: all of its program is explained, the `n`-th
    value it handed back belongs to the `n`-th `doc()` / `len(project)` of its script. -/
theorem reads_see_boundaries_done {fs : FS SP DV} (hfs : FsInv hash fs)
    (hnt : ∀ i k a, fs.get (.tmp i k a) = none) (scripts : List (List (Op SP DV))) (sched : List Nat)
    {a : Nat} {st : AState SP DV}
    (hst : (run hash (startSys fs scripts) sched).actors[a]? = some st) (hfin : st.phase = .fin) :
    ∃ sc, scripts[a]? = some sc ∧
      Explains hash (IsBoundary hash fs scripts) (.project :: sc) st.out.reverse := by
  obtain ⟨sc, pre, hsc, hpre, hex⟩ := reads_see_boundaries hfs hnt scripts sched hst
  have hS := run_inv (initial_inv hfs hnt scripts) sched
  have hF : AllFinOk (run hash (startSys fs scripts) sched) := allFinOk_run (allFinOk_start fs scripts) sched
  have hnil := hF a st hst (hS.actors a st hst).noFail hfin
  rw [hnil, List.append_nil] at hpre
  exact ⟨sc, hsc, hpre ▸ hex⟩

/-- The `docs` clause of `final_closed_form` / `final_is_sequential` (the final documents do not
    depend on the schedule) without the single-writer hypothesis is FALSE of the model (and of signac): two
    processes assigning different keys of the same job document can lose one of the updates.  Kept
    as a `Prop`; its negation is proved from a concrete witness (the harness runs two-writer script
    sets against the real code as well: model and signac agree on the lost update; that case is
    outside the property as stated). -/
def docs_schedule_independent_full : Prop :=
  ∀ (fs : FS String Nat) (scripts : List (List (Op String Nat))) (σ τ : List Nat),
    ValidStart (id : String → JobId) fs →
    AllDone (run id (startSys fs scripts) σ) → AllDone (run id (startSys fs scripts) τ) →
    ∀ i, docNow (run id (startSys fs scripts) σ).fs i = docNow (run id (startSys fs scripts) τ).fs i

def luFs : FS String Nat :=
  ((FS.set [] .ws .dir).set (.jobdir "j") .dir).set (.file "j" .sp) (.file (.spc "j"))
def luScripts : List (List (Op String Nat)) := [[.docSet "j" "k" 1], [.docSet "j" "m" 2]]

theorem luFs_valid : ValidStart (id : String → JobId) luFs := by
  refine ⟨?_, fun i k a => rfl, fun i hd => ?_⟩
  · exact fsinv_set (fsinv_set (fsinv_set fsinv_nil (show NodeOk id Path.ws Node.dir from rfl) rfl)
      (show NodeOk id (Path.jobdir "j") Node.dir from rfl) (by decide))
      (show NodeOk id (Path.file "j" .sp) (Node.file (.spc "j")) from ⟨_, rfl, rfl⟩) (by decide)
  · by_cases h : i = "j"
    · exact h ▸ ⟨.spc "j", rfl⟩
    · have hne : ¬ Path.jobdir "j" = Path.jobdir i := fun e => h (Path.jobdir.inj e).symm
      simp [luFs, IsDir, get_set, FS.get, hne] at hd

theorem not_docs_schedule_independent_full : ¬ docs_schedule_independent_full := by
  intro h
  have := h luFs luScripts
    [0,0,0, 1,1,1, 0,0,0,0, 1,1,1,1]            -- both load the (missing) document, then both save
    (List.replicate 7 0 ++ List.replicate 7 1)   -- one after the other
    luFs_valid (allDone_of_B (by decide +kernel)) (allDone_of_B (by decide +kernel)) "j"
  revert this
  decide +kernel

/-! ### non-vacuity: concrete, non-trivial instances of the hypotheses

  Two processes on an empty workspace, both initialise the job "j"; the first then writes its
  document, the second reads it (`hash` = identity on strings). -/

def exFs : FS String Nat := FS.set [] .ws .dir
def exSys : Sys String Nat :=
  { fs := exFs,
    actors := [AState.start [.init "j", .docSet "j" "k" 5], AState.start [.init "j", .docGet "j"]] }

/-- the hypotheses of `sys_inv_initially` / `sys_inv_all_schedules` / `no_actor_fails` / … -/
example : SysInv (id : String → JobId) exSys :=
  initial_inv (fsinv_set fsinv_nil (show NodeOk id Path.ws Node.dir from rfl) rfl)
    (by intro i k a; simp [get_set, FS.get])
    [[.init "j", .docSet "j" "k" 5], [.init "j", .docGet "j"]]

/-- a racy schedule really is racy in the model: both actors find the state point file missing,
    the second `mkdir` hits EEXIST, the second `isfile` finds the file the first one published -/
example : ((runTrace (id : String → JobId) exSys [0,1,0,1,0,1,0,0,1,1,0,0,0,0,0,1,1,1]).1.map
      (fun t => match t.2.2 with | .err .eexist => 1 | _ => 0)).sum = 1 := by decide +kernel

/-- the hypotheses of `write_visible`: after 16 steps actor 0 is about to complete the save of
    the document {"k": 5} of job "j" (so `hst`, `hph` hold in that state), and the schedule in which
    actor 1 then runs alone contains no other completing save of that file -/
def atDocRename : Option (AState String Nat) → Bool
  | some st => match st.phase with
    | .save .rename "j" .doc (.docc [("k", 5)]) => true
    | _ => false
  | none => false
example : atDocRename (run (id : String → JobId) exSys (List.replicate 16 0)).actors[0]? = true := by decide +kernel
example : NoRenameTo (id : String → JobId) "j" .doc
    (sysStep id (run (id : String → JobId) exSys (List.replicate 16 0)) 0) [1, 1, 1, 1] :=
  noRenameTo_of_B (by decide +kernel)

/-- the hypothesis of `final_no_tmp`: a complete schedule exists (here: one after the other) -/
def allFin (s : Sys String Nat) : Bool :=
  s.actors.all (fun st => match st.phase with | .fin => true | _ => false)
example : allFin (run (id : String → JobId) exSys (List.replicate 17 0 ++ List.replicate 6 1)) = true := by
  decide +kernel

/-- the hypotheses of `final_closed_form` / `final_is_sequential`: a valid populated start
    (`luFs_valid`), scripts in which every document has one writer, and a complete racy schedule -/
example : ∀ i, ∃ w, SingleWriter (id : String → JobId) i w
    ([[.init "j", .docSet "j" "k" 5], [.init "j", .docGet "j"]] : List (List (Op String Nat))) := by
  intro i
  refine ⟨0, ?_⟩
  intro a sc hsc hne
  match a, hsc with
  | 0, _ => exact absurd rfl hne
  | 1, hsc => cases hsc; rfl
  | n+2, hsc => cases hsc
example : allDoneB (run (id : String → JobId)
    (startSys luFs [[.init "j", .docSet "j" "k" 5], [.init "j", .docGet "j"]])
    [0,1,0,1,0,1,0,0,1,1,0,0,0,1,1,1,0,0,0,0,0]) = true := by decide +kernel

/-! non-vacuity of `published_is_boundary` / `reads_see_boundaries`: the job "j" exists with the
    document {"k": 0, "o": 9}; actor 0 writes `doc["k"] = 5`, then assigns `doc = {"z": 1}`;
    actor 1 reads the document three times. -/

def bFs : FS String Nat := luFs.set (.file "j" .doc) (.file (.docc [("k", 0), ("o", 9)]))
def bScripts : List (List (Op String Nat)) :=
  [[.docSet "j" "k" 5, .docAssign "j" [("z", 1)]], [.docGet "j", .docGet "j", .docGet "j"]]

/-- the hypotheses `hfs`, `hnt`, `hsw` -/
example : FsInv (id : String → JobId) bFs :=
  fsinv_set luFs_valid.inv (show NodeOk id (Path.file "j" .doc) (Node.file (.docc [("k", 0), ("o", 9)]))
    from ⟨_, rfl, trivial⟩) (by decide +kernel)
example : ∀ i k a, bFs.get (.tmp i k a) = none := by
  intro i k a; simp [bFs, luFs, get_set, FS.get]
example : SingleWriter (id : String → JobId) "j" 0 bScripts := by
  intro a sc hsc hne
  match a, hsc with
  | 0, _ => exact absurd rfl hne
  | 1, hsc => cases hsc; rfl
  | n+2, hsc => cases hsc

/-- the three boundary values; the empty document is NOT one of them -/
example : boundaries (docNow bFs "j") (writesOf (id : String → JobId) "j" 0 bScripts)
    = [[("k", 0), ("o", 9)], [("k", 5), ("o", 9)], [("z", 1)]] := by decide +kernel
example : ([] : Doc Nat) ∉ boundaries (docNow bFs "j") (writesOf (id : String → JobId) "j" 0 bScripts) := by
  decide +kernel

def docsOf : List (Obs String Nat) → List (Doc Nat)
  | [] => []
  | .doc d :: r => d :: docsOf r
  | _ :: r => docsOf r

/-- a schedule in which the reader sees all three of them, one after the other -/
example : ((run (id : String → JobId) (startSys bFs bScripts)
      [1,1,1, 0,0,0,0,0,0,0, 1,1, 0,0,0,0,0, 1,1]).actors[1]?.map (fun st => docsOf st.out.reverse))
    = some [[("k", 0), ("o", 9)], [("k", 5), ("o", 9)], [("z", 1)]] := by decide +kernel
/-- the reader reads while the writer is in the middle of the assignment (temp file opened and
    written, not yet renamed): it still gets the value before the assignment, then the mapping -/
example : ((run (id : String → JobId) (startSys bFs bScripts)
      [0,0,0,0,0,0,0, 0,0,0, 1,1,1, 0,0, 1,1,1,1]).actors[1]?.map (fun st => docsOf st.out.reverse))
    = some [[("k", 5), ("o", 9)], [("z", 1)], [("z", 1)]] := by decide +kernel
/-- `final_closed_form` on this instance: the final document is the assigned mapping -/
example : docNow (run (id : String → JobId) (startSys bFs bScripts)
      [0,0,0,0,0,0,0, 0,0,0, 1,1,1, 0,0, 1,1,1,1]).fs "j"
    = applySets (docNow bFs "j") (writesOf (id : String → JobId) "j" 0 bScripts) := by decide +kernel
/-- the property is not vacuous about the regression it is meant to catch: an assignment
    implemented as TWO writes (`clear()`, then `reset(mapping)`) — in the model: the script
    `doc = {}; doc = {"z": 1}` — does let a reader see the emptied document, which is not a
    boundary value of the one-write script above -/
example : ((run (id : String → JobId)
      (startSys bFs [[.docAssign "j" [], .docAssign "j" [("z", 1)]], [.docGet "j"]])
      [0,0,0,0,0,0, 1,1,1]).actors[1]?.map (fun st => docsOf st.out.reverse)) = some [[]] := by decide +kernel
example : allDoneB (run (id : String → JobId) (startSys bFs bScripts)
      [0,0,0,0,0,0,0, 0,0,0, 1,1,1, 0,0, 1,1,1,1]) = true := by decide +kernel

end Signac.C12
