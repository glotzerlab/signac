/-
  C18 — schema detection and job diffs are exact summaries of the state points.
  Property theorems only; definitions of the model are in Signac/Schema.lean, helper lemmas and
  the specification vocabulary (`ConstKey`, `NoBoolIntClash`, `SameSlot`, `WFKVs`) in Signac/Proofs/Schema*.lean.

  `jobs` is the selection `detect_schema` works on (all jobs, or `subset`), in index order;
  `all` is the argument list of `diff_jobs`.  Nothing is bounded: any number of jobs, any depth.
-/
import Signac.Proofs.SchemaSpec
import Signac.Proofs.SchemaGate
import Signac.Proofs.SchemaGatePerm
namespace Signac.C18
open Signac Signac.Schema

/-! ### detect_schema: keys -/

/-- The reported keys are exactly the dotted keys of the selected jobs; with `exclude_const`
    exactly the constant keys are omitted (constant = every selected job holds a value under the
    key and all these values fall into one dict slot, i.e. agree as Python dict keys). -/
theorem schema_keys_exact (excl : Bool) (jobs : List Job) (k : String) :
    k ∈ (detectSchema excl jobs).map Prod.fst ↔
      (∃ j ∈ jobs, ∃ v, (k, v) ∈ flatten j.sp) ∧ ¬ (excl = true ∧ ConstKey k jobs) :=
  mem_schema_keys

/-- No key is reported twice. -/
theorem schema_keys_nodup (excl : Bool) (jobs : List Job) :
    ((detectSchema excl jobs).map Prod.fst).Nodup :=
  detectSchema_nodup_keys excl jobs

/-- A constant key is one on which every selected job has a value, all in the slot of the first. -/
theorem const_key_spec (k : String) (j0 : Job) (js : List Job) :
    ConstKey k (j0 :: js) ↔
      ∃ v0, valueAt k j0 = some v0 ∧
        ∀ j ∈ js, ∃ v, valueAt k j = some v ∧ IKey.same (keyOf v0) (keyOf v) = true :=
  Iff.rfl

/-- The dotted key of a flattened pair leads, in the nested state point, to that pair's value
    (keys dot-free and distinct, as signac enforces). -/
theorem dotted_key_value (j : Job) (hwf : WFKVs j.sp) (k : String) (v : JVal)
    (h : (k, v) ∈ flatten j.sp) : valueAt k j = some v :=
  getPath_flatten_of (WFKVs_keys hwf) (fun kv hkv k' v' =>
    getPath_flattenVal kv.2 kv.1 k' v' (WFKVs_mem hwf kv hkv).1 (WFKVs_mem hwf kv hkv).2) h

/-! ### detect_schema: values grouped by type -/

/-- Soundness: every reported value is filed under its own Python type, is not a mapping, and is
    literally the value some selected job holds under that key. -/
theorem schema_values_sound (excl : Bool) (jobs : List Job) (k t : String) (r : JVal)
    (h : r ∈ reported (detectSchema excl jobs) k t) :
    pyTypeName r = t ∧ isObj r = false ∧ ∃ j ∈ jobs, valueAt k j = some r :=
  have ⟨_, hr, ht⟩ := mem_reported.mp h
  ⟨ht, slotValues_sound hr⟩

/-- Completeness on the proven domain: if no key holds a bool next to an `==`-equal int, every
    value of every selected job is represented, under its own type, by a reported value of the
    same dict slot (itself, or one that is `==` and of the same float-ness). -/
theorem schema_values_exact_partial (excl : Bool) (jobs : List Job) (hclash : NoBoolIntClash jobs)
    (k : String) (hk : k ∈ (detectSchema excl jobs).map Prod.fst)
    (j : Job) (hj : j ∈ jobs) (v : JVal) (hv : valueAt k j = some v) (hno : isObj v = false) :
    ∃ r ∈ reported (detectSchema excl jobs) k (pyTypeName v), SameSlot r v :=
  have ⟨r, hr, hs, ht⟩ := slotValues_complete_typed hclash hj hv hno
  ⟨r, mem_reported.mpr ⟨hk, hr, ht⟩, hs⟩

/-- The same statement without the hypothesis (what C18 literally asks for). -/
def schema_values_exact_full : Prop :=
  ∀ (excl : Bool) (jobs : List Job) (k : String), k ∈ (detectSchema excl jobs).map Prod.fst →
    ∀ j ∈ jobs, ∀ v, valueAt k j = some v → isObj v = false →
      ∃ r ∈ reported (detectSchema excl jobs) k (pyTypeName v), SameSlot r v

/-- the two-job corpus of F-6a -/
def f6aWitness : List Job := [⟨"j1", [("a", .bool true)]⟩, ⟨"j2", [("a", .int 1)]⟩]

/-- F-6a: the unrestricted statement is false of the model (as of the code): for `{a: True}`,
    `{a: 1}` nothing is reported under `int`. -/
theorem schema_values_exact_full_false : ¬ schema_values_exact_full := by
  intro h
  have hk : "a" ∈ (detectSchema false f6aWitness).map Prod.fst := by decide +kernel
  obtain ⟨r, hr, _⟩ := h false f6aWitness "a" hk ⟨"j2", [("a", .int 1)]⟩
    (List.mem_cons_of_mem _ List.mem_cons_self) (.int 1) rfl rfl
  have : reported (detectSchema false f6aWitness) "a" (pyTypeName (.int 1)) = [] := by decide +kernel
  rw [this] at hr
  cases hr

/-- Without the hypothesis every job value is still represented under the type of its slot's
    stored key. -/
theorem schema_values_represented (excl : Bool) (jobs : List Job)
    (k : String) (hk : k ∈ (detectSchema excl jobs).map Prod.fst)
    (j : Job) (hj : j ∈ jobs) (v : JVal) (hv : valueAt k j = some v) (hno : isObj v = false) :
    ∃ r ∈ reported (detectSchema excl jobs) k (pyTypeName r), SameSlot r v :=
  have ⟨r, hr, hs⟩ := slotValues_complete hj hv hno
  ⟨r, mem_reported.mpr ⟨hk, hr, rfl⟩, hs⟩

/-- The values reported for a key under one type are pairwise in different dict slots (a set). -/
theorem schema_values_separated (excl : Bool) (jobs : List Job) (k t : String) :
    (reported (detectSchema excl jobs) k t).Pairwise (fun a b => slotEq a b = false) := by
  rw [reported_detectSchema]
  split
  · exact (slotValues_apart k jobs).sublist List.filter_sublist
  · exact List.Pairwise.nil

/-! ### flatten / unflatten -/

/-- `_dotted_dict_to_nested_dicts(dict(_nested_dicts_to_dotted_keys(sp))) == sp` for mappings with
    distinct dot-free keys along the mapping spine (lists are leaves, kept as their tuples; entry order
    is restored too). -/
theorem unflatten_flatten (sp : KVs) (hwf : WFKVs sp) : unflatten (flatten sp) = sp :=
  unflatten_flatten_eq hwf

/-! ### diff_jobs -/

/-- A job's diff and its common part partition its flattened pairs … -/
theorem diff_partition (all : List KVs) (sp : KVs) :
    (diffOf all sp ++ commonOf all sp).Perm (flatten sp) :=
  diff_common_perm all sp

/-- … the diff holds exactly the job's pairs to which no member of the intersection is equal
    (Python `==` on `(key, value)` tuples), the common part exactly those with an equal member … -/
theorem diff_exact (all : List KVs) (sp : KVs) (x : String × JVal) :
    (x ∈ diffOf all sp ↔ x ∈ flatten sp ∧ ∀ y ∈ inter all, pairEq y x = false)
    ∧ (x ∈ commonOf all sp ↔ x ∈ flatten sp ∧ ∃ y ∈ inter all, pairEq y x = true) :=
  ⟨mem_diffOf, mem_commonOf⟩

/-- … so the two are disjoint. -/
theorem diff_disjoint (all : List KVs) (sp : KVs) (x y : String × JVal)
    (hx : x ∈ diffOf all sp) (hy : y ∈ commonOf all sp) : x ≠ y := by
  intro e
  subst e
  obtain ⟨_, z, hz, hzx⟩ := mem_commonOf.mp hy
  rw [(mem_diffOf.mp hx).2 z hz] at hzx
  cases hzx

/-- The intersection consists of the pairs of the first job that every other job holds too. -/
theorem common_shared_by_all (sp0 : KVs) (rest : List KVs) (x : String × JVal) :
    x ∈ inter (sp0 :: rest) ↔
      x ∈ flatten sp0 ∧ ∀ o ∈ rest, ∃ y ∈ flatten o, pairEq y x = true :=
  mem_inter_cons

/-- What C18 asks of `diff_jobs`, literally: on state points whose mappings have distinct keys (every
    Python dict) a job's diff holds exactly its pairs NOT shared by all given jobs, and its common part
    exactly the shared ones — "shared" meaning every job holds a pair that is `==` as Python compares
    `(key, value)` tuples (`1 == 1.0 == True`, lists element-wise, mappings key-wise).  Uses that this
    `==` is symmetric and transitive (`pyEq_symm`, `pyEq_trans`). -/
theorem diff_is_unshared (all : List KVs) (hall : ∀ o ∈ all, NodupKeysObj o) (sp : KVs) (hsp : sp ∈ all)
    (x : String × JVal) :
    (x ∈ diffOf all sp ↔ x ∈ flatten sp ∧ ¬ SharedByAll all x)
    ∧ (x ∈ commonOf all sp ↔ x ∈ flatten sp ∧ SharedByAll all x) := by
  have key : x ∈ flatten sp → (memPair x (inter all) = true ↔ SharedByAll all x) := fun hx =>
    memPair_inter_iff hall (List.ne_nil_of_mem hsp) (flatten_nodupKeys (hall sp hsp) x hx)
  rw [diffOf, commonOf, List.mem_filter, List.mem_filter, Bool.not_eq_true', ← Bool.not_eq_true]
  exact ⟨and_congr_right fun hx => not_congr (key hx), and_congr_right key⟩

/-- The diff merged with the common part gives back the state point: the two lists together are
    a re-ordering of pairs that unflatten to exactly the job's state point. -/
theorem diff_reconstructs (all : List KVs) (sp : KVs) (hwf : WFKVs sp) :
    ∃ l, l.Perm (diffOf all sp ++ commonOf all sp) ∧ unflatten l = sp :=
  ⟨flatten sp, (diff_common_perm all sp).symm, unflatten_flatten_eq hwf⟩

/-- `diff_jobs` answers one entry per argument, in order, under the job's id. -/
theorem diffJobs_ids (jobs : List Job) : (diffJobs jobs).map Prod.fst = jobs.map Job.id := by
  simp [diffJobs, List.map_map, Function.comp_def]

/-! ### non-vacuity of the hypotheses -/

/-- a nested, mixed-type, well-formed state point (hypothesis of `dotted_key_value`,
    `unflatten_flatten`, `diff_reconstructs`) -/
example : WFKVs [("a", .obj [("b", .int 1), ("", .arr [.flt 1 0 "1.0", .null])]), ("c", .obj []),
                 ("é", .str "x")] := by
  dsimp only [WFKVs, WFVal, DotFreeKey]
  decide +kernel

/-- two state points with distinct keys at every depth, one of them among the arguments, sharing the
    pair `("a", 1)` / `("a", 1.0)` (hypotheses of `diff_is_unshared`) -/
example :
    let all : List KVs := [[("a", .int 1), ("b", .arr [.obj [("x", .null), ("y", .bool true)]])],
                           [("a", .flt 1 0 "1.0"), ("c", .obj [])]]
    (∀ o ∈ all, NodupKeysObj o) ∧ [("a", .flt 1 0 "1.0"), ("c", .obj [])] ∈ all
      ∧ SharedByAll all ("a", .int 1) := by
  exact ⟨by decide +kernel, List.mem_cons_of_mem _ List.mem_cons_self,
    show ∀ o ∈ _, ∃ y ∈ flatten o, pairEq y _ = true by decide +kernel⟩

/-- a corpus with an int next to the equal float, a list, a nested mapping and a missing key that
    satisfies `NoBoolIntClash`, and on which the key `a` is reported (hypotheses of
    `schema_values_exact_partial`) -/
example :
    let jobs : List Job := [⟨"j1", [("a", .int 1), ("b", .arr [.int 1])]⟩,
                            ⟨"j2", [("a", .flt 1 0 "1.0")]⟩,
                            ⟨"j3", [("a", .obj [("x", .null)])]⟩]
    NoBoolIntClash jobs ∧ "a" ∈ (detectSchema true jobs).map Prod.fst
      ∧ valueAt "a" ⟨"j2", [("a", .flt 1 0 "1.0")]⟩ = some (.flt 1 0 "1.0") := by
  exact ⟨noBoolIntClash_of_noBool (by decide +kernel), by decide +kernel, rfl⟩

/-! ### schema gate of sync -/

/-- A schema detected from Python-dict state points is well-formed. -/
theorem detectSchema_wellformed (excl : Bool) (jobs : List Job) (hj : ∀ j ∈ jobs, NodupKeysObj j.sp) :
    SchemaWF (detectSchema excl jobs) :=
  Signac.Schema.detectSchema_wf excl hj

/-- Without any hypothesis: distinct keys (`schema_keys_nodup`), distinct type names under each key,
    and every reported value list is a set for Python `==`. -/
theorem detectSchema_keys_nodup (excl : Bool) (jobs : List Job) :
    ((detectSchema excl jobs).map Prod.fst).Nodup ∧
      ∀ kv ∈ detectSchema excl jobs, (kv.2.map Prod.fst).Nodup ∧ ∀ tv ∈ kv.2, PyApart tv.2 :=
  ⟨detectSchema_nodup_keys excl jobs, Signac.Schema.detectSchema_types_nodup excl jobs⟩

/-- Mapping equality is reflexive on well-formed schemas … -/
theorem schemaEq_refl (a : Schema) (h : SchemaWF a) : schemaEq a a = true :=
  Signac.Schema.schemaEq_refl h

/-- … and symmetric. -/
theorem schemaEq_symm (a b : Schema) (ha : SchemaWF a) (hb : SchemaWF b) :
    schemaEq a b = schemaEq b a :=
  Signac.Schema.schemaEq_symm ha hb

/-- With distinct keys only: both differences are empty iff the schemas are equal BOTH ways … -/
theorem difference_empty_iff_nodup (a b : Schema)
    (ha : (a.map Prod.fst).Nodup) (hb : (b.map Prod.fst).Nodup) :
    (schemaDifference false a b = [] ∧ schemaDifference false b a = []) ↔
      (schemaEq a b = true ∧ schemaEq b a = true) :=
  Signac.Schema.difference_empty_iff_nodup ha hb

/-- … and on well-formed schemas iff they are equal: the inner test of the gate is redundant.
    (One-sided equality needs more than distinct keys: `difference_empty_iff_needs_sets`.) -/
theorem difference_empty_iff (a b : Schema) (ha : SchemaWF a) (hb : SchemaWF b) :
    (schemaDifference false a b = [] ∧ schemaDifference false b a = []) ↔ schemaEq a b = true :=
  Signac.Schema.difference_empty_iff ha hb

/-- `difference` lists no key twice. -/
theorem difference_nodup (ig : Bool) (a b : Schema) (ha : (a.map Prod.fst).Nodup) :
    (schemaDifference ig a b).Nodup :=
  List.Nodup.sublist (List.Sublist.map _ List.filter_sublist) ha

/-- The gate of `sync_projects` fires iff both detected schemas are non-empty and not equal
    (no hypothesis: the direction used needs distinct keys only). -/
theorem syncGate_simple (src dst : List Job) :
    syncGate src dst =
      (!(detectSchema false src).isEmpty && !(detectSchema false dst).isEmpty &&
        !schemaEq (detectSchema false src) (detectSchema false dst)) :=
  Signac.Schema.syncGate_simple src dst

/-- The gate does not depend on the direction of the synchronisation. -/
theorem syncGate_symm (a b : List Job) (ha : ∀ j ∈ a, NodupKeysObj j.sp)
    (hb : ∀ j ∈ b, NodupKeysObj j.sp) : syncGate a b = syncGate b a :=
  Signac.Schema.syncGate_symm ha hb

/-- A project never has a schema conflict with itself. -/
theorem syncGate_same (jobs : List Job) (h : ∀ j ∈ jobs, NodupKeysObj j.sp) :
    syncGate jobs jobs = false :=
  Signac.Schema.syncGate_same h

/-- A project without jobs, or whose jobs all have the empty state point, has the empty schema … -/
theorem detectSchema_empty (excl : Bool) (jobs : List Job) (h : ∀ j ∈ jobs, j.sp = []) :
    detectSchema excl jobs = [] :=
  Signac.Schema.detectSchema_empty excl h

/-- … and never trips the gate, as source … -/
theorem syncGate_empty_left (src dst : List Job) (h : ∀ j ∈ src, j.sp = []) :
    syncGate src dst = false :=
  Signac.Schema.syncGate_empty_left dst h

/-- … or as destination. -/
theorem syncGate_empty_right (src dst : List Job) (h : ∀ j ∈ dst, j.sp = []) :
    syncGate src dst = false :=
  Signac.Schema.syncGate_empty_right src h

/-- `ignore_values=True` reports a subset of what `ignore_values=False` reports … -/
theorem difference_ignore_subset (a b : Schema) :
    ∀ k ∈ schemaDifference true a b, k ∈ schemaDifference false a b :=
  Signac.Schema.difference_ignore_subset

/-- … namely exactly the keys of `a` that are not keys of `b`. -/
theorem difference_ignore_keys (a b : Schema) (k : String) :
    k ∈ schemaDifference true a b ↔ k ∈ a.map Prod.fst ∧ k ∉ b.map Prod.fst :=
  Signac.Schema.difference_ignore_keys

/-- Membership in `difference` in general. -/
theorem difference_mem (ig : Bool) (a b : Schema) (k : String) :
    k ∈ schemaDifference ig a b ↔
      ∃ v, (k, v) ∈ a ∧ (alookup k b = none ∨
        (ig = false ∧ ∃ w, alookup k b = some w ∧ typedEq w v = false)) :=
  Signac.Schema.mem_schemaDifference

/-- F-6a again: the gate is NOT invariant under re-ordering the jobs of a project (`{a: True},{a: 1}`
    against `{a: True}` is silent, `{a: 1},{a: True}` against `{a: True}` fires). -/
theorem syncGate_perm_false :
    ¬ (∀ src src' dst : List Job, src.Perm src' → syncGate src dst = syncGate src' dst) :=
  Signac.Schema.syncGate_perm_false

/-- non-vacuity: the gate fires on `{a: 1}` / `{a: 2}` and on `{a: 1}` / `{a: 1.0}`, is silent on the
    same values in another job order and when one side has no state point keys -/
example : syncGate [⟨"j1", [("a", .int 1)]⟩] [⟨"j2", [("a", .int 2)]⟩] = true
    ∧ syncGate [⟨"j1", [("a", .int 1)]⟩] [⟨"j2", [("a", .flt 1 0 "1.0")]⟩] = true
    ∧ syncGate [⟨"j1", [("a", .int 1)]⟩, ⟨"j2", [("a", .int 2)]⟩]
               [⟨"j3", [("a", .int 2)]⟩, ⟨"j4", [("a", .int 1)]⟩] = false
    ∧ syncGate [⟨"j1", [("a", .int 1)]⟩] [⟨"j0", []⟩] = false := by decide +kernel

/-! ### schema gate: order independence -/

/-- Mapping equality of schemas is transitive (the well-formedness hypotheses are not used:
    `schemaEq_trans_nohyp`). -/
theorem schemaEq_trans (a b c : Schema) (ha : SchemaWF a) (hb : SchemaWF b) (hc : SchemaWF c)
    (h1 : schemaEq a b = true) (h2 : schemaEq b c = true) : schemaEq a c = true :=
  Signac.Schema.schemaEq_trans ha hb hc h1 h2

/-- … in fact for arbitrary association lists. -/
theorem schemaEq_trans_nohyp (a b c : Schema)
    (h1 : schemaEq a b = true) (h2 : schemaEq b c = true) : schemaEq a c = true :=
  Signac.Schema.schemaEq_trans_nohyp h1 h2

/-- The SET of reported keys does not depend on the job order (no hypothesis). -/
theorem detectSchema_perm_keys (jobs jobs' : List Job) (hp : jobs.Perm jobs') (k : String) :
    k ∈ (detectSchema false jobs).map Prod.fst ↔ k ∈ (detectSchema false jobs').map Prod.fst :=
  Signac.Schema.detectSchema_perm_keys hp k

/-- Without the bool/int clash (and with Python-dict state points) the detected schema does not depend
    on the job order, up to Mapping equality. -/
theorem detectSchema_perm_schemaEq_partial (jobs jobs' : List Job) (hclash : NoBoolIntClash jobs)
    (hj : ∀ j ∈ jobs, NodupKeysObj j.sp) (hp : jobs.Perm jobs') :
    schemaEq (detectSchema false jobs) (detectSchema false jobs') = true :=
  Signac.Schema.detectSchema_perm_schemaEq_partial hclash hj hp

/-- The gate does not depend on the order of the source jobs when THESE are clash-free Python dicts
    (nothing is asked of the destination) … -/
theorem syncGate_perm_partial (src src' dst : List Job) (hclash : NoBoolIntClash src)
    (hj : ∀ j ∈ src, NodupKeysObj j.sp) (hp : src.Perm src') :
    syncGate src dst = syncGate src' dst :=
  Signac.Schema.syncGate_perm_partial dst hclash hj hp

/-- … nor on the order of the destination jobs when these are.  With `syncGate_perm_false`: the index
    order matters only through F-6a. -/
theorem syncGate_perm_partial_dst (src dst dst' : List Job) (hclash : NoBoolIntClash dst)
    (hj : ∀ j ∈ dst, NodupKeysObj j.sp) (hp : dst.Perm dst') :
    syncGate src dst = syncGate src dst' :=
  Signac.Schema.syncGate_perm_partial_dst src hclash hj hp

/-- non-vacuity: a clash-free corpus of Python dicts (int next to the equal float, nested mapping,
    list) and a re-ordering of it -/
example :
    let jobs : List Job := [⟨"j1", [("a", .int 1), ("b", .arr [.int 1])]⟩,
                            ⟨"j2", [("a", .flt 1 0 "1.0")]⟩,
                            ⟨"j3", [("a", .obj [("x", .null)])]⟩]
    let jobs' : List Job := [⟨"j2", [("a", .flt 1 0 "1.0")]⟩,
                             ⟨"j3", [("a", .obj [("x", .null)])]⟩,
                             ⟨"j1", [("a", .int 1), ("b", .arr [.int 1])]⟩]
    NoBoolIntClash jobs ∧ (∀ j ∈ jobs, NodupKeysObj j.sp) ∧ jobs.Perm jobs'
      ∧ schemaEq (detectSchema false jobs) (detectSchema false jobs') = true := by
  exact ⟨noBoolIntClash_of_noBool (by decide +kernel), by decide +kernel,
    List.perm_append_comm (l₁ := [_]) (l₂ := [_, _]), by decide +kernel⟩

/-- the hypothesis is what fails on the F-6a corpus -/
example : ¬ NoBoolIntClash f6aWitness := by
  intro h
  have := h "a" ⟨"j1", [("a", .bool true)]⟩ List.mem_cons_self ⟨"j2", [("a", .int 1)]⟩
    (List.mem_cons_of_mem _ List.mem_cons_self) (.bool true) (.int 1) rfl rfl
  revert this
  decide +kernel

end Signac.C18
