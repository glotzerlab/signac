/-
  C19 — discovery resolves to the nearest enclosing project; init_project is idempotent.
  Property theorems only; helper lemmas live in Signac/Proofs/DiscLocate.lean, DiscJob.lean.

  Paths are lists of components INNERMOST FIRST (`/a/b/c` = ["c","b","a"]); `q <:+ p`
  (`AncOrSelf q p`) reads "q is p or an ancestor of p".  A `Tree` is any assignment of
  kind / `.signac/config` marker (+ version) / legacy `signac.rc` marker to paths.
-/
import Signac.Extracted
import Signac.Discovery
import Signac.Proofs.DiscLocate
import Signac.Proofs.DiscJob
import Signac.DiscoveryS
import Signac.Proofs.DiscoverySLemmas
namespace Signac.C19
open Signac Signac.Disc

/-- The upward search of `_locate_config_dir` returns `q` iff `q` is `p` or an ancestor of
    `p`, is a project, and every project at or above `p` is at or above `q` (= `q` is the
    nearest one).  All trees, all paths. -/
theorem locate_nearest (t : Tree) (p q : Path) :
    findProject t p = some q ↔
      AncOrSelf q p ∧ isProject t q = true ∧
        ∀ r, AncOrSelf r p → isProject t r = true → AncOrSelf r q :=
  findProject_nearest t p q

/-- `get_project(p)` (search=True) returns the project at `q` iff `p` exists, `q` is the
    nearest project at or above `p`, and that project passes the version gate.  In particular
    a project further up is never returned past a nearer one, whatever the nearer one's
    version is. -/
theorem getProject_nearest (t : Tree) (p q : Path) :
    (getProject t p true).1 = .ok q ↔ t.kind p ≠ .absent ∧ Nearest t p q ∧ GateOk t q :=
  getProject_search_ok_iff t p q

/-- `get_project(p, search=False)` returns a project iff `p` itself is one, and then it is `p`. -/
theorem nosearch_exact (t : Tree) (p q : Path) :
    (getProject t p false).1 = .ok q ↔
      q = p ∧ t.kind p ≠ .absent ∧ isProject t p = true ∧ GateOk t p :=
  getProject_nosearch_ok_iff t p q

/-- The model of `get_job` is the code, literally: every component is scanned with
    `re.finditer` and only matches spanning the whole component pass the filter.  That comes to:
    a component has such a match iff it IS an id (`isIdName`: `idLen` characters of `[a-f0-9]`),
    the match then ends at `idLen`, and the matched id and the component cut at the end of the
    match are the component itself. -/
theorem complete_match_iff_idName (c : String) :
    (lastMatchEnd c).isSome = isIdName c
    ∧ (isIdName c = true →
        lastMatchEnd c = some idLen ∧ matchedId c idLen = c ∧ cutAt c idLen = c) :=
  ⟨lastMatchEnd_isSome c, fun h =>
    ⟨idLike_lastMatchEnd ((isIdName_iff c).mp h), idLike_matched ((isIdName_iff c).mp h),
      idLike_cut ((isIdName_iff c).mp h)⟩⟩

/-- Hence the last complete match in the path is the innermost component that is an id, taken
    as it stands, with the path from that component up (`lastJobSimple`). -/
theorem lastJob_simple (p : Path) : lastJob p = lastJobSimple p := lastJob_eq_simple p

/-- `get_job(p)` returns `(j, q)` iff `p` exists, `j` is the innermost component of `p` that
    is an id, the path from that component up is a directory, and `q` is the nearest project
    strictly above that directory and passes the gate.  All trees, all paths, no layout
    hypothesis. -/
theorem getJob_characterised (t : Tree) (p : Path) (j : String) (q : Path) :
    (getJob t p).1 = .ok (j, q) ↔
      t.kind p ≠ .absent ∧ ∃ rest, AncOrSelf (j :: rest) p ∧ isIdName j = true ∧
        (∀ h' tl, AncOrSelf (h' :: tl) p → isIdName h' = true → AncOrSelf (h' :: tl) (j :: rest)) ∧
        t.kind (j :: rest) = .dir ∧ Nearest t rest q ∧ GateOk t q :=
  getJob_ok_iff_innermostId t p j q

/-- No phantom jobs, no layout hypothesis: whatever `get_job(p)` returns, the id is a complete
    component of `p`, it is an id, and the path cut at that component is a directory of the
    tree at or above `p`. -/
theorem getJob_never_phantom (t : Tree) (p : Path) (j : String) (q : Path)
    (h : (getJob t p).1 = .ok (j, q)) :
    j ∈ p ∧ isIdName j = true ∧
      ∃ rest, AncOrSelf (j :: rest) p ∧ t.kind (j :: rest) = .dir := by
  obtain ⟨_, rest, hs, hid, _, hd, _, _⟩ := (getJob_ok_iff_innermostId t p j q).mp h
  exact ⟨hs.mem (List.mem_cons_self ..), hid, rest, hs, hd⟩

/-- Look-alikes are ignored: if no component of `p` is an id — whatever id-like runs the
    components contain — `get_job(p)` raises LookupError and does nothing. -/
theorem getJob_ignores_lookalikes (t : Tree) (p : Path) (h : ∀ c ∈ p, isIdName c = false) :
    getJob t p = (.error .lookup, []) :=
  getJob_noId ((lastJob_none p).mpr h)

/-- Under the (weak) layout hypothesis of the property — a directory whose name IS an id sits
    directly inside a project's `workspace`, which is not itself a project; existing id-named
    paths are directories; existing paths sit in directories; names merely containing an
    id-like run are unconstrained — `get_job(p)` returns `(j, q)` iff `q/workspace/j` is a job
    directory at or above `p`, every job directory at or above `p` is at or above it (= it is
    the innermost one), and `q` — the project whose workspace holds it — passes the gate. -/
theorem getJob_innermost (t : Tree) (L : LayoutW t) (p : Path) (j : String) (q : Path) :
    (getJob t p).1 = .ok (j, q) ↔
      t.kind p ≠ .absent ∧ GateOk t q ∧ IsJobDir t (j :: "workspace" :: q) ∧
        AncOrSelf (j :: "workspace" :: q) p ∧
        ∀ d, IsJobDir t d → AncOrSelf d p → AncOrSelf d (j :: "workspace" :: q) :=
  getJob_ok_iff_of_layout t L p j q

/-- the strict layout hypothesis (no name may even CONTAIN an id-like run unless it is a job
    directory) implies the weak one, -/
theorem layout_weaker (t : Tree) (L : Layout t) : LayoutW t := L.toW

/-- so the statement under the strict hypothesis is a corollary. -/
theorem getJob_innermost_strict (t : Tree) (L : Layout t) (p : Path) (j : String) (q : Path) :
    (getJob t p).1 = .ok (j, q) ↔
      t.kind p ≠ .absent ∧ GateOk t q ∧ IsJobDir t (j :: "workspace" :: q) ∧
        AncOrSelf (j :: "workspace" :: q) p ∧
        ∀ d, IsJobDir t d → AncOrSelf d p → AncOrSelf d (j :: "workspace" :: q) :=
  getJob_innermost t L.toW p j q

/-- LookupError, never a guess: a non-existent path; nothing at or above the path (no project, no
    legacy config); no component of the path is an id; the id-named path is not a directory.
    And whatever is returned is a project at or above the query. -/
theorem lookup_errors (t : Tree) (p : Path) :
    (t.kind p = .absent → ∀ s, getProject t p s = (.error .lookup, []))
    ∧ (t.kind p = .absent → getJob t p = (.error .lookup, []))
    ∧ ((∀ r, AncOrSelf r p → isProject t r = false) → (∀ r, AncOrSelf r p → t.rc r = none) →
        ∀ s, getProject t p s = (.error .lookup, []))
    ∧ ((∀ c ∈ p, isIdName c = false) → getJob t p = (.error .lookup, []))
    ∧ (∀ j rest, lastJob p = some (j, rest) → t.kind rest ≠ .dir →
        getJob t p = (.error .lookup, []))
    ∧ (∀ s q, (getProject t p s).1 = .ok q → AncOrSelf q p ∧ isProject t q = true) := by
  refine ⟨getProject_absent, getJob_absent, ?_, getJob_ignores_lookalikes t p,
    fun j rest hl hd => getJob_notDir hl hd, ?_⟩
  · intro h1 h2 s
    by_cases hk : t.kind p = .absent
    · exact getProject_absent hk s
    · cases s
      · rw [getProject_nosearch hk, h1 p (List.suffix_refl _)]; rfl
      · rw [getProject_search hk, getProjectFrom_nothing t p h1 h2]
  · exact fun s q h => getProject_ok_anc t p q s h

/-- `init_project` on an existing project whose workspace directory is there performs no
    mutating step at all and returns that project (or refuses it at the version gate). -/
theorem initProject_idempotent (t : Tree) (p : Path) (hp : isProject t p = true)
    (hk : t.kind p ≠ .absent) (hw : hasWorkspace t p = true) :
    (initProject t p).2 = [] ∧
      ((initProject t p).1 = .ok p ∨ (initProject t p).1 = .error .incompatible) := by
  rw [initProject_existing t p hp hk]
  refine ⟨openProject_steps_ws t p hw, ?_⟩
  obtain ⟨v, hc⟩ := Option.isSome_iff_exists.mp hp
  by_cases hg : Mig.gate (v.getD 1) = .ok
  · exact .inl (by rw [openProject_accepted hc hg])
  · exact .inr (by rw [openProject_refused hc hg])

/-- `init_project` on an existing project never writes the configuration and creates nothing
    except a missing `workspace` directory (what opening the project does anyway). -/
theorem initProject_never_rewrites (t : Tree) (p : Path) (hp : isProject t p = true)
    (hk : t.kind p ≠ .absent) :
    ∀ s ∈ (initProject t p).2, s = .mkdir ("workspace" :: p) := by
  rw [initProject_existing t p hp hk]
  exact openProject_steps t p

/-- `init_project` where there is no project and no legacy config: creates the missing levels
    of `p/.signac`, writes the config once, opens the new project. -/
theorem initProject_fresh (t : Tree) (p : Path) (hp : isProject t p = false) (hrc : t.rc p = none) :
    initProject t p = (.ok p, mkdirP t (".signac" :: p) ++ [.writeConfig p] ++
      (if hasWorkspace t p then [] else [.mkdir ("workspace" :: p)])) :=
  initProject_fresh_eq t p hp hrc

/-- The pattern the model scans for is the one the running package uses. -/
theorem id_pattern_tie :
    Extracted.JOB_ID_REGEX = "[a-f0-9]{" ++ toString idLen ++ "}" ∧ idLen = 32 := by decide

/-! ### non-vacuity

Facts about the listed trees are evaluated (`decide +kernel`: the kernel compares and unpacks string
literals much faster than the elaborator; no axiom is involved). -/

def idA : String := "0123456789abcdef0123456789abcdef"
def idB : String := "ffffffffffffffffffffffffffffffff"

/-- `/P` project, job `idA`, inside it a plain directory `sub` holding a nested project `N`
    with its own job `idB` and a data directory; plus a plain directory `/x` outside. -/
def exNodes : List Node := [
  ⟨[], .dir, none, none⟩,
  ⟨["P"], .dir, some (some 2), none⟩,
  ⟨["workspace", "P"], .dir, none, none⟩,
  ⟨[idA, "workspace", "P"], .dir, none, none⟩,
  ⟨["sub", idA, "workspace", "P"], .dir, none, none⟩,
  ⟨["N", "sub", idA, "workspace", "P"], .dir, some (some 2), none⟩,
  ⟨["workspace", "N", "sub", idA, "workspace", "P"], .dir, none, none⟩,
  ⟨[idB, "workspace", "N", "sub", idA, "workspace", "P"], .dir, none, none⟩,
  ⟨["data", idB, "workspace", "N", "sub", idA, "workspace", "P"], .dir, none, none⟩,
  ⟨["x"], .dir, none, none⟩ ]

def exTree : Tree := Tree.ofNodes exNodes

/-- the strict layout hypothesis is satisfiable by a tree with a project nested in a job
    directory, and so is the weak one -/
theorem exTree_layout : Layout exTree := layout_of_check exNodes (by decide +kernel)

/-- the nested example also satisfies the weak layout hypothesis -/
theorem exTree_layoutW : LayoutW exTree := exTree_layout.toW

/-- in it, the nearest project of the nested data directory is the nested project, -/
example : findProject exTree ["data", idB, "workspace", "N", "sub", idA, "workspace", "P"]
    = some ["N", "sub", idA, "workspace", "P"] := by decide +kernel

/-- the job of the nested data directory is the inner job in the nested project, -/
example : (getJob exTree ["data", idB, "workspace", "N", "sub", idA, "workspace", "P"]).1
    = .ok (idB, ["N", "sub", idA, "workspace", "P"]) := by decide +kernel

/-- the job of the nested project directory itself is the outer job of the outer project, -/
example : (getJob exTree ["N", "sub", idA, "workspace", "P"]).1 = .ok (idA, ["P"]) := by decide +kernel

/-- and outside every project both raise LookupError. -/
example : getProject exTree ["x"] true = (.error .lookup, [])
    ∧ getJob exTree ["x"] = (.error .lookup, []) := by decide +kernel

/-- hypotheses of `initProject_idempotent` / `initProject_fresh` hold for `/P` resp. `/x` -/
example : isProject exTree ["P"] = true ∧ exTree.kind ["P"] ≠ .absent
    ∧ hasWorkspace exTree ["P"] = true := by decide +kernel

example : isProject exTree ["x"] = false ∧ exTree.rc ["x"] = none := by decide +kernel

/-! ### look-alikes -/

def lookX : String := "x0123456789abcdef0123456789abcdef"             -- "x" ++ idA
def lookBak : String := "0123456789abcdef0123456789abcdef.bak"        -- idA ++ ".bak"
def look40 : String := "0123456789abcdef0123456789abcdef01234567"     -- idA ++ 8 more hex characters

example : lookX = "x" ++ idA ∧ lookBak = idA ++ ".bak" ∧ look40 = idA ++ "01234567" := by decide +kernel

/-- `/P` project with the real job `idA`; next to it in the workspace three look-alike
    directories (`x<id>`, `<id>.bak`, a 40-hex name), each with a file inside; inside the real job
    directory a look-alike directory `x<id>` with a file inside. -/
def lookNodes : List Node := [
  ⟨[], .dir, none, none⟩,
  ⟨["P"], .dir, some (some 2), none⟩,
  ⟨["workspace", "P"], .dir, none, none⟩,
  ⟨[idA, "workspace", "P"], .dir, none, none⟩,
  ⟨[lookX, "workspace", "P"], .dir, none, none⟩,
  ⟨["f", lookX, "workspace", "P"], .file, none, none⟩,
  ⟨[lookBak, "workspace", "P"], .dir, none, none⟩,
  ⟨["f", lookBak, "workspace", "P"], .file, none, none⟩,
  ⟨[look40, "workspace", "P"], .dir, none, none⟩,
  ⟨["f", look40, "workspace", "P"], .file, none, none⟩,
  ⟨[lookX, idA, "workspace", "P"], .dir, none, none⟩,
  ⟨["f", lookX, idA, "workspace", "P"], .file, none, none⟩ ]

def lookTree : Tree := Tree.ofNodes lookNodes

/-- the look-alikes contain a match of the pattern (the code before fix F-19a took it), but are no ids -/
example : hasMatchB lookX = true ∧ hasMatchB lookBak = true ∧ hasMatchB look40 = true
    ∧ isIdName lookX = false ∧ isIdName lookBak = false ∧ isIdName look40 = false
    ∧ isIdName idA = true := by decide +kernel

/-- the tree with look-alikes satisfies the weak layout hypothesis but not the strict one: the
    weakening is strict -/
theorem lookTree_layoutW : LayoutW lookTree := layoutW_of_check lookNodes (by decide +kernel)

/-- the look-alike directory `x<id>` contains an id match without being an id: the strict
    hypothesis fails on the tree with look-alikes -/
theorem lookTree_not_layout : ¬ Layout lookTree := by
  intro L
  have h : lookTree.kind [lookX, "workspace", "P"] ≠ .absent ∧ hasMatchB lookX = true
      ∧ isIdName lookX = false := by decide +kernel
  have := (L.idlike lookX ["workspace", "P"] h.1 ((hasMatchB_iff lookX).mp h.2.1)).2.1
  exact absurd ((isIdName_iff lookX).mpr this) (by rw [h.2.2]; decide)

/-- `get_job` of a look-alike directory, or of a file in it: LookupError, nothing done -/
example : getJob lookTree [lookX, "workspace", "P"] = (.error .lookup, [])
    ∧ getJob lookTree ["f", lookX, "workspace", "P"] = (.error .lookup, []) := by decide +kernel

example : getJob lookTree [lookBak, "workspace", "P"] = (.error .lookup, [])
    ∧ getJob lookTree ["f", lookBak, "workspace", "P"] = (.error .lookup, []) := by decide +kernel

example : getJob lookTree [look40, "workspace", "P"] = (.error .lookup, [])
    ∧ getJob lookTree ["f", look40, "workspace", "P"] = (.error .lookup, []) := by decide +kernel

/-- a look-alike directory INSIDE a real job directory: the enclosing job is returned -/
example : getJob lookTree [lookX, idA, "workspace", "P"] = (.ok (idA, ["P"]), [])
    ∧ getJob lookTree ["f", lookX, idA, "workspace", "P"] = (.ok (idA, ["P"]), []) := by decide +kernel

/-- the hypotheses of `getJob_ignores_lookalikes` hold of the first three queries -/
example : (∀ c ∈ ["f", lookX, "workspace", "P"], isIdName c = false)
    ∧ (∀ c ∈ ["f", lookBak, "workspace", "P"], isIdName c = false)
    ∧ (∀ c ∈ ["f", look40, "workspace", "P"], isIdName c = false) := by decide +kernel

/-! ### the clause "existing id-named paths are directories" of `LayoutW` is needed -/

/-- `/P` project, job `idA`, and inside the job directory a FILE whose name is an id. -/
def fileNodes : List Node := [
  ⟨[], .dir, none, none⟩,
  ⟨["P"], .dir, some (some 2), none⟩,
  ⟨["workspace", "P"], .dir, none, none⟩,
  ⟨[idA, "workspace", "P"], .dir, none, none⟩,
  ⟨[idB, idA, "workspace", "P"], .file, none, none⟩ ]

def fileTree : Tree := Tree.ofNodes fileNodes

/-- If the layout hypothesis constrains only id-named DIRECTORIES (`LayoutDirOnly`: `LayoutW`
    without its clause `iddir`), the equivalence of `getJob_innermost` fails: for an id-named
    file inside a job directory `get_job` takes the file's name for the job id, finds that
    `<file>/..` does not exist and raises LookupError, although the innermost job directory
    containing the path exists (and its project passes the gate). -/
theorem getJob_innermost_needs_iddir :
    ∃ (t : Tree) (p : Path) (j : String) (q : Path), LayoutDirOnly t ∧
      getJob t p = (.error .lookup, []) ∧
      (t.kind p ≠ .absent ∧ GateOk t q ∧ IsJobDir t (j :: "workspace" :: q) ∧
        AncOrSelf (j :: "workspace" :: q) p ∧
        ∀ d, IsJobDir t d → AncOrSelf d p → AncOrSelf d (j :: "workspace" :: q)) := by
  -- everything that is read off the listed tree, in one evaluation
  have h : checkNodes fileNodes layoutDirOnlyOk = true
      ∧ getJob fileTree [idB, idA, "workspace", "P"] = (.error .lookup, [])
      ∧ fileTree.kind [idB, idA, "workspace", "P"] = .file
      ∧ fileTree.cfg ["P"] = some (some 2) ∧ isIdName idA = true
      ∧ fileTree.kind [idA, "workspace", "P"] = .dir := by decide +kernel
  obtain ⟨hL, hj, hk, hc, hid, hd⟩ := h
  refine ⟨fileTree, [idB, idA, "workspace", "P"], idA, ["P"], layoutDirOnly_of_check fileNodes hL, hj,
    by rw [hk]; decide, ⟨some 2, hc, by decide⟩,
    ⟨idA, ["P"], rfl, (isIdName_iff idA).mp hid, by rw [isProject, hc]; rfl, hd⟩,
    List.suffix_cons _ _, ?_⟩
  intro d hd' hs
  rcases List.suffix_cons_iff.mp hs with rfl | hs'
  · obtain ⟨_, _, _, _, _, hk'⟩ := hd'
    rw [hk] at hk'; cases hk'
  · exact hs'

/-! ### the schema version as the string in the file (Signac/DiscoveryS.lean)

`DiscS.TreeS` carries the raw `schema_version` strings, `getProjectS` / `getJobS` convert them
with `int()` where the code does.  "Passes the gate" becomes `Accepted`: the config has the key
and `int()` reads its string as the supported version. -/
open Signac.DiscS Signac.PyInt

/-- `getProject_nearest` for EVERY string tree (integer literals or not): `get_project(p)`
    returns `q` iff `p` exists, `q` is the nearest project at or above `p`, and the string its
    config declares is read by `int()` as the supported version.  A nearer project whose string
    is anything else — "3", "2.1", "" — is never skipped (`C20.gate_refuses_strings`). -/
theorem getProjectS_nearest (ts : TreeS) (p q : Path) :
    (getProjectS ts p true).1 = .ok q ↔
      ts.kind p ≠ .absent ∧ NearestS ts p q ∧
        ∃ s, ts.cfgS q = some (some s) ∧ pyInt s = some (Mig.SCHEMA : Int) :=
  getProjectS_search_ok_iff ts p q

/-- `nosearch_exact` for every string tree. -/
theorem nosearchS_exact (ts : TreeS) (p q : Path) :
    (getProjectS ts p false).1 = .ok q ↔
      q = p ∧ ts.kind p ≠ .absent ∧ isProjectS ts p = true ∧
        ∃ s, ts.cfgS p = some (some s) ∧ pyInt s = some (Mig.SCHEMA : Int) :=
  getProjectS_nosearch_ok_iff ts p q

/-- The upward search itself does not look at the version at all. -/
theorem locateS_nearest (ts : TreeS) (p q : Path) : findProjectS ts p = some q ↔ NearestS ts p q :=
  findProjectS_nearest ts p q

/-- `getJob_innermost` transfers to every string tree whose versions are integer literals
    (`Denotes ts t`, see `C20.stringLayer_refines`). -/
theorem getJobS_innermost (ts : TreeS) (t : Tree) (h : Denotes ts t) (L : LayoutW t) (p : Path)
    (j : String) (q : Path) :
    (getJobS ts p).1 = .ok (j, q) ↔
      t.kind p ≠ .absent ∧ GateOk t q ∧ IsJobDir t (j :: "workspace" :: q) ∧
        AncOrSelf (j :: "workspace" :: q) p ∧
        ∀ d, IsJobDir t d → AncOrSelf d p → AncOrSelf d (j :: "workspace" :: q) := by
  rw [getJobS_eq h]
  simp only [liftR, liftE_ok_iff]
  exact getJob_innermost t L p j q

/-- and for a string tree outside that domain: whatever `get_job` returns, the project's string
    is one `int()` reads as the supported version -/
theorem getJobS_accepted (ts : TreeS) (p : Path) (j : String) (q : Path)
    (h : (getJobS ts p).1 = .ok (j, q)) :
    ∃ s, ts.cfgS q = some (some s) ∧ pyInt s = some (Mig.SCHEMA : Int) :=
  getJobS_accepts ts p j q h

/-- the nested example with the versions written as strings: the outer project says " 2", the
    nested one "02" -/
def exTreeS : TreeS := TreeS.ofNodes [
  ⟨[], .dir, none, none⟩,
  ⟨["P"], .dir, some (some " 2"), none⟩,
  ⟨["workspace", "P"], .dir, none, none⟩,
  ⟨[idA, "workspace", "P"], .dir, none, none⟩,
  ⟨["sub", idA, "workspace", "P"], .dir, none, none⟩,
  ⟨["N", "sub", idA, "workspace", "P"], .dir, some (some "02"), none⟩,
  ⟨["workspace", "N", "sub", idA, "workspace", "P"], .dir, none, none⟩,
  ⟨[idB, "workspace", "N", "sub", idA, "workspace", "P"], .dir, none, none⟩,
  ⟨["data", idB, "workspace", "N", "sub", idA, "workspace", "P"], .dir, none, none⟩,
  ⟨["x"], .dir, none, none⟩ ]

/-- its strings " 2" and "02" are integer literals: `getJobS_innermost` applies to it -/
theorem exTreeS_denotes : Denotes exTreeS exTreeS.toTree :=
  denotes_toTree _ (intLiterals_ofNodes _ (by decide +kernel))

example : (getJobS exTreeS ["data", idB, "workspace", "N", "sub", idA, "workspace", "P"]).1
    = .ok (idB, ["N", "sub", idA, "workspace", "P"]) := by decide +kernel

example : (getJobS exTreeS ["N", "sub", idA, "workspace", "P"]).1 = .ok (idA, ["P"]) := by decide +kernel

example : getProjectS exTreeS ["x"] true = (.error (.base .lookup), []) := by decide +kernel

end Signac.C19
