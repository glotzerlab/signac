/-
  C06 — find_jobs returns exactly the jobs a per-job reference evaluator accepts.
  Property theorems only; helper lemmas live in Signac/Proofs/Query*.lean.

  Reading guide.  `findFlt P c f` is `Project._find_job_ids` (value index per queried key with
  dict-slot semantics, operator evaluation on the stored keys, int/float dual lookup, set algebra
  with early exits, documents indexed iff `doc` is a root key) for a corpus `c` of any size and a
  filter `f` of any depth; `evalRef P d f` evaluates `f` structurally on ONE job's data `d`.
  Hypotheses of the main theorem:
    * ids are distinct;  `NearRespectsEq P`: math.isclose looks at the numeric value only;
    * `WellTyped`: direct evaluation raises for no job (and not on a job without data);
    * `CorpusKeysNodup` (theorem `find_eq_ref`): every mapping in the job data has distinct keys —
      an invariant of Python dicts, needed only because the model's association lists could
      repeat a key (`find_eq_ref_nonflat_false` shows what goes wrong then);
      the `…_partial` theorems assume instead `CorpusFlat`: lists in job data hold no
      mappings — a special case (`find_eq_ref_partial_from_lists`);
    * `NoBoolIntClash`: finding F-6a excluded — no `$type` atom on a key under which two jobs hold
      a bool and an `==` int.
-/
import Signac.Proofs.QueryCorpus
namespace Signac.C06
open Signac Signac.Query
open Signac.Query.Full (CorpusKeysNodup CorpusListsOK)

/-- The empty filter selects every job. -/
theorem find_empty (P : Params) (c : Corpus) : findJobs P c (.obj []) = .ok (c.map (·.id)) := rfl

/-- A JSON filter is evaluated by prefixing/splitting it (`ofJson`) and then by `findFlt`; the
    reference evaluator does the same split.  (Unfolding lemma tying the raw-filter entry points
    to the statements below.) -/
theorem find_json_unfold (P : Params) (c : Corpus) (filter : JVal) (f : Flt)
    (hne : falsy filter = false) (hf : ofJson filter = .ok f) :
    findJobs P c filter = findFlt P c f ∧ ∀ j, evalJob P j filter = evalRef P (fullDoc j) f := by
  constructor
  · simp only [findJobs, hne, hf, Bool.false_eq_true, if_false]
  · intro j; simp only [evalJob, hne, hf, Bool.false_eq_true, if_false]

/-- `find_eq_ref` for a corpus whose lists hold no mappings (`CorpusFlat`): for every corpus (any
    number of jobs) and every filter (any depth, all operators, both namespaces) the index-based
    search returns exactly — as a set of ids — the jobs whose own state point and document satisfy
    the filter under direct evaluation. -/
theorem find_eq_ref_partial (P : Params) (c : Corpus) (f : Flt)
    (hids : (c.map (·.id)).Nodup) (hP : NearRespectsEq P) (hflat : CorpusFlat c)
    (hwt : WellTyped P c f) (hnc : NoBoolIntClash c f) :
    ∃ r, findFlt P c f = .ok r ∧
      ∀ i, i ∈ r ↔ ∃ j ∈ c, j.id = i ∧ evalRef P (fullDoc j) f = .ok true :=
  Full.findFlt_exact_lists hids hP (Full.corpusListsOK_of_flat hflat) hwt hnc

/-- Membership form: only ids of the corpus are returned, and a job of the corpus is returned iff
    its own data satisfy the filter. -/
theorem find_mem_iff_partial (P : Params) (c : Corpus) (f : Flt)
    (hids : (c.map (·.id)).Nodup) (hP : NearRespectsEq P) (hflat : CorpusFlat c)
    (hwt : WellTyped P c f) (hnc : NoBoolIntClash c f) :
    ∃ r, findFlt P c f = .ok r ∧ (∀ i ∈ r, i ∈ c.map (·.id)) ∧
      ∀ j ∈ c, (j.id ∈ r ↔ evalRef P (fullDoc j) f = .ok true) :=
  Full.findFlt_mem_iff_lists hids hP (Full.corpusListsOK_of_flat hflat) hwt hnc

/-- MAIN THEOREM.  The index-based search returns exactly — as a set of ids — the jobs whose own
    state point and document satisfy the filter under direct evaluation; job data may hold
    mappings inside lists at any depth.  `CorpusKeysNodup c`: every mapping anywhere in the job data has pairwise
    distinct keys.  This is not a restriction on signac data but an invariant of Python dicts (and
    of `json.loads` output); the model represents mappings as association lists, which could
    repeat a key, and Python's `==` on such a "mapping" is not even reflexive. -/
theorem find_eq_ref (P : Params) (c : Corpus) (f : Flt)
    (hids : (c.map (·.id)).Nodup) (hP : NearRespectsEq P) (hkeys : CorpusKeysNodup c)
    (hwt : WellTyped P c f) (hnc : NoBoolIntClash c f) :
    ∃ r, findFlt P c f = .ok r ∧
      ∀ i, i ∈ r ↔ ∃ j ∈ c, j.id = i ∧ evalRef P (fullDoc j) f = .ok true :=
  Full.findFlt_exact_lists hids hP (Full.corpusListsOK_of_keysNodup hkeys) hwt hnc

/-- Membership form of `find_eq_ref`. -/
theorem find_mem_iff (P : Params) (c : Corpus) (f : Flt)
    (hids : (c.map (·.id)).Nodup) (hP : NearRespectsEq P) (hkeys : CorpusKeysNodup c)
    (hwt : WellTyped P c f) (hnc : NoBoolIntClash c f) :
    ∃ r, findFlt P c f = .ok r ∧ (∀ i ∈ r, i ∈ c.map (·.id)) ∧
      ∀ j ∈ c, (j.id ∈ r ↔ evalRef P (fullDoc j) f = .ok true) :=
  Full.findFlt_mem_iff_lists hids hP (Full.corpusListsOK_of_keysNodup hkeys) hwt hnc

/-- The weakest form proved: distinct keys are needed only for the mappings that sit inside lists
    (`CorpusListsOK`); mappings outside lists are descended into, never compared.  Both
    `find_eq_ref` and `find_eq_ref_partial` are instances. -/
theorem find_eq_ref_lists (P : Params) (c : Corpus) (f : Flt)
    (hids : (c.map (·.id)).Nodup) (hP : NearRespectsEq P) (hkeys : CorpusListsOK c)
    (hwt : WellTyped P c f) (hnc : NoBoolIntClash c f) :
    ∃ r, findFlt P c f = .ok r ∧
      ∀ i, i ∈ r ↔ ∃ j ∈ c, j.id = i ∧ evalRef P (fullDoc j) f = .ok true :=
  Full.findFlt_exact_lists hids hP hkeys hwt hnc

/-- `find_eq_ref_partial` once more, from `find_eq_ref_lists` -/
theorem find_eq_ref_partial_from_lists (P : Params) (c : Corpus) (f : Flt)
    (hids : (c.map (·.id)).Nodup) (hP : NearRespectsEq P) (hflat : CorpusFlat c)
    (hwt : WellTyped P c f) (hnc : NoBoolIntClash c f) :
    ∃ r, findFlt P c f = .ok r ∧
      ∀ i, i ∈ r ↔ ∃ j ∈ c, j.id = i ∧ evalRef P (fullDoc j) f = .ok true :=
  find_eq_ref_lists P c f hids hP (Full.corpusListsOK_of_flat hflat) hwt hnc

/-- Locality: whether a job is selected depends only on that job's own data, never on which other
    jobs exist — the same job in two different corpora gets the same verdict. -/
theorem find_local_partial (P : Params) (c c' : Corpus) (f : Flt) (j : Job)
    (hj : j ∈ c) (hj' : j ∈ c')
    (hids : (c.map (·.id)).Nodup) (hids' : (c'.map (·.id)).Nodup) (hP : NearRespectsEq P)
    (hflat : CorpusFlat c) (hflat' : CorpusFlat c')
    (hwt : WellTyped P c f) (hwt' : WellTyped P c' f)
    (hnc : NoBoolIntClash c f) (hnc' : NoBoolIntClash c' f) :
    ∃ r r', findFlt P c f = .ok r ∧ findFlt P c' f = .ok r' ∧ (j.id ∈ r ↔ j.id ∈ r') :=
  Full.find_local_lists hids hP (Full.corpusListsOK_of_flat hflat) hj hj' hids'
    (Full.corpusListsOK_of_flat hflat') hwt hwt' hnc hnc'

/-- `$not` is the complement (within the project) of its operand's result. -/
theorem not_compl_partial (P : Params) (c : Corpus) (f : Flt)
    (hids : (c.map (·.id)).Nodup) (hP : NearRespectsEq P) (hflat : CorpusFlat c)
    (hwt : WellTyped P c (fNot f)) (hnc : NoBoolIntClash c (fNot f)) :
    ∃ rn rf, findFlt P c (fNot f) = .ok rn ∧ findFlt P c f = .ok rf ∧
      ∀ j ∈ c, (j.id ∈ rn ↔ j.id ∉ rf) :=
  Full.not_compl_lists hids hP (Full.corpusListsOK_of_flat hflat) hwt hnc

/-- `$and` is the intersection of its operands' results. -/
theorem and_inter_partial (P : Params) (c : Corpus) (f g : Flt)
    (hids : (c.map (·.id)).Nodup) (hP : NearRespectsEq P) (hflat : CorpusFlat c)
    (hwt : WellTyped P c (fAnd f g)) (hnc : NoBoolIntClash c (fAnd f g)) :
    ∃ r rf rg, findFlt P c (fAnd f g) = .ok r ∧ findFlt P c f = .ok rf ∧ findFlt P c g = .ok rg ∧
      ∀ j ∈ c, (j.id ∈ r ↔ j.id ∈ rf ∧ j.id ∈ rg) :=
  Full.and_inter_lists hids hP (Full.corpusListsOK_of_flat hflat) hwt hnc

/-- `$or` is the union of its operands' results. -/
theorem or_union_partial (P : Params) (c : Corpus) (f g : Flt)
    (hids : (c.map (·.id)).Nodup) (hP : NearRespectsEq P) (hflat : CorpusFlat c)
    (hwt : WellTyped P c (fOr f g)) (hnc : NoBoolIntClash c (fOr f g)) :
    ∃ r rf rg, findFlt P c (fOr f g) = .ok r ∧ findFlt P c f = .ok rf ∧ findFlt P c g = .ok rg ∧
      ∀ j ∈ c, (j.id ∈ r ↔ j.id ∈ rf ∨ j.id ∈ rg) :=
  Full.or_union_lists hids hP (Full.corpusListsOK_of_flat hflat) hwt hnc


/-! ### the corollaries without `CorpusFlat` -/

/-- Locality (see `find_local_partial`), mappings inside lists allowed. -/
theorem find_local (P : Params) (c c' : Corpus) (f : Flt) (j : Job)
    (hj : j ∈ c) (hj' : j ∈ c')
    (hids : (c.map (·.id)).Nodup) (hids' : (c'.map (·.id)).Nodup) (hP : NearRespectsEq P)
    (hk : CorpusKeysNodup c) (hk' : CorpusKeysNodup c')
    (hwt : WellTyped P c f) (hwt' : WellTyped P c' f)
    (hnc : NoBoolIntClash c f) (hnc' : NoBoolIntClash c' f) :
    ∃ r r', findFlt P c f = .ok r ∧ findFlt P c' f = .ok r' ∧ (j.id ∈ r ↔ j.id ∈ r') :=
  Full.find_local_lists hids hP (Full.corpusListsOK_of_keysNodup hk) hj hj' hids'
    (Full.corpusListsOK_of_keysNodup hk') hwt hwt' hnc hnc'

/-- `$not` is the complement of its operand's result, mappings inside lists allowed. -/
theorem not_compl (P : Params) (c : Corpus) (f : Flt)
    (hids : (c.map (·.id)).Nodup) (hP : NearRespectsEq P) (hk : CorpusKeysNodup c)
    (hwt : WellTyped P c (fNot f)) (hnc : NoBoolIntClash c (fNot f)) :
    ∃ rn rf, findFlt P c (fNot f) = .ok rn ∧ findFlt P c f = .ok rf ∧
      ∀ j ∈ c, (j.id ∈ rn ↔ j.id ∉ rf) :=
  Full.not_compl_lists hids hP (Full.corpusListsOK_of_keysNodup hk) hwt hnc

/-- `$and` is the intersection of its operands' results, mappings inside lists allowed. -/
theorem and_inter (P : Params) (c : Corpus) (f g : Flt)
    (hids : (c.map (·.id)).Nodup) (hP : NearRespectsEq P) (hk : CorpusKeysNodup c)
    (hwt : WellTyped P c (fAnd f g)) (hnc : NoBoolIntClash c (fAnd f g)) :
    ∃ r rf rg, findFlt P c (fAnd f g) = .ok r ∧ findFlt P c f = .ok rf ∧ findFlt P c g = .ok rg ∧
      ∀ j ∈ c, (j.id ∈ r ↔ j.id ∈ rf ∧ j.id ∈ rg) :=
  Full.and_inter_lists hids hP (Full.corpusListsOK_of_keysNodup hk) hwt hnc

/-- `$or` is the union of its operands' results, mappings inside lists allowed. -/
theorem or_union (P : Params) (c : Corpus) (f g : Flt)
    (hids : (c.map (·.id)).Nodup) (hP : NearRespectsEq P) (hk : CorpusKeysNodup c)
    (hwt : WellTyped P c (fOr f g)) (hnc : NoBoolIntClash c (fOr f g)) :
    ∃ r rf rg, findFlt P c (fOr f g) = .ok r ∧ findFlt P c f = .ok rf ∧ findFlt P c g = .ok rg ∧
      ∀ j ∈ c, (j.id ∈ r ↔ j.id ∈ rf ∨ j.id ∈ rg) :=
  Full.or_union_lists hids hP (Full.corpusListsOK_of_keysNodup hk) hwt hnc

/-- Deciding from the root keys (with `$not` descended: fix of F-6b) whether documents are indexed
    loses nothing: the verdict on what is indexed is the verdict on the job's full data. -/
theorem indexed_data_suffices (P : Params) (j : Job) (f : Flt) :
    evalRef P (indexedDoc (includeDoc f) j) f = evalRef P (fullDoc j) f :=
  evalRef_indexed P j f

/-- Exactly the bool/int pair makes two keys of one slot differ in Python type: two slot-sharing
    values that are not (bool, int) or (int, bool) have the same type name, so `$type` cannot tell
    them apart and `NoBoolIntClash` holds for them. -/
theorem slot_clash_only_bool_int (v w : JVal) (h : slotEq (.val v) (.val w) = true) :
    pyTypeName v = pyTypeName w
      ∨ (pyTypeName v = "bool" ∧ pyTypeName w = "int") ∨ (pyTypeName v = "int" ∧ pyTypeName w = "bool") := by
  simp only [slotEq, Bool.and_eq_true, beq_iff_eq] at h
  obtain ⟨he, ht⟩ := h
  -- `==` keeps the kind of value; among numbers the slot tag separates floats from the rest
  cases v with
  | null => rw [pyEq_null_true he]; exact Or.inl rfl
  | str s => rw [pyEq_str_true he]; exact Or.inl rfl
  | arr xs => obtain ⟨ys, rfl, _⟩ := pyEq_arr_true he; exact Or.inl rfl
  | obj kvs => obtain ⟨b', rfl, _⟩ := pyEq_obj_true he; exact Or.inl rfl
  | bool b =>
    cases w with
    | bool _ => exact Or.inl rfl
    | int _ => exact Or.inr (Or.inl ⟨rfl, rfl⟩)
    | flt _ _ _ => cases ht
    | _ => cases he
  | int i =>
    cases w with
    | bool _ => exact Or.inr (Or.inr ⟨rfl, rfl⟩)
    | int _ => exact Or.inl rfl
    | flt _ _ _ => cases ht
    | _ => cases he
  | flt n e r =>
    cases w with
    | flt _ _ _ => exact Or.inl rfl
    | bool _ => cases ht
    | int _ => cases ht
    | _ => cases he

/-! ### the full statements, and why they are not theorems -/

def P0 : Params :=
  { rx := fun _ _ => some false, floatStr := fun _ => true, isclose := fun _ _ _ _ => some false }

theorem P0_near : NearRespectsEq P0 := fun _ _ _ _ _ _ _ _ => rfl

/-- The statement without any hypothesis on the data and without `NoBoolIntClash`. -/
def find_eq_ref_full : Prop :=
  ∀ (P : Params) (c : Corpus) (f : Flt), (c.map (·.id)).Nodup → NearRespectsEq P → WellTyped P c f →
    ∃ r, findFlt P c f = .ok r ∧
      ∀ i, i ∈ r ↔ ∃ j ∈ c, j.id = i ∧ evalRef P (fullDoc j) f = .ok true

/-- The statement with no hypothesis on the job data.  For data as
    Python can hold it (distinct keys in every mapping) it is the theorem `find_eq_ref`; read
    literally over the model's association lists, which may repeat a key, it is false
    (`find_eq_ref_nonflat_false`) — a fact about the model's value type, not about signac. -/
def find_eq_ref_nonflat : Prop :=
  ∀ (P : Params) (c : Corpus) (f : Flt), (c.map (·.id)).Nodup → NearRespectsEq P → WellTyped P c f →
    NoBoolIntClash c f →
    ∃ r, findFlt P c f = .ok r ∧
      ∀ i, i ∈ r ↔ ∃ j ∈ c, j.id = i ∧ evalRef P (fullDoc j) f = .ok true

/-- two "mappings" inside a list, the first with a repeated key — no Python dict looks like it -/
def dupCorpus : Corpus :=
  [⟨"x", .obj [("a", .arr [.obj [("k", .int 1), ("k", .int 1)]])], none⟩,
   ⟨"y", .obj [("a", .arr [.obj [("k", .int 1), ("m", .int 2)]])], none⟩]

def dupFilter : Flt := .mk [("sp.a", .arr [.obj [("k", .int 1), ("z", .int 3)]])] none none none

theorem dupFilter_noClash : NoBoolIntClash dupCorpus dupFilter :=
  ⟨noClash_atoms (by decide +kernel), trivial, trivial, trivial⟩

/-- Why `CorpusKeysNodup` is a hypothesis of `find_eq_ref`: the model's `==` on association lists
    (same length, every entry of the left found on the right) is an equivalence only for distinct
    keys.  With the repeated key, `[{k:1,k:1}] == [{k:1,m:2}]` holds (not conversely), so both jobs
    share one index slot whose stored key is the first; the filter value `[{k:1,z:3}]` is `==` to
    that stored key but not to the second job's value.  The index returns both jobs, direct
    evaluation accepts only the first.  Unreachable from Python, where dict keys are distinct. -/
theorem find_eq_ref_nonflat_false : ¬ find_eq_ref_nonflat := by
  intro h
  -- everything about the two concrete jobs in one evaluation
  obtain ⟨hids, hwt, e, hno⟩ : (dupCorpus.map (·.id)).Nodup ∧ WellTyped P0 dupCorpus dupFilter
      ∧ findFlt P0 dupCorpus dupFilter = .ok ["x", "y"]
      ∧ ∀ j ∈ dupCorpus, j.id = "y" → ¬ evalRef P0 (fullDoc j) dupFilter = .ok true := by
    unfold WellTyped; decide +kernel
  obtain ⟨r, hr, hsel⟩ := h P0 dupCorpus dupFilter hids P0_near hwt dupFilter_noClash
  cases hr.symm.trans e
  obtain ⟨j, hj, hid, hv⟩ := (hsel "y").mp (by decide)
  exact hno j hj hid hv

def clashCorpus : Corpus :=
  [⟨"x", .obj [("a", .bool true)], none⟩, ⟨"y", .obj [("a", .int 1)], none⟩]

def clashFilter : Flt := .mk [("sp.a", .obj [("$type", .str "bool")])] none none none

/-- F-6a in the model: jobs `{a: True}`, `{a: 1}` and `{'a': {'$type': 'bool'}}` — the index
    returns both jobs, direct evaluation accepts only the first.  Hence the full statement is
    false of the model (as it is of the code). -/
theorem find_eq_ref_full_false : ¬ find_eq_ref_full := by
  intro h
  obtain ⟨hids, hwt, e, hno⟩ : (clashCorpus.map (·.id)).Nodup ∧ WellTyped P0 clashCorpus clashFilter
      ∧ findFlt P0 clashCorpus clashFilter = .ok ["x", "y"]
      ∧ ∀ j ∈ clashCorpus, j.id = "y" → ¬ evalRef P0 (fullDoc j) clashFilter = .ok true := by
    unfold WellTyped; decide +kernel
  obtain ⟨r, hr, hsel⟩ := h P0 clashCorpus clashFilter hids P0_near hwt
  cases hr.symm.trans e
  obtain ⟨j, hj, hid, hv⟩ := (hsel "y").mp (by decide)
  exact hno j hj hid hv

/-- F-6b in the model: with the former `_root_keys` (not descending into `$not`) documents are
    not indexed for `{'$not': {'doc.d': 1}}`, and the job whose document has `d == 1` is returned;
    with the fixed root keys it is not. -/
theorem old_root_keys_lose_documents :
    let c : Corpus := [⟨"x", .obj [], some (.obj [("d", .int 1)])⟩, ⟨"y", .obj [("a", .int 0)], none⟩]
    let flt : JVal := .obj [("$not", .obj [("doc.d", .int 1)])]
    findJobsOld P0 c flt = .ok ["x", "y"] ∧ findJobs P0 c flt = .ok ["y"] := by
  decide +kernel

/-! ### non-vacuity: the hypotheses of the main theorem hold for a concrete non-trivial instance -/

def exJ1 : Job := ⟨"j1", .obj [("a", .int 1), ("n", .obj [("x", .str "u")])], some (.obj [("d", .flt 1 1 "0.5")])⟩
def exJ2 : Job := ⟨"j2", .obj [("a", .flt 1 0 "1.0"), ("b", .arr [.int 1, .int 2])], none⟩
def exJ3 : Job := ⟨"j3", .obj [("a", .bool true)], some (.obj [("d", .int 2)])⟩
def exCorpus : Corpus := [exJ1, exJ2, exJ3]

/-- `{'a': 1, '$not': {'doc.d': {'$gt': 1}}, '$or': [{'n.x': 'u'}, {'b': {'$exists': True}}]}` -/
def exFilter : Flt :=
  .mk [("sp.a", .int 1)]
    (some (.mk [("doc.d", .obj [("$gt", .int 1)])] none none none))
    none
    (some [.mk [("sp.n.x", .str "u")] none none none, .mk [("sp.b", .obj [("$exists", .bool true)])] none none none])

theorem exFilter_noClash : NoBoolIntClash exCorpus exFilter :=
  ⟨noClash_atoms (by decide +kernel), ⟨noClash_atoms (by decide +kernel), trivial, trivial, trivial⟩, trivial,
    ⟨noClash_atoms (by decide +kernel), trivial, trivial, trivial⟩,
    ⟨noClash_atoms (by decide +kernel), trivial, trivial, trivial⟩, trivial⟩

example : (exCorpus.map (·.id)).Nodup ∧ NearRespectsEq P0 ∧ CorpusFlat exCorpus
    ∧ WellTyped P0 exCorpus exFilter ∧ NoBoolIntClash exCorpus exFilter := by
  obtain ⟨h1, h2, h3⟩ : (exCorpus.map (·.id)).Nodup ∧ CorpusFlat exCorpus ∧ WellTyped P0 exCorpus exFilter := by
    unfold CorpusFlat WellTyped; decide +kernel
  exact ⟨h1, P0_near, h2, h3, exFilter_noClash⟩

/-- the theorem applied: without running the index, `j1` is selected and `j3` is not -/
example : ∃ r, findFlt P0 exCorpus exFilter = .ok r ∧ "j1" ∈ r ∧ "j3" ∉ r := by
  obtain ⟨h1, h2, h3, e1, e3⟩ : (exCorpus.map (·.id)).Nodup ∧ CorpusFlat exCorpus
      ∧ WellTyped P0 exCorpus exFilter ∧ evalRef P0 (fullDoc exJ1) exFilter = .ok true
      ∧ ¬ evalRef P0 (fullDoc exJ3) exFilter = .ok true := by
    unfold CorpusFlat WellTyped; decide +kernel
  obtain ⟨r, hr, _, h⟩ := find_mem_iff_partial P0 exCorpus exFilter h1 P0_near h2 h3 exFilter_noClash
  exact ⟨r, hr, (h exJ1 (.head _)).mpr e1, fun hm => e3 ((h exJ3 (.tail _ (.tail _ (.head _)))).mp hm)⟩

/-! ### non-vacuity of `find_eq_ref`: mappings inside lists, at two depths -/

def nfJ1 : Job := ⟨"n1", .obj [("a", .arr [.obj [("k", .int 1), ("m", .arr [.obj [("u", .str "s")]])]])], none⟩
def nfJ2 : Job := ⟨"n2", .obj [("a", .arr [.obj [("m", .arr [.obj [("u", .str "s")]]), ("k", .flt 1 0 "1.0")]])], none⟩
def nfJ3 : Job := ⟨"n3", .obj [("a", .arr [.obj [("k", .int 2)]])], some (.obj [("d", .int 0)])⟩
def nfCorpus : Corpus := [nfJ1, nfJ2, nfJ3]

/-- `{'a': [{'k': 1, 'm': [{'u': 's'}]}]}` -/
def nfFilter : Flt :=
  .mk [("sp.a", .arr [.obj [("k", .int 1), ("m", .arr [.obj [("u", .str "s")]])]])] none none none

theorem nfFilter_noClash : NoBoolIntClash nfCorpus nfFilter :=
  ⟨noClash_atoms (by decide +kernel), trivial, trivial, trivial⟩

example : (nfCorpus.map (·.id)).Nodup ∧ NearRespectsEq P0 ∧ CorpusKeysNodup nfCorpus
    ∧ ¬ CorpusFlat nfCorpus ∧ WellTyped P0 nfCorpus nfFilter ∧ NoBoolIntClash nfCorpus nfFilter := by
  obtain ⟨h1, h2, h3, h4⟩ : (nfCorpus.map (·.id)).Nodup ∧ CorpusKeysNodup nfCorpus ∧ ¬ CorpusFlat nfCorpus
      ∧ WellTyped P0 nfCorpus nfFilter := by
    unfold CorpusKeysNodup CorpusFlat WellTyped; decide +kernel
  exact ⟨h1, P0_near, h2, h3, h4, nfFilter_noClash⟩

/-- the theorem applied: `n1` and `n2` (same mapping, keys in another order, `1.0` for `1`) are
    selected, `n3` is not -/
example : ∃ r, findFlt P0 nfCorpus nfFilter = .ok r ∧ "n1" ∈ r ∧ "n2" ∈ r ∧ "n3" ∉ r := by
  obtain ⟨h1, h2, h3, e1, e2, e3⟩ : (nfCorpus.map (·.id)).Nodup ∧ CorpusKeysNodup nfCorpus
      ∧ WellTyped P0 nfCorpus nfFilter ∧ evalRef P0 (fullDoc nfJ1) nfFilter = .ok true
      ∧ evalRef P0 (fullDoc nfJ2) nfFilter = .ok true ∧ ¬ evalRef P0 (fullDoc nfJ3) nfFilter = .ok true := by
    unfold CorpusKeysNodup WellTyped; decide +kernel
  obtain ⟨r, hr, _, h⟩ := find_mem_iff P0 nfCorpus nfFilter h1 P0_near h2 h3 nfFilter_noClash
  exact ⟨r, hr, (h nfJ1 (.head _)).mpr e1, (h nfJ2 (.tail _ (.head _))).mpr e2,
    fun hm => e3 ((h nfJ3 (.tail _ (.tail _ (.head _)))).mp hm)⟩

end Signac.C06
