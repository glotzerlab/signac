/-
  C05 — job and project documents are faithful persistent dicts; buffering is transparent.
  Property theorems only; the model is `Signac/Doc.lean`, helper lemmas live in `Signac/Proofs/Doc*.lean`.

  How values are compared.  `Sim a b`: the same keys (dict entries in any order), the same list
  lengths, the same strings, `None` only with `None`, and numeric leaves of the same VALUE —
  `True`, `1`, `1.0` are identified, because the dependency's `_update` (used by every load, by
  `reset` / `document = …` and by `update`) keeps the value it already holds when the new one
  compares `==`.  Everything else is compared exactly.  An absent document file counts as the
  empty document (`content`, `CSim`) — except in `buffered_files_*`, which are about which files exist.

  Standing hypotheses.  `WFWorld` / `WFCmd`: no duplicate keys (every Python dict satisfies this);
  `Coherent`: a handle whose file does not exist holds `{}`;  `… .hit = false`: no merge of the run
  meets `None` where the handle remembers a dict / list — finding F-5d (`none_over_collection`):
  there the dependency silently keeps the old value, so the statement would be false.
-/
import Signac.Proofs.DocWorld
import Signac.Proofs.DocBuffered
namespace Signac.C05
open Signac Signac.Doc

/-- UNBUFFERED.  Any program of document operations, through any number of handle objects in any
    interleaving (with file observations and `remove()`), leaves in every document file what the
    same operations leave in a plain `dict` per document, and every result (returned values, the
    whole-document reads through ANY handle, raised error kinds, observed files) is the plain
    dict's. -/
theorem doc_refines_dict (cmds : List Cmd) (w₀ : World)
    (hd : w₀.depth = 0) (hw : WFWorld w₀) (hc : Coherent w₀)
    (hcmds : ∀ c ∈ cmds, c.isBlock = false ∧ WFCmd c)
    (hnohit : (run cmds w₀).1.hit = false) :
    (∀ f, Sim (content ((run cmds w₀).1.files f))
              ((specRun w₀.fileOf cmds (fun f => content (w₀.files f))).1 f)) ∧
    List.Forall₂ OutSimF (run cmds w₀).2 (specRun w₀.fileOf cmds (fun f => content (w₀.files f))).2 := by
  have I : UInv w₀ (fun f => content (w₀.files f)) := ⟨hd, hw, hc, fun _ => Sim.refl _⟩
  obtain ⟨I', ho⟩ := uinv_run cmds w₀ _ I hcmds hnohit
  exact ⟨I'.sim, ho⟩

/-- After an operation through handle `o` that is followed by a save, the file holds exactly what
    `o` holds, and a read through ANY other handle `o'` of the same document returns it (`Sim`). -/
theorem read_sees_last_write (w : World) (o o' : Nat) (op : DictOp)
    (hd : w.depth = 0) (hw : WFWorld w) (hop : WFOp op) (hf : w.fileOf o' = w.fileOf o)
    (hs : (memOp op (opData w o op)).saved = true)
    (hnohit : (execOp (execOp w o op).1 o' .read).1.hit = false) :
    (execOp w o op).1.files (w.fileOf o) = some ((execOp w o op).1.data o) ∧
    ∃ x, (execOp (execOp w o op).1 o' .read).2 = .val x ∧ Sim x ((execOp w o op).1.data o) := by
  have h1 := saved_on_disk hd o op hs
  have st := step_execOp w o op
  exact ⟨h1, read_from_disk (st.depth.trans hd) (wfWorld_execOp0 hd hw o op hop) o'
    (by rw [st.fileOf, hf]; exact h1) hnohit⟩

/-- One handle object per document inside the blocks: `rep f` is the handle used for document `f`. -/
def OneObjectPerFile (P : List Cmd) (w₀ : World) (rep : Nat → Nat) : Prop :=
  ∀ c ∈ P, CmdOK w₀.fileOf rep c

/-- BUFFERED = UNBUFFERED (contents).  Any program with buffered blocks — any capacities, any nesting,
    any mix of buffered and unbuffered stretches, several documents — in which every document is used
    through one handle object, leaves, once all blocks are closed, the same document in every file as
    the same operations without any block. -/
theorem buffered_equiv_partial (P : List Cmd) (w₀ : World) (rep : Nat → Nat)
    (h1 : OneObjectPerFile P w₀ rep)
    (hd : w₀.depth = 0) (hb : ∀ f, w₀.buf f = none) (ho : w₀.order = [])
    (hw : WFWorld w₀) (hc : Coherent w₀)
    (hhb : (run P w₀).1.hit = false) (hhu : (run (stripBlocks P) w₀).1.hit = false)
    (hclosed : (run P w₀).1.depth = 0) :
    ∀ f, CSim ((run P w₀).1.files f) ((run (stripBlocks P) w₀).1.files f) := by
  obtain ⟨hB, _⟩ := binv_run P (binv_init rep hd hb ho hw hc) h1 hhb hhu
  exact fun f => (binv_final hB hclosed f).1

/-- READS INSIDE BLOCKS.  Under the same hypotheses every operation of the program — in particular
    every `get` / whole-document read inside a block through the writing handle — returns what the
    unbuffered run returns at that point (and therefore, by `doc_refines_dict`, what a plain dict
    holding the block's own writes returns).  Observations of files (`file`, `hit`) are aligned but not
    compared: inside a block the file legitimately lags. -/
theorem buffered_read_own_writes (P : List Cmd) (w₀ : World) (rep : Nat → Nat)
    (h1 : OneObjectPerFile P w₀ rep)
    (hd : w₀.depth = 0) (hb : ∀ f, w₀.buf f = none) (ho : w₀.order = [])
    (hw : WFWorld w₀) (hc : Coherent w₀)
    (hhb : (run P w₀).1.hit = false) (hhu : (run (stripBlocks P) w₀).1.hit = false) :
    OutsRel P (run P w₀).2 (run (stripBlocks P) w₀).2 :=
  (binv_run P (binv_init rep hd hb ho hw hc) h1 hhb hhu).2

/-- no document that did not exist at the start is left as an EMPTY document file by the unbuffered
    run (`noop_on_absent_doc` is the negation of this) -/
def NoNoopOnAbsent (P : List Cmd) (w₀ : World) : Prop :=
  ∀ f, w₀.files f = none → (run (stripBlocks P) w₀).1.files f ≠ some (.obj [])

/-- BUFFERED = UNBUFFERED (set of files), further assuming `NoNoopOnAbsent`. -/
theorem buffered_files_partial (P : List Cmd) (w₀ : World) (rep : Nat → Nat)
    (h1 : OneObjectPerFile P w₀ rep) (h2 : NoNoopOnAbsent P w₀)
    (hd : w₀.depth = 0) (hb : ∀ f, w₀.buf f = none) (ho : w₀.order = [])
    (hw : WFWorld w₀) (hc : Coherent w₀)
    (hhb : (run P w₀).1.hit = false) (hhu : (run (stripBlocks P) w₀).1.hit = false)
    (hclosed : (run P w₀).1.depth = 0) :
    ∀ f, (run P w₀).1.files f = none ↔ (run (stripBlocks P) w₀).1.files f = none := by
  obtain ⟨hB, _⟩ := binv_run P (binv_init rep hd hb ho hw hc) h1 hhb hhu
  intro f
  refine ⟨fun hn => ?_, (binv_final hB hclosed f).2⟩
  have hw₀ := (grows_run P fun c hc => cmdOK_not_rm (h1 c hc)).files f hn
  exact (binv_final_absent hB hclosed hn).resolve_right (h2 f hw₀)

/-! ### the full statements are false of the model (and of the code): F-5b, F-5a -/

/-- `buffered_equiv_partial` without "one handle object per document" -/
def buffered_equiv_full : Prop :=
  ∀ (P : List Cmd) (w₀ : World), (∀ c ∈ P, WFCmd c ∧ ∀ g, c ≠ .rm g) →
    w₀.depth = 0 → (∀ f, w₀.buf f = none) → w₀.order = [] → WFWorld w₀ → Coherent w₀ →
    (run P w₀).1.hit = false → (run (stripBlocks P) w₀).1.hit = false → (run P w₀).1.depth = 0 →
    ∀ f, CSim ((run P w₀).1.files f) ((run (stripBlocks P) w₀).1.files f)

/-- `buffered_files_partial` without `NoNoopOnAbsent` -/
def buffered_files_full : Prop :=
  ∀ (P : List Cmd) (w₀ : World) (rep : Nat → Nat), OneObjectPerFile P w₀ rep →
    w₀.depth = 0 → (∀ f, w₀.buf f = none) → w₀.order = [] → WFWorld w₀ → Coherent w₀ →
    (run P w₀).1.hit = false → (run (stripBlocks P) w₀).1.hit = false → (run P w₀).1.depth = 0 →
    ∀ f, (run P w₀).1.files f = none ↔ (run (stripBlocks P) w₀).1.files f = none

/-- one job document (file 0), no file yet, every handle object points at it -/
def fresh : World := World.init 1 (fun _ => 0) (fun _ => none)

theorem fresh_wf : WFWorld fresh where
  data := fun _ => wf_empty
  files := fun _ _ h => by simp [fresh, World.init] at h
  buf := fun _ _ h => by simp [fresh, World.init] at h
theorem fresh_coherent : Coherent fresh := fun _ _ => Sim.refl _

/-- F-5b: `with buffered(): B.get('y'); A.get('z'); B['x'] = 's'` -/
def witness5b : List Cmd :=
  [.enter none, .op 1 (.get "y"), .op 0 (.get "z"), .op 1 (.nset [] "x" (.str "s")), .exit]

/-- F-5a: `with buffered(): A.pop('q', None)` on a job without a document file -/
def witness5a : List Cmd := [.enter none, .op 0 (.pop "q" .null), .exit]

theorem not_buffered_equiv_full : ¬ buffered_equiv_full := by
  intro h
  have e : (run witness5b fresh).1.hit = false ∧ (run (stripBlocks witness5b) fresh).1.hit = false ∧
      (run witness5b fresh).1.depth = 0 ∧ (run witness5b fresh).1.files 0 = none := by decide +kernel
  obtain ⟨hb, hu, hd, e1⟩ := e
  have := h witness5b fresh
    (by intro c hc; simp only [witness5b, List.mem_cons, List.mem_nil_iff, or_false] at hc
        rcases hc with rfl | rfl | rfl | rfl | rfl <;> exact ⟨trivial, nofun⟩)
    rfl (fun _ => rfl) rfl fresh_wf fresh_coherent hb hu hd 0
  have e2 : (run (stripBlocks witness5b) fresh).1.files 0 = some (.obj [("x", .str "s")]) := by rfl
  rw [e1, e2] at this
  -- the buffered run has lost the key `x`
  exact nomatch ((Sim.obj_inv this).1 "x").mp rfl

theorem not_buffered_files_full : ¬ buffered_files_full := by
  intro h
  have e : (run witness5a fresh).1.hit = false ∧ (run (stripBlocks witness5a) fresh).1.hit = false ∧
      (run witness5a fresh).1.depth = 0 ∧ (run witness5a fresh).1.files 0 = none := by decide +kernel
  obtain ⟨hb, hu, hd, e1⟩ := e
  have := h witness5a fresh (fun _ => 0)
    (by intro c hc; simp only [witness5a, List.mem_cons, List.mem_nil_iff, or_false] at hc
        rcases hc with rfl | rfl | rfl <;> first | trivial | exact ⟨rfl, trivial⟩)
    rfl (fun _ => rfl) rfl fresh_wf fresh_coherent hb hu hd 0
  have e2 : (run (stripBlocks witness5a) fresh).1.files 0 = some (.obj []) := by rfl
  rw [e1, e2] at this
  exact nomatch this.mp rfl

/-! ### non-vacuity: the hypotheses are satisfiable by non-trivial programs -/

/-- two handles interleaved, a type-only `update` (the `==`-skip), a nested list mutation, a read -/
def demoU : List Cmd :=
  [.op 0 (.nset [] "a" (.int 1)), .op 1 (.update [("a", .flt 1 0 "1.0"), ("l", .arr [])]),
   .op 0 (.napp [.key "l"] (.bool true)), .op 1 .read, .file 0]

example : fresh.depth = 0 ∧ WFWorld fresh ∧ Coherent fresh ∧
    (∀ c ∈ demoU, c.isBlock = false ∧ WFCmd c) ∧ (run demoU fresh).1.hit = false ∧
    (run demoU fresh).2.getLast? = some (.val (.obj [("a", .int 1), ("l", .arr [.bool true])])) := by
  refine ⟨rfl, fresh_wf, fresh_coherent, ?_, by decide +kernel, by rfl⟩
  intro c hc
  simp only [demoU, List.mem_cons, List.mem_nil_iff, or_false] at hc
  rcases hc with rfl | rfl | rfl | rfl | rfl <;> first | exact ⟨rfl, trivial⟩ | exact ⟨rfl, by decide, trivial, trivial, trivial⟩

/-- `read_sees_last_write`: handle 0 writes, handle 1 reads -/
example : fresh.fileOf 1 = fresh.fileOf 0 ∧
    (memOp (.nset [] "a" (.int 1)) (opData fresh 0 (.nset [] "a" (.int 1)))).saved = true ∧
    (execOp (execOp fresh 0 (.nset [] "a" (.int 1))).1 1 .read).1.hit = false :=
  ⟨rfl, by rfl, by decide +kernel⟩

/-- like `fresh`, but every other file id holds an (irrelevant) empty document -/
def fresh1 : World := World.init 1 (fun _ => 0) (fun f => if f = 0 then none else some (.obj []))

/-- executable check "file `f` holds exactly `v`" -/
def fileIs (w : World) (f : Nat) (v : JVal) : Bool :=
  match w.files f with
  | some x => jsame x v
  | none => false

/-- nested blocks, a capacity-0 block (forced flush after every access), one handle per document -/
def demoB : List Cmd :=
  [.op 0 (.nset [] "k" (.int 0)), .enter none, .op 0 (.nset [] "x" (.str "s")), .enter (some 0),
   .op 0 (.get "x"), .op 0 (.ndel [] "k"), .exit, .op 0 .read, .exit, .file 0]

example : OneObjectPerFile demoB fresh1 (fun _ => 0) ∧ NoNoopOnAbsent demoB fresh1 ∧
    fresh1.depth = 0 ∧ (∀ f, fresh1.buf f = none) ∧ fresh1.order = [] ∧ WFWorld fresh1 ∧ Coherent fresh1 ∧
    (run demoB fresh1).1.hit = false ∧ (run (stripBlocks demoB) fresh1).1.hit = false ∧
    (run demoB fresh1).1.depth = 0 ∧
    fileIs (run demoB fresh1).1 0 (.obj [("x", .str "s")]) = true := by
  refine ⟨?_, ?_, rfl, fun _ => rfl, rfl, ?_, ?_, by decide +kernel⟩
  · intro c hc
    simp only [demoB, List.mem_cons, List.mem_nil_iff, or_false] at hc
    rcases hc with rfl | rfl | rfl | rfl | rfl | rfl | rfl | rfl | rfl | rfl <;>
      first | trivial | exact ⟨rfl, trivial⟩
  · intro f hf
    have hf0 : f = 0 := by
      simp only [fresh1, World.init] at hf
      split at hf
      · assumption
      · cases hf
    subst hf0
    intro h
    have h1 : fileIs (run (stripBlocks demoB) fresh1).1 0 (.obj []) = true := by
      unfold fileIs; rw [h]; rfl
    have h2 : fileIs (run (stripBlocks demoB) fresh1).1 0 (.obj []) = false := by decide +kernel
    rw [h1] at h2; cases h2
  · exact ⟨fun _ => wf_empty, fun f v h => by
      simp only [fresh1, World.init] at h
      split at h
      · cases h
      · cases h; exact wf_empty, fun _ _ h => by simp [fresh1, World.init] at h⟩
  · intro o _; exact Sim.refl _

end Signac.C05
