/-
  C14 — sync never overwrites conflicts unless told to; failed document syncs roll back.

  Same model as C13 (Signac/Sync.lean).  "Differs" is the comparison in force: `filecmp`'s
  shallow rule (same (size, mtime) ⇒ same) unless `deep`, see `differs_shallow` / C15.
  Property theorems only; proofs in Signac/Proofs/Sync*.lean.
-/
import Signac.Proofs.SyncDry
import Signac.Proofs.SyncConflictExact
import Signac.Proofs.SyncIdemFull
namespace Signac.C14
open Signac Signac.Sync

/-- Untouched in every run (also failed and dry ones): unless the file is a non-excluded conflict
    with verdict "overwrite", the destination file is exactly what it was. -/
theorem file_untouched_otherwise (o : Opts) (sjob djob : Entries) (n : Name) (p : Path)
    (ms md : FMeta) (hwf : WFEntries sjob) (hb : Both sjob djob n p ms md)
    (h1 : n ≠ Extracted.FN_JOB_DOCUMENT) (h2 : n ≠ Extracted.FN_JOB_DOCUMENT ++ "~")
    (hk : ¬ (differs o.deep ms md = true ∧ excluded o (lastName n p) = false ∧
        verdict o (n :: p) ms md = some true)) :
    lookupP n p (syncJobDirs o sjob djob).d = some (.file md) := by
  rw [syncJobDirs_lookup o sjob djob n p h1 h2]
  exact walk_file_kept o hb [] hwf hk

/-- A file present on both sides (`Both`: reached through directories common
    to both, below the top level only when `recursive`) that differs and whose name is not excluded
    carries the source's bytes after a successful real `sync_jobs` iff the strategy's verdict for its
    job-relative path is "overwrite"; otherwise it is exactly the old destination file. -/
theorem file_overwrite_iff (o : Opts) (hdry : o.dry = false) (sjob djob : Entries) (n : Name) (p : Path)
    (ms md : FMeta) (hwf : WFEntries sjob) (hb : Both sjob djob n p ms md)
    (hrec : p ≠ [] → o.recursive = true)
    (hdiff : differs o.deep ms md = true) (hx : excluded o (lastName n p) = false)
    (h1 : n ≠ Extracted.FN_JOB_DOCUMENT) (h2 : n ≠ Extracted.FN_JOB_DOCUMENT ++ "~")
    (hok : (syncJobDirs o sjob djob).err = none) :
    (lookupP n p (syncJobDirs o sjob djob).d = some (.file (touch o.now ms)) ↔
      verdict o (n :: p) ms md = some true) ∧
    (verdict o (n :: p) ms md ≠ some true →
      lookupP n p (syncJobDirs o sjob djob).d = some (.file md)) := by
  have kept : verdict o (n :: p) ms md ≠ some true →
      lookupP n p (syncJobDirs o sjob djob).d = some (.file md) := fun hv =>
    file_untouched_otherwise o sjob djob n p ms md hwf hb h1 h2 fun h => hv h.2.2
  refine ⟨⟨fun h => Classical.byContradiction fun hv => ?_, fun hv => ?_⟩, kept⟩
  · rw [kept hv] at h
    exact differs_ne_touch o.deep o.now ms md hdiff (by injection h)
  · rw [syncJobDirs_lookup o sjob djob n p h1 h2]
    exact walk_file_overwritten o hdry hb [] hwf hrec hdiff hx hv (syncJobDirs_walk_ok o sjob djob hok)

/-- With no strategy, a reachable differing non-excluded file makes
    `sync_jobs` raise FileSyncConflict, and that file is untouched. -/
theorem no_strategy_conflict (o : Opts) (sjob djob : Entries) (n : Name) (p : Path)
    (ms md : FMeta) (hwf : WFEntries sjob) (hb : Both sjob djob n p ms md)
    (hrec : p ≠ [] → o.recursive = true)
    (hdiff : differs o.deep ms md = true) (hx : excluded o (lastName n p) = false)
    (h1 : n ≠ Extracted.FN_JOB_DOCUMENT) (h2 : n ≠ Extracted.FN_JOB_DOCUMENT ++ "~")
    (hst : o.strategy = Strategy.none) :
    (∃ fn, (syncJobDirs o sjob djob).err = some (.fileConflict fn)) ∧
    lookupP n p (syncJobDirs o sjob djob).d = some (.file md) := by
  refine ⟨?_, ?_⟩
  · have hne := walk_conflict_fails o hb [] hwf hrec hdiff hx hst
    cases he : (walkDir o [] (.dir sjob) djob).err with
    | none => exact absurd he hne
    | some e =>
      obtain ⟨fn, hfn⟩ := walkDir_err_kind o [] (.dir sjob) djob e he
      refine ⟨fn, ?_⟩
      simp only [syncJobDirs, he, hfn]
  · apply file_untouched_otherwise o sjob djob n p ms md hwf hb h1 h2
    rintro ⟨_, _, hv⟩
    have := (verdict_none_iff o (n :: p) ms md).mpr hst
    rw [this] at hv; cases hv

/-- A key — at any depth below mappings present on both sides — whose source
    value is not a mapping and not `==` to the destination value (`DocConf`) is overwritten iff
    the key strategy selects its dotted key; otherwise it keeps its value and its dotted key is
    recorded (and raised in DocumentSyncConflict when there is no key strategy). -/
theorem bykey_selective (ks : Option (String → Bool)) (s d : Doc) (p : List String) (v w : JVal)
    (key : String) (hc : DocConf "" s d p v w key)
    (hte : (byKeyItems ks "" s ⟨d, [], false, false⟩).typeErr = false) :
    docGet (runDocSync (.byKey ks) s d).doc p = some (if keySelected ks key then v else w) ∧
    (ks = none → ∃ keys', (runDocSync (.byKey ks) s d).err = some (.docConflict keys') ∧ key ∈ keys') := by
  have h := byKeyItems_selective ks hc ⟨d, [], false, false⟩ rfl hte
  refine ⟨by rw [runDocSync_byKey rfl hte]; exact h.1, ?_⟩
  rintro rfl
  have hin := h.2 rfl
  exact ⟨_, by rw [runDocSync_default_err_eq hte, if_neg (List.ne_nil_of_mem hin)], hin⟩

/-- Whenever the document merge raises (DocumentSyncConflict or anything else
    inside the backup context) the destination directory — in particular the document file, node
    for node, and no backup file left behind — is exactly what it was before the merge. -/
theorem doc_rollback (o : Opts) (fn : Name) (src : Entries) (a : Acc) (e : Err)
    (h : (syncDoc o fn src a).err = some e) (hne : (docOf fn a.d).isEmpty = false)
    (hnodir : ∀ x, getE (fn ++ "~") a.d ≠ some (.dir x)) :
    (syncDoc o fn src a).d = a.d := by
  unfold syncDoc at h ⊢
  cases hds : o.docSync with
  | noSync | copy => simp [hds] at h
  | update | byKey =>
    simp only [hds] at h ⊢
    exact mergeDocs_rollback o _ fn src a e h hne hnodir

/-- The case `doc_rollback` leaves out (`hne`): a merge (of a source with distinct keys) into an empty destination
    document raises nothing, whatever the strategy, so there is nothing to roll back. -/
theorem doc_rollback_empty (ds : DocSync) (s : Doc) (hnd : (keys s).Nodup) :
    (runDocSync ds s []).err = none := runDocSync_fresh ds s hnd

/-- `DocSync.update` never raises, sets every key of the source document
    and leaves every other key alone. -/
theorem update_overwrites_all (s d : Doc) (hnd : (keys s).Nodup) :
    (runDocSync .update s d).err = none ∧
    (∀ k v, lookupKV k s = some v → lookupKV k (runDocSync .update s d).doc = some v) ∧
    (∀ k, k ∉ keys s → lookupKV k (runDocSync .update s d).doc = lookupKV k d) :=
  runDocSync_update s d hnd

/-- With NO_SYNC (and with COPY, where the document is an ordinary file) the
    document merge does nothing at all: no step, no change, no error. -/
theorem nosync_none (o : Opts) (fn : Name) (src : Entries) (a : Acc)
    (h : o.docSync = .noSync ∨ o.docSync = .copy) :
    syncDoc o fn src a = ⟨a.d, a.log, none⟩ := syncDoc_noSync o fn src a h

/-- The shallow comparison rule the non-deep statements are relative to. -/
theorem differs_shallow_rule (a b : FMeta) :
    differs false a b = true ↔
      ¬ (a.size = b.size ∧ a.mtime = b.mtime) ∧ (a.size ≠ b.size ∨ a.cid ≠ b.cid) := differs_shallow a b

/-! non-vacuity -/

def exOpts (st : Strategy) : Opts :=
  { strategy := st, docSync := .byKey none, recursive := true,
    userExcl := fun n => n == "skip.log",
    spPat := fun n => n == Extracted.FN_STATE_POINT,
    docPat := fun n => n == Extracted.FN_JOB_DOCUMENT || n == Extracted.FN_JOB_DOCUMENT ++ "~",
    selection := none, checkSchema := false, gate := false, dry := false, deep := false, now := 9 }

def exSrcJob : Entries :=
  [("both", .file ⟨4, 1, 7, none⟩), ("sub", .dir [("x", .file ⟨3, 2, 5, none⟩)])]
def exDstJob : Entries :=
  [("both", .file ⟨5, 1, 5, none⟩), ("sub", .dir [("x", .file ⟨7, 3, 5, none⟩)])]

example : WFEntries exSrcJob ∧ Both exSrcJob exDstJob "both" [] ⟨4, 1, 7, none⟩ ⟨5, 1, 5, none⟩ ∧
    Both exSrcJob exDstJob "sub" ["x"] ⟨3, 2, 5, none⟩ ⟨7, 3, 5, none⟩ ∧
    differs false ⟨4, 1, 7, none⟩ ⟨5, 1, 5, none⟩ = true ∧
    excluded (exOpts .update) (lastName "sub" ["x"]) = false ∧
    (syncJobDirs (exOpts .update) exSrcJob exDstJob).err = none ∧
    verdict (exOpts .update) ["both"] ⟨4, 1, 7, none⟩ ⟨5, 1, 5, none⟩ = some true ∧
    verdict (exOpts .update) ["sub", "x"] ⟨3, 2, 5, none⟩ ⟨7, 3, 5, none⟩ = some false ∧
    (exOpts .none).strategy = Strategy.none :=
  ⟨by simp [WFEntries, WFNode, exSrcJob, names], Both.top rfl rfl,
   Both.sub (sch := [("x", .file ⟨3, 2, 5, none⟩)]) (dch := [("x", .file ⟨7, 3, 5, none⟩)]) rfl rfl
     (Both.top rfl rfl),
   by decide, by decide +kernel, by decide +kernel, by decide, by decide, rfl⟩

example : DocConf "" [("n", .obj [("q", .obj [("r", .int 1)])])] [("n", .obj [("q", .obj [("r", .int 2)])])]
    ["n", "q", "r"] (.int 1) (.int 2) "n.q.r" :=
  DocConf.sub (by decide) rfl rfl (by decide)
    (DocConf.sub (by decide) rfl rfl (by decide)
      (DocConf.leaf (by decide) rfl rfl (by decide) trivial))

example : ∃ e, (syncDoc (exOpts .none) "doc" [("doc", .file ⟨1, 8, 5, some (.obj [("x", .int 1)])⟩)]
    ⟨[("doc", .file ⟨2, 8, 5, some (.obj [("x", .int 2)])⟩)], []⟩).err = some e :=
  ⟨.docConflict ["x"], by rfl⟩

/-! ### the payload of DocumentSyncConflict is exactly the set of conflicting keys

  Hypotheses: the *source* document has pairwise distinct keys in every mapping (`NodupKeysObj`,
  the predicate the idempotence theorems of C13 use; true of everything `json.loads` returns)
  and the merge did not hit a TypeError.  Nothing is assumed of the destination document. -/

/-- the payload as a list, order included: the specification `confItems` (Proofs/SyncConflictExact) -/
theorem conflict_payload_eq (s d : Doc) (keys' : List String) (hs : NodupKeysObj s)
    (hte : (byKeyItems none "" s ⟨d, [], false, false⟩).typeErr = false)
    (herr : (runDocSync (.byKey none) s d).err = some (.docConflict keys')) :
    keys' = confItems none "" s d := by
  rw [runDocSync_default_err_eq hte, byKeyItems_skipped_spec none s d hs hte] at herr
  split at herr
  · cases herr
  · exact (Err.docConflict.inj (Option.some.inj herr)).symm

/-- Without key strategy, the keys DocumentSyncConflict reports are
    exactly the conflicting keys (`DocConf`), nothing else. -/
theorem conflict_payload_exact (s d : Doc) (keys' : List String) (hs : NodupKeysObj s)
    (hte : (byKeyItems none "" s ⟨d, [], false, false⟩).typeErr = false)
    (herr : (runDocSync (.byKey none) s d).err = some (.docConflict keys')) :
    ∀ key, key ∈ keys' ↔ ∃ p v w, DocConf "" s d p v w key := by
  intro key
  rw [conflict_payload_eq s d keys' hs hte herr, mem_confItems_iff_docConf none "" s d hs key]
  exact and_iff_left rfl

/-- `conflict_payload_nodup` is FALSE of the model (and of the code): dotted keys collide.  With
    source `{"a.b": 1, "a": {"b": 1}}` and destination `{"a.b": 2, "a": {"b": 2}}` — both with
    distinct keys in every mapping — the payload is `["a.b", "a.b"]`. -/
theorem conflict_payload_nodup_false :
    ¬ (∀ (s d : Doc) (keys' : List String), NodupKeysObj s → NodupKeysObj d →
        (byKeyItems none "" s ⟨d, [], false, false⟩).typeErr = false →
        (runDocSync (.byKey none) s d).err = some (.docConflict keys') → keys'.Nodup) := by
  intro h
  obtain ⟨h1, h2, h3, h4, h5⟩ := conflict_payload_dup_witness
  exact h5 (h dupSrc dupDst _ h1 h2 h3 h4)

/-- The payload has no duplicates under the extra hypothesis
    `DotFreeObj s` — no key of the source document, in any mapping reached through mappings,
    contains a dot. -/
theorem conflict_payload_nodup_partial (s d : Doc) (keys' : List String) (hs : NodupKeysObj s)
    (hdot : DotFreeObj s)
    (hte : (byKeyItems none "" s ⟨d, [], false, false⟩).typeErr = false)
    (herr : (runDocSync (.byKey none) s d).err = some (.docConflict keys')) :
    keys'.Nodup := by
  rw [conflict_payload_eq s d keys' hs hte herr]
  exact confItems_nodup none "" s d hs hdot

/-- With no conflicting key (and no TypeError) the default `ByKey` merge
    does not raise. -/
theorem no_conflict_no_error (s d : Doc) (hs : NodupKeysObj s)
    (hte : (byKeyItems none "" s ⟨d, [], false, false⟩).typeErr = false)
    (hno : ∀ key p v w, ¬ DocConf "" s d p v w key) :
    (runDocSync (.byKey none) s d).err = none := by
  rw [runDocSync_default_err_eq hte, byKeyItems_skipped_spec none s d hs hte, if_pos]
  refine List.eq_nil_iff_forall_not_mem.mpr fun key hk => ?_
  obtain ⟨⟨p, v, w, hc⟩, _⟩ := (mem_confItems_iff_docConf none "" s d hs key).mp hk
  exact hno key p v w hc

/-- With a key strategy `f` the model does record the skipped keys (the
    code only logs them): they are exactly the conflicting keys `f` does not select — as a list,
    `confItems (some f) "" s d`, without duplicates when no key contains a dot. -/
theorem bykey_skipped_exact (f : String → Bool) (s d : Doc) (hs : NodupKeysObj s)
    (hte : (byKeyItems (some f) "" s ⟨d, [], false, false⟩).typeErr = false) :
    (∀ key, key ∈ (byKeyItems (some f) "" s ⟨d, [], false, false⟩).skipped ↔
      (∃ p v w, DocConf "" s d p v w key) ∧ f key = false) ∧
    (DotFreeObj s → (byKeyItems (some f) "" s ⟨d, [], false, false⟩).skipped.Nodup) := by
  rw [byKeyItems_skipped_spec (some f) s d hs hte]
  exact ⟨mem_confItems_iff_docConf (some f) "" s d hs, confItems_nodup (some f) "" s d hs⟩

/-! non-vacuity: two nested conflicts (`a.x`, `a.y.z`), an equal key (`b`), a key only the
    destination has (`a.only`) and a key only the source has (`c`) -/

def exDocSrc : Doc :=
  [("a", .obj [("x", .int 1), ("y", .obj [("z", .int 2)])]), ("b", .int 3), ("c", .int 4)]
def exDocDst : Doc :=
  [("a", .obj [("x", .int 10), ("y", .obj [("z", .int 20)]), ("only", .int 5)]), ("b", .int 3)]

example : NodupKeysObj exDocSrc ∧ DotFreeObj exDocSrc ∧
    (byKeyItems none "" exDocSrc ⟨exDocDst, [], false, false⟩).typeErr = false ∧
    (runDocSync (.byKey none) exDocSrc exDocDst).err = some (.docConflict ["a.x", "a.y.z"]) ∧
    confItems none "" exDocSrc exDocDst = ["a.x", "a.y.z"] ∧
    docGet (runDocSync (.byKey none) exDocSrc exDocDst).doc ["a", "only"] = some (.int 5) :=
  ⟨by unfold exDocSrc; simp only [NodupKeysObj, NodupKeysVal]; decide +kernel,
   by simp [exDocSrc, DotFreeObj, DotFreeVal, dotFree], by rfl, by rfl, by rfl, by rfl⟩

example : DocConf "" exDocSrc exDocDst ["a", "y", "z"] (.int 2) (.int 20) "a.y.z" :=
  DocConf.sub (by decide) rfl rfl (by decide)
    (DocConf.sub (by decide) rfl rfl (by decide)
      (DocConf.leaf (by decide) rfl rfl (by decide) trivial))

/-- with the key strategy "select `a.x` only": `a.y.z` is the one skipped key, no error -/
example : (byKeyItems (some (fun k => k == "a.x")) "" exDocSrc ⟨exDocDst, [], false, false⟩).skipped = ["a.y.z"] ∧
    (runDocSync (.byKey (some (fun k => k == "a.x"))) exDocSrc exDocDst).err = none ∧
    docGet (runDocSync (.byKey (some (fun k => k == "a.x"))) exDocSrc exDocDst).doc ["a", "x"] = some (.int 1) :=
  ⟨by rfl, by rfl, by rfl⟩

/-- no conflict (the documents differ only in keys one side lacks): no error -/
example : (runDocSync (.byKey none) [("b", .int 3), ("c", .int 4)] exDocDst).err = none ∧
    ∀ key p v w, ¬ DocConf "" [("b", .int 3), ("c", .int 4)] exDocDst p v w key := by
  refine ⟨rfl, fun key p v w hc => ?_⟩
  have h0 : confItems none "" [("b", .int 3), ("c", .int 4)] exDocDst = [] := by decide +kernel
  exact List.not_mem_nil (h0 ▸ docConf_mem_confItems none hc rfl)

end Signac.C14
