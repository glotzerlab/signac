/-
  C17 — a linked view is an exact, self-healing picture of the selected jobs.
  Property theorems only; the lemmas live in Signac/Proofs/View*.lean, the model in
  Signac/LinkedView.lean.

  Reading guide.  A view is a finite map  path ↦ directory | link(target job id)  (`vget`).
  `IsTreeOf v L` says that `v` is EXACTLY the picture of the link set `L`
  (see `tree_reading`): at every path of `L` a link with the target `L` gives, at every non-empty
  proper prefix of such a path a directory, nothing anywhere else.
  `Valid L`: distinct paths, none below another, all end in the leaf name, all components are
  ordinary names (not "" or ".").  The theorems about link sets (`…_partial`) assume it; the
  same statements for `ValidRaw` (the first three clauses alone, i.e. the checks on paths that
  were not normalised) are `…_full` and are refuted by a link set.

  `create_linked_view` normalises the link paths before its checks and refuses a normalised path
  generated for two jobs, so every accepted link set is valid: `accepts_valid`.  The end-to-end
  theorems `view_create`, `view_scratch`, `view_incremental_eq_scratch`, `view_idempotent`,
  `view_twice` therefore have no hypothesis but "the current and the previous input were
  accepted" and "the view is the picture of the previous link set".  The inputs on which the
  code as first examined went wrong (finding F-17e) are rejected without touching the view (`clash_*`,
  `byId_dup_rejected`, `abs_rejected`) or accepted with a valid link set and a second run
  without any step (`up_*`, `dot_*`).

  The model is the code as it stands (after the fixes of F-16b, F-16c, F-17a … F-17e, the seven
  defects this check found; see proposed/F-16b-view.md … F-17d.md).
-/
import Signac.Proofs.ViewUpdate
import Signac.Proofs.ViewChecks
import Signac.Proofs.ViewAccept
namespace Signac.C17
open Signac Signac.LV

/-- What "exact picture" means, spelled out: one link per entry of `L` resolving to its job,
    every link comes from `L`, every directory leads to a link of `L`, the ancestors of every
    link are directories. -/
theorem tree_reading {L : List (Path × String)} {v : View} (hV : Valid L) (hT : IsTreeOf v L) :
    (∀ k ∈ keysOf L, ∃ t, linkTarget L k = some t ∧ vget v k = some (.link t)) ∧
    (∀ q t, vget v q = some (.link t) → q ∈ keysOf L ∧ linkTarget L q = some t) ∧
    (∀ q, vget v q = some .dir → q ≠ [] ∧ ∃ k ∈ keysOf L, properPrefix q k = true) ∧
    (∀ q k, q ≠ [] → k ∈ keysOf L → properPrefix q k = true → vget v q = some .dir) :=
  ⟨fun k hk => hT k ▸ specGet_key hV hk,
   fun q _ h => have ht := specGet_link_inv (hT q ▸ h); ⟨mem_keys_of_linkTarget ht, ht⟩,
   fun q h => ⟨(specGet_inv (hT q ▸ h)).1, (specGet_dir_inv (hT q ▸ h)).2⟩,
   fun q _ hq hk hp => hT q ▸ specGet_above hV hq hk hp⟩

/-- **Exact.**  Creating a view in an empty prefix performs no failing step and leaves exactly
    the picture of the link set. -/
theorem view_exact_partial (L : List (Path × String)) (hV : Valid L) :
    (updateView [] L).2 = none ∧ IsTreeOf (updateView [] L).1 L :=
  update_correct valid_nil hV isTreeOf_nil

/-- **Self-healing.**  Whatever accepted link set `L0` the existing view is the picture of
    (its targets may dangle, its jobs may have moved), updating it for `L` performs no failing
    step and leaves exactly the picture of `L`: no obsolete, dangling or duplicate link, no empty
    directory, no missing link. -/
theorem view_incremental_partial {L0 L : List (Path × String)} {v : View}
    (hV0 : Valid L0) (hV : Valid L) (hT : IsTreeOf v L0) :
    (updateView v L).2 = none ∧ IsTreeOf (updateView v L).1 L :=
  update_correct hV0 hV hT

/-- Incremental = from scratch: the updated view and a view built in an empty prefix agree at
    every path. -/
theorem view_incremental_eq_scratch_partial {L0 L : List (Path × String)} {v : View}
    (hV0 : Valid L0) (hV : Valid L) (hT : IsTreeOf v L0) (p : Path) :
    vget (updateView v L).1 p = vget (updateView [] L).1 p := by
  rw [(update_correct hV0 hV hT).2 p, (view_exact_partial L hV).2 p]

/-- **Idempotent.**  On an up-to-date view the update consists of no step at all. -/
theorem view_idempotent_partial {L : List (Path × String)} {v : View}
    (hV : Valid L) (hT : IsTreeOf v L) :
    viewSteps v L = [] ∧ updateView v L = (v, none) := by
  have h := steps_nil_of_tree hV hT
  exact ⟨h, by simp [updateView, h, runSteps]⟩

/-- **Twice.**  Updating the updated view for the same link set changes nothing and fails
    nowhere: the second of two runs is a no-op. -/
theorem view_twice_partial {L0 L : List (Path × String)} {v : View}
    (hV0 : Valid L0) (hV : Valid L) (hT : IsTreeOf v L0) :
    updateView (updateView v L).1 L = ((updateView v L).1, none) :=
  (view_idempotent_partial hV (update_correct hV0 hV hT).2).2

/-- `view_exact_partial` for link sets that only pass the checks on raw paths (`ValidRaw`). -/
def view_exact_full : Prop :=
  ∀ L : List (Path × String), ValidRaw L → (updateView [] L).2 = none ∧ IsTreeOf (updateView [] L).1 L

/-- `view_incremental_partial` for `ValidRaw` link sets. -/
def view_incremental_full : Prop :=
  ∀ (L0 L : List (Path × String)) (v : View), ValidRaw L0 → ValidRaw L → IsTreeOf v L0 →
    (updateView v L).2 = none ∧ IsTreeOf (updateView v L).1 L

/-- Without normalisation the checks do not make the update exact: the raw paths `["", "job"]`
    and `["job"]` are distinct, neither lies below the other and both end in the leaf name, but
    they name the same place, and the second `symlink` fails with EEXIST.  (`createLinks` never
    yields this link set: it refuses a path with an empty first component, `abs_rejected`.) -/
theorem view_exact_full_false : ¬ view_exact_full := by
  intro h
  have := (h clashLinks clashLinks_validRaw).1
  rw [clashLinks_fails] at this
  cases this

/-- The same link set refutes the incremental statement (from the empty view). -/
theorem view_incremental_full_false : ¬ view_incremental_full := by
  intro h
  have := (h [] clashLinks [] ⟨valid_nil.nodup, valid_nil.noConflict, valid_nil.leafEnd⟩
    clashLinks_validRaw isTreeOf_nil).1
  rw [clashLinks_fails] at this
  cases this

/-- **Accepted inputs are representable**: whenever `create_linked_view` gets as far as the link
    set, no top-level key or string value contains the separator, every selected job has a path,
    the paths are pairwise different (also after normalisation), none leaves the prefix, none
    lies below another, and the link set pairs the i-th path with the i-th selected job. -/
theorem view_accepts_sound {jobs : List Job} {spec : PathSpec} {L : List (Path × String)}
    (h : createLinks jobs spec = .ok L) :
    Representable jobs spec ∧
      ∃ ps, pathStrings jobs spec = some (.ok ps) ∧ ps.length = jobs.length ∧
        L = (ps.map linkKey).zip (jobs.map (·.id)) := by
  refine ⟨representable_of_ok h, ?_⟩
  obtain ⟨_, ps, h2, _, h4, _, _, _, h7⟩ := createLinks_ok h
  exact ⟨ps, h2, h4, h7⟩

/-- **Rejects.**  An input that cannot be represented (separator in a key or value, a job
    without a path, two jobs with the same (normalised) path, a path outside the prefix, a path that is both
    a link and a directory) never reaches the first file-system step: the existing view is
    returned unchanged and the outcome is a rejection (or the input lies outside the modelled
    fragment of format strings). -/
theorem view_rejects {jobs : List Job} {spec : PathSpec} (v : View)
    (h : ¬ Representable jobs spec) :
    (createView v jobs spec).1 = v ∧
      ((∃ e, (createView v jobs spec).2 = .rejected e) ∨ (createView v jobs spec).2 = .unmodelled) :=
  createView_not_ok (fun _ hL => h (representable_of_ok hL))

/-- End to end: an accepted input whose link paths consist of ordinary names, on a view that is
    the picture of an earlier accepted link set, ends normally with the exact picture. -/
theorem view_create_partial {jobs : List Job} {spec : PathSpec} {L0 L : List (Path × String)} {v : View}
    (hL : createLinks jobs spec = .ok L) (hV0 : Valid L0) (hV : Valid L) (hT : IsTreeOf v L0) :
    ∃ v', createView v jobs spec = (v', .done) ∧ IsTreeOf v' L := by
  obtain ⟨h1, h2⟩ := update_correct hV0 hV hT
  cases hu : updateView v L with
  | mk v' e =>
    rw [hu] at h1 h2
    simp only at h1 h2
    subst h1
    exact ⟨v', by simp [createView, hL, hu], h2⟩

/-! non-vacuity: two valid link sets (the first with a directory literally called `job`), a
    non-empty view that is the picture of the first, and an unrepresentable input. -/

def exL0 : List (Path × String) :=
  [(["a", "1", "job"], "id1"), (["a", "2", "job"], "id2"), (["a", "job", "job"], "id3")]
def exL : List (Path × String) :=
  [(["a", "1", "job"], "id9"), (["b", "x y", "job"], "id2")]

example : Valid exL0 ∧ Valid exL :=
  ⟨⟨by decide, by decide, by decide, by decide⟩, ⟨by decide, by decide, by decide, by decide⟩⟩

example : ∃ v, IsTreeOf v exL0 ∧ vget v ["a", "job"] = some .dir ∧
    vget v ["a", "2", "job"] = some (.link "id2") := by
  have hV : Valid exL0 := ⟨by decide, by decide, by decide, by decide⟩
  have hT := (view_exact_partial exL0 hV).2
  refine ⟨_, hT, ?_, ?_⟩
  · rw [hT]; decide
  · rw [hT]; decide

example : ¬ Representable [{ id := "j1", sp := [("a", .str "x/y")] }] .auto := by
  rintro ⟨h, _⟩
  have := (h _ List.mem_cons_self ("a", .str "x/y") List.mem_cons_self).2 "x/y" rfl
  revert this
  decide

/-- **Every accepted link set is valid.**  `create_linked_view` normalises every link path
    (`normpath(join(path, "job"))`) and refuses a normalised path that is generated for two jobs,
    an absolute path, a path with ".." and a path that is both a link and a directory; hence the
    link paths are pairwise different, none lies below another, each ends in the leaf name, no
    component is "" or ".". -/
theorem accepts_valid {jobs : List Job} {spec : PathSpec} {L : List (Path × String)}
    (hL : createLinks jobs spec = .ok L) : Valid L :=
  valid_of_ok hL

/-- **Create / update.**  An accepted input, on a view that is the picture of an earlier accepted
    input (whose jobs may have moved or vanished since), ends normally with the exact picture:
    one link per selected job at its path, the directories leading there, nothing else. -/
theorem view_create {jobs jobs0 : List Job} {spec spec0 : PathSpec}
    {L L0 : List (Path × String)} {v : View}
    (hL : createLinks jobs spec = .ok L) (hL0 : createLinks jobs0 spec0 = .ok L0)
    (hT : IsTreeOf v L0) :
    ∃ v', createView v jobs spec = (v', .done) ∧ IsTreeOf v' L :=
  view_create_partial hL (accepts_valid hL0) (accepts_valid hL) hT

/-- **From scratch.** -/
theorem view_scratch {jobs : List Job} {spec : PathSpec} {L : List (Path × String)}
    (hL : createLinks jobs spec = .ok L) :
    ∃ v', createView [] jobs spec = (v', .done) ∧ IsTreeOf v' L :=
  view_create_partial hL valid_nil (accepts_valid hL) isTreeOf_nil

/-- **Incremental = from scratch**, at every path. -/
theorem view_incremental_eq_scratch {jobs jobs0 : List Job} {spec spec0 : PathSpec}
    {L L0 : List (Path × String)} {v : View}
    (hL : createLinks jobs spec = .ok L) (hL0 : createLinks jobs0 spec0 = .ok L0)
    (hT : IsTreeOf v L0) (p : Path) :
    vget (createView v jobs spec).1 p = vget (createView [] jobs spec).1 p := by
  obtain ⟨v1, h1, hT1⟩ := view_create hL hL0 hT
  obtain ⟨v2, h2, hT2⟩ := view_scratch hL
  rw [h1, h2, hT1 p, hT2 p]

/-- **Idempotent.**  On an up-to-date view the run consists of no step at all. -/
theorem view_idempotent {jobs : List Job} {spec : PathSpec} {L : List (Path × String)} {v : View}
    (hL : createLinks jobs spec = .ok L) (hT : IsTreeOf v L) :
    viewSteps v L = [] ∧ createView v jobs spec = (v, .done) := by
  obtain ⟨h1, h2⟩ := view_idempotent_partial (accepts_valid hL) hT
  exact ⟨h1, by simp only [createView, hL, h2]⟩

/-- **Twice.**  The second of two runs is a no-op. -/
theorem view_twice {jobs jobs0 : List Job} {spec spec0 : PathSpec}
    {L L0 : List (Path × String)} {v : View}
    (hL : createLinks jobs spec = .ok L) (hL0 : createLinks jobs0 spec0 = .ok L0)
    (hT : IsTreeOf v L0) :
    ∃ v', createView v jobs spec = (v', .done) ∧ IsTreeOf v' L ∧
      viewSteps v' L = [] ∧ createView v' jobs spec = (v', .done) := by
  obtain ⟨v', h1, hT'⟩ := view_create hL hL0 hT
  exact ⟨v', h1, hT', view_idempotent hL hT'⟩

/-- **Never a failed file-system step.**  On a view that is the picture of an earlier accepted
    input, whatever the new input: it is accepted and the update runs through (`view_create`), or
    it is rejected (or outside the modelled fragment) before the first step. -/
theorem view_never_fails {jobs jobs0 : List Job} {spec spec0 : PathSpec}
    {L0 : List (Path × String)} {v : View}
    (hL0 : createLinks jobs0 spec0 = .ok L0) (hT : IsTreeOf v L0) :
    ∀ e, (createView v jobs spec).2 ≠ .failed e := by
  intro e he
  cases hc : createLinks jobs spec with
  | ok L =>
    obtain ⟨v', h1, _⟩ := view_create hc hL0 hT
    rw [h1] at he; cases he
  | reject r => simp [createView, hc] at he
  | unmodelled => simp [createView, hc] at he

/-- A refused input leaves every view untouched. -/
theorem createView_reject {jobs : List Job} {spec : PathSpec} {e : Reject} (v : View)
    (h : createLinks jobs spec = .reject e) : createView v jobs spec = (v, .rejected e) := by
  simp only [createView, h]

def clashJobs : List Job :=
  [{ id := "1", sp := [("a", .str "")] }, { id := "2", sp := [("a", .str ".")] }]

/-- State points `{"a": ""}` and `{"a": "."}` with `path="d/{a}"`: the path strings "d/" and
    "d/." both normalise to the link path "d/job"; RuntimeError.  (In the code as first examined both were
    accepted and the second `symlink` failed with EEXIST on a half-updated view: F-17e.) -/
theorem clash_rejected : createLinks clashJobs (.fmt "d/{a}") = .reject .runtime := by decide +kernel

/-- … raised before any file-system step: the view is returned as it was. -/
theorem clash_view_untouched (v : View) :
    createView v clashJobs (.fmt "d/{a}") = (v, .rejected .runtime) :=
  createView_reject v clash_rejected

def upJobs : List Job :=
  [{ id := "1", sp := [("a", .str "..")] }, { id := "2", sp := [("a", .str "x")] }]
def upLinks : List (Path × String) := [(["job"], "1"), (["a", "x", "job"], "2")]

/-- State points `{"a": ".."}` and `{"a": "x"}` with `path=None`: `normpath("a/..")` is ".", the
    link path of the first job is `normpath("./job")` = "job".  (In the code as first examined it was
    "./job", which no re-run recognised: the link was removed and re-created every time.) -/
theorem up_accepted : createLinks upJobs .auto = .ok upLinks := by decide +kernel

/-- … a valid link set, … -/
theorem up_valid : Valid upLinks := accepts_valid up_accepted

/-- … and the second run does nothing. -/
theorem up_twice : ∃ v, createView [] upJobs .auto = (v, .done) ∧ IsTreeOf v upLinks ∧
    viewSteps v upLinks = [] ∧ createView v upJobs .auto = (v, .done) := by
  obtain ⟨v, h1, hT⟩ := view_scratch up_accepted
  exact ⟨v, h1, hT, view_idempotent up_accepted hT⟩

def dotJobs : List Job := [{ id := "1", sp := [] }]

/-- One job, `path="."`: the link path is "job". -/
theorem dot_accepted : createLinks dotJobs (.fmt ".") = .ok [(["job"], "1")] := by decide +kernel

/-- One job, `path="a//b"`: the link path is "a/b/job". -/
theorem dbl_accepted : createLinks dotJobs (.fmt "a//b") = .ok [(["a", "b", "job"], "1")] := by
  decide +kernel

/-- With `path="."` the second run does nothing. -/
theorem dot_twice : ∃ v, createView [] dotJobs (.fmt ".") = (v, .done) ∧
    viewSteps v [(["job"], "1")] = [] ∧ createView v dotJobs (.fmt ".") = (v, .done) := by
  obtain ⟨v, h1, hT⟩ := view_scratch dot_accepted
  exact ⟨v, h1, view_idempotent dot_accepted hT⟩

/-- By-id paths for the (unreal) ids "a" and "a/" are the same normalised link path: refused.
    (The model does not restrict ids to hex digests.) -/
theorem byId_dup_rejected :
    createLinks [{ id := "a", sp := [] }, { id := "a/", sp := [] }] .byId = .reject .runtime := by
  decide +kernel

/-- Absolute paths keep their leading separator through `normpath` and are refused, also when
    they come from a nested value (top-level values are covered by the separator check), and so
    are paths that leave the prefix. -/
theorem abs_rejected :
    createLinks dotJobs (.fmt "/abs") = .reject .runtime ∧
    createLinks dotJobs (.fmt "a/../..") = .reject .runtime ∧
    createLinks [{ id := "1", sp := [("a", .obj [("b", .str "/")])] },
                 { id := "2", sp := [("a", .obj [("b", .str "x")])] }] .auto = .reject .runtime := by
  decide +kernel

example : normpath "" = "." ∧ normpath "a/.." = "." ∧ normpath "./job" = "job" ∧
    normpath "/x/job" = "/x/job" ∧ normpath "//x" = "//x" ∧ normpath "///x/../.." = "/" ∧
    normpath "a//b/./c/" = "a/b/c" ∧ normpath "../a/../../b" = "../../b" := by decide +kernel

/-! ### non-vacuity: concrete accepted inputs and an instance of the end-to-end theorems -/

/-- short stand-ins for job ids -/
def id1 : String := "0a"
def id2 : String := "1b"
def id3 : String := "2c"

/-- the earlier selection … -/
def exJobs0 : List Job :=
  [{ id := id1, sp := [("a", .int 1), ("b", .str "x y")] },
   { id := id2, sp := [("a", .int 2), ("b", .str "x y")] }]
/-- … and the current one: a job removed, a job added, a state point changed -/
def exJobs : List Job :=
  [{ id := id2, sp := [("a", .int 2), ("b", .str "z")] },
   { id := id3, sp := [("a", .int 3), ("b", .str "x y")] }]

theorem exJobs0_accepted :
    createLinks exJobs0 .auto = .ok [(["a", "1", "job"], id1), (["a", "2", "job"], id2)] := by
  decide +kernel
theorem exJobs_accepted : createLinks exJobs .auto =
    .ok [(["a", "2", "b", "z", "job"], id2), (["a", "3", "b", "x y", "job"], id3)] := by
  decide +kernel
example : createLinks exJobs .byId = .ok [([id2, "job"], id2), ([id3, "job"], id3)] := by
  decide +kernel
example : createLinks exJobs (.fmt "run/{a}/") =
    .ok [(["run", "2", "job"], id2), (["run", "3", "job"], id3)] := by decide +kernel

/-- the view of `exJobs0` (automatic paths) updated for `exJobs`, then for `exJobs` by id -/
example : ∃ v0 v' v'', createView [] exJobs0 .auto = (v0, .done) ∧
    createView v0 exJobs .auto = (v', .done) ∧
    vget v' ["a", "2", "b", "z", "job"] = some (.link id2) ∧ vget v' ["a", "1", "job"] = none ∧
    vget v' ["a", "2"] = some .dir ∧ createView v' exJobs .auto = (v', .done) ∧
    createView v' exJobs .byId = (v'', .done) ∧
    vget v'' [id3, "job"] = some (.link id3) ∧ vget v'' ["a"] = none := by
  have hb : createLinks exJobs .byId = .ok [([id2, "job"], id2), ([id3, "job"], id3)] := by
    decide +kernel
  obtain ⟨v0, hv0, hT0⟩ := view_scratch exJobs0_accepted
  obtain ⟨v', hv', hT', _, hv''⟩ := view_twice exJobs_accepted exJobs0_accepted hT0
  obtain ⟨v'', hv3, hT3⟩ := view_create hb exJobs_accepted hT'
  refine ⟨v0, v', v'', hv0, hv', ?_, ?_, ?_, hv'', hv3, ?_, ?_⟩
  · rw [hT']; decide
  · rw [hT']; decide
  · rw [hT']; decide
  · rw [hT3]; decide
  · rw [hT3]; decide

end Signac.C17
