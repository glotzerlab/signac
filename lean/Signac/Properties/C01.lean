/-
  C01 — the job id is the canonical, order-independent hash of the state point.
  Property theorems and the witnesses of their examples; helper lemmas live in Signac/Proofs.
  Notions of the statements: `JEquiv` (Proofs/Canon), `SortedDeep`, `KeysLt` (Proofs/Sorted),
  `hexAlphabet` (Proofs/Md5Shape), `FloatTok`, `FloatsOk` (Proofs/EncInj), `fvAgreesB` (Proofs/FloatTokB).
-/
import Signac.Extracted
import Signac.Proofs.Canon
import Signac.Proofs.Sorted
import Signac.Proofs.Md5Shape
import Signac.Proofs.FloatTokB
import Signac.Proofs.EncInj
import Signac.Proofs.BytesInj
import Signac.Proofs.JsonRoundTrip
namespace Signac.C01
open Signac

/-- The id is, by definition of the model, the MD5 hex digest of the UTF-8 bytes of the
    canonical text (sorted keys at every level, ", " / ": ", ASCII escapes). Stated so that
    the definition the other theorems talk about is visible. -/
theorem calcId_is_md5_of_canonText (v : JVal) :
    calcId v = md5hex (utf8 (encChars (canon v))) := rfl

/-- Order independence at every nesting level: two values related by any sequence of
    re-orderings of object entries (anywhere inside the value) have the same id. -/
theorem calcId_equiv {v w : JVal} (h : JEquiv v w) : calcId v = calcId w :=
  calcId_of_canon_eq h.canon_eq

/-- Every permutation of the entries of a mapping with distinct keys gives the same id. -/
theorem calcId_perm {a b : List (String × JVal)} (hp : a.Perm b)
    (hn : (a.map Prod.fst).Nodup) : calcId (.obj a) = calcId (.obj b) :=
  calcId_of_canon_eq (congrArg JVal.obj (canonObj_perm hp hn))

/-- The hashed text has its keys strictly increasing in every object at every depth. -/
theorem canon_sorted (v : JVal) : SortedDeep (canon v) := Signac.canon_sorted v

/-- Hashing the already-sorted spelling (e.g. what a `sort_keys` dump re-parses to)
    gives the same id: `canon` is idempotent. -/
theorem calcId_canon (v : JVal) : calcId (canon v) = calcId v :=
  calcId_of_canon_eq (canon_idem v)

/-- The id has exactly `JOB_ID_LENGTH` characters, all lower-case hexadecimal
    (`JOB_ID_LENGTH` is regenerated from the running `signac.project`). -/
theorem calcId_shape (v : JVal) :
    (calcIdChars v).length = Extracted.JOB_ID_LENGTH ∧ ∀ c ∈ calcIdChars v, c ∈ hexAlphabet :=
  ⟨md5hexChars_length _, md5hexChars_hex _⟩

/-- The workspace scanner's pattern is the one ids satisfy: 32 characters of `[a-f0-9]`. -/
theorem id_pattern_is_32_hex :
    Extracted.JOB_ID_REGEX = "[a-f0-9]{" ++ toString Extracted.JOB_ID_LENGTH ++ "}"
    ∧ Extracted.JOB_ID_LENGTH = 32 := by decide +kernel

/- non-vacuity: a concrete non-trivial instance of the hypotheses of `calcId_equiv`
   (nested re-ordering) and of `calcId_perm`. -/
example : JEquiv (.obj [("b", .arr [.obj [("x", .int 1), ("y", .null)]]), ("a", .int 1)])
                 (.obj [("a", .int 1), ("b", .arr [.obj [("y", .null), ("x", .int 1)]])]) :=
  JEquiv.trans
    (JEquiv.swap [] [] "b" "a" _ _ (by decide))
    (JEquiv.inObj [("a", .int 1)] [] "b"
      (JEquiv.inArr [] [] (JEquiv.swap [] [] "x" "y" _ _ (by decide))))

example : ([("b", JVal.int 2), ("a", JVal.int 1)].Perm [("a", .int 1), ("b", .int 2)])
    ∧ (([("b", JVal.int 2), ("a", JVal.int 1)]).map Prod.fst).Nodup :=
  ⟨List.Perm.swap _ _ _, by decide⟩

/-! ### The converse: state points that differ as JSON values are hashed from different bytes

`FloatsOk fv v` (Signac/Proofs/EncInj.lean) says that every float leaf of `v` carries a
well-formed float token (`FloatTok`: non-empty, characters of `0123456789+-.eNaIfinty`, at
least one character that an integer token cannot contain) and that the token determines the
float's value through `fv`.  The model treats CPython's float `repr` as an opaque token, so
this is the hypothesis under which "same text, same value" can hold at all. -/

/-- `json.dumps` is injective: the printed text determines the value (key order included). -/
theorem encChars_injective (fv : String → Int × Nat) {v w : JVal} (hv : FloatsOk fv v)
    (hw : FloatsOk fv w) (h : encChars v = encChars w) : v = w :=
  encChars_inj_via_parse fv hv hw h

/-- The hashed text determines the canonical value: 1 vs 1.0 vs true vs "1", a different list
    order, an extra key, … all change the text. -/
theorem canonChars_injective (fv : String → Int × Nat) {v w : JVal} (hv : FloatsOk fv v)
    (hw : FloatsOk fv w) (h : canonChars v = canonChars w) : canon v = canon w :=
  encChars_inj_via_parse fv (canon_floatsOk fv v hv) (canon_floatsOk fv w hw) h

/-- Two state points that differ as JSON values are hashed from different byte strings. -/
theorem distinct_values_distinct_hashed_bytes (fv : String → Int × Nat) {v w : JVal}
    (hv : FloatsOk fv v) (hw : FloatsOk fv w) (h : canon v ≠ canon w) :
    utf8 (canonChars v) ≠ utf8 (canonChars w) :=
  fun hb => h (canonChars_injective fv hv hw (utf8_inj hb))

/-- Equal ids of different state points are an MD5 collision, nothing else. -/
theorem equal_ids_collision_or_equal (fv : String → Int × Nat) {v w : JVal}
    (hv : FloatsOk fv v) (hw : FloatsOk fv w) (h : calcId v = calcId w) :
    canon v = canon w ∨
      (utf8 (canonChars v) ≠ utf8 (canonChars w)
        ∧ md5 (utf8 (canonChars v)) = md5 (utf8 (canonChars w))) := by
  have hm : md5 (utf8 (canonChars v)) = md5 (utf8 (canonChars w)) :=
    hexOfBytes_inj (String.ofList_injective h)
  by_cases hc : canon v = canon w
  · exact Or.inl hc
  · exact Or.inr ⟨distinct_values_distinct_hashed_bytes fv hv hw hc, hm⟩

/- Concrete instances.  `fvDemo` reads the two float tokens used below. -/
def fvDemo (r : String) : Int × Nat :=
  if r = "1.0" then (1, 0) else if r = "-2.5" then (-5, 1) else (0, 0)

theorem floatTok_one : FloatTok "1.0" := (floatTokB_iff _).mp (by decide +kernel)

/-- {"a": 1}, {"a": 1.0}, {"a": true}, {"a": "1"}: pairwise different hashed bytes
    (by the theorem; the `decide` lines below re-check the texts by evaluation). -/
theorem int_float_bool_str_distinct :
    let i := JVal.obj [("a", .int 1)]
    let f := JVal.obj [("a", .flt 1 0 "1.0")]
    let b := JVal.obj [("a", .bool true)]
    let s := JVal.obj [("a", .str "1")]
    utf8 (canonChars i) ≠ utf8 (canonChars f) ∧ utf8 (canonChars i) ≠ utf8 (canonChars b) ∧
    utf8 (canonChars i) ≠ utf8 (canonChars s) ∧ utf8 (canonChars f) ≠ utf8 (canonChars b) ∧
    utf8 (canonChars f) ≠ utf8 (canonChars s) ∧ utf8 (canonChars b) ≠ utf8 (canonChars s) := by
  have hf : FloatsOk fvDemo (.obj [("a", .flt 1 0 "1.0")]) := by
    simp only [FloatsOk, FloatsOkObj, and_true]; exact ⟨floatTok_one, by decide⟩
  have hi : FloatsOk fvDemo (.obj [("a", .int 1)]) := by simp [FloatsOk, FloatsOkObj]
  have hb : FloatsOk fvDemo (.obj [("a", .bool true)]) := by simp [FloatsOk, FloatsOkObj]
  have hs : FloatsOk fvDemo (.obj [("a", .str "1")]) := by simp [FloatsOk, FloatsOkObj]
  exact ⟨distinct_values_distinct_hashed_bytes fvDemo hi hf (by simp [canon, canonObj, insertKV]),
    distinct_values_distinct_hashed_bytes fvDemo hi hb (by simp [canon, canonObj, insertKV]),
    distinct_values_distinct_hashed_bytes fvDemo hi hs (by simp [canon, canonObj, insertKV]),
    distinct_values_distinct_hashed_bytes fvDemo hf hb (by simp [canon, canonObj, insertKV]),
    distinct_values_distinct_hashed_bytes fvDemo hf hs (by simp [canon, canonObj, insertKV]),
    distinct_values_distinct_hashed_bytes fvDemo hb hs (by simp [canon, canonObj, insertKV])⟩

example : canonChars (.obj [("a", .int 1)]) = "{\"a\": 1}".toList
    ∧ canonChars (.obj [("a", .flt 1 0 "1.0")]) = "{\"a\": 1.0}".toList
    ∧ canonChars (.obj [("a", .bool true)]) = "{\"a\": true}".toList
    ∧ canonChars (.obj [("a", .str "1")]) = "{\"a\": \"1\"}".toList := by decide +kernel

/-- [1, 2] vs [2, 1]: list order matters. -/
theorem list_order_distinct :
    utf8 (canonChars (.arr [.int 1, .int 2])) ≠ utf8 (canonChars (.arr [.int 2, .int 1])) := by
  apply distinct_values_distinct_hashed_bytes fvDemo
    (by simp [FloatsOk, FloatsOkList]) (by simp [FloatsOk, FloatsOkList])
  simp [canon, canonList]

/-- {"a": 1} vs {"a": 1, "b": null}: an extra key matters, even with value null. -/
theorem extra_key_distinct :
    utf8 (canonChars (.obj [("a", .int 1)]))
      ≠ utf8 (canonChars (.obj [("a", .int 1), ("b", .null)])) := by
  apply distinct_values_distinct_hashed_bytes fvDemo
    (by simp [FloatsOk, FloatsOkObj]) (by simp [FloatsOk, FloatsOkObj])
  simp [canon, canonObj, insertKV]

example : canonChars (.arr [.int 1, .int 2]) ≠ canonChars (.arr [.int 2, .int 1])
    ∧ canonChars (.obj [("a", .int 1)]) ≠ canonChars (.obj [("a", .int 1), ("b", .null)]) := by
  decide +kernel

/- non-vacuity of `FloatsOk`: a nested value with float leaves (one of them inside an array
   inside an object) satisfies it for the concrete `fvDemo`. -/
example : FloatsOk fvDemo
    (.obj [("b", .arr [.flt (-5) 1 "-2.5", .obj [("x", .flt 1 0 "1.0"), ("y", .null)]]),
           ("a", .int 1)]) :=
  (floatsOk_iff fvDemo _).mpr (by decide +kernel)

/-- The same with the hypothesis in executable form: `floatsTokB` is what the driver evaluates on
    every value of the correspondence run (`ftok` lines), `fvAgreesB fv` says the repr token
    determines the float's value.  So for the values the check runs on, equal ids mean equal
    canonical values or an MD5 collision. -/
theorem equal_ids_collision_or_equal_checked (fv : String → Int × Nat) {v w : JVal}
    (hv : floatsTokB v = true ∧ fvAgreesB fv v = true) (hw : floatsTokB w = true ∧ fvAgreesB fv w = true)
    (h : calcId v = calcId w) :
    canon v = canon w ∨
      (utf8 (canonChars v) ≠ utf8 (canonChars w) ∧ md5 (utf8 (canonChars v)) = md5 (utf8 (canonChars w))) :=
  equal_ids_collision_or_equal fv ((floatsOk_iff fv v).mpr hv) ((floatsOk_iff fv w).mpr hw) h

example : floatsTokB (.obj [("b", .arr [.flt (-5) 1 "-2.5", .obj [("x", .flt 1 0 "1.0")]]), ("a", .int 1)]) = true := by
  decide +kernel

/-! ### The JSON write/read round trip

`parseText fv` (Signac/JsonParse.lean) is the model's `json.loads`: objects are read as
association lists in the order written; float tokens become `.flt n e r` with `(n, e) = fv r`.
`FloatsOk fv v` is the same hypothesis as above: the float leaves of `v` carry float tokens
that `fv` reads back to their values. -/

/-- Reading `json.dumps(v)` gives `v` back, exactly (key order and duplicates included). -/
theorem dump_parses_back (fv : String → Int × Nat) {v : JVal} (hv : FloatsOk fv v) :
    parseText fv (dumpChars v) = some v :=
  parseText_enc fv hv

/-- Reading the hashed text `json.dumps(v, sort_keys=True)` gives the canonical value. -/
theorem canonText_parses_back (fv : String → Int × Nat) {v : JVal} (hv : FloatsOk fv v) :
    parseText fv (canonChars v) = some (canon v) :=
  parseText_canonChars fv hv

/-- The id is identical after a JSON write/read round trip through the sort_keys text:
    what is read back hashes to the original id. -/
theorem roundtrip_same_id (fv : String → Int × Nat) {v : JVal} (hv : FloatsOk fv v) :
    ∃ w, parseText fv (canonChars v) = some w ∧ calcId w = calcId v :=
  ⟨canon v, parseText_canonChars fv hv, calcId_canon v⟩

/-- … and through the insertion-order dump, i.e. the content of the state point file: reading
    the file back gives a state point with the same id (the validation `Job.init` /
    `_StatePointDict.load` perform). -/
theorem dump_roundtrip_same_id (fv : String → Int × Nat) {v : JVal} (hv : FloatsOk fv v) :
    ∃ w, parseText fv (dumpChars v) = some w ∧ calcId w = calcId v :=
  ⟨v, parseText_enc fv hv, rfl⟩

/-- Two texts produced by `json.dumps` that read back to the same value are the same text. -/
theorem parse_injective_on_range (fv : String → Int × Nat) {v w : JVal} (hv : FloatsOk fv v)
    (hw : FloatsOk fv w) (h : parseText fv (encChars v) = parseText fv (encChars w)) :
    encChars v = encChars w := by
  rw [parseText_enc fv hv, parseText_enc fv hw] at h
  rw [Option.some.inj h]

/- non-vacuity: a nested value with floats, a string needing every kind of escape (quote,
   backslash, control, BMP `\u00e9`, astral surrogate pair), an empty array and an empty object
   satisfies the hypothesis for the concrete `fvDemo`, so its dump and its hashed text read back. -/
example :
    let v := JVal.obj [("b", .arr [.flt (-5) 1 "-2.5", .obj [("x", .flt 1 0 "1.0"), ("y", .null)]]),
                       ("a", .int (-12)), ("s", .str "q\"\\\n\x01é😀"), ("e", .arr []), ("o", .obj [])]
    FloatsOk fvDemo v ∧ parseText fvDemo (dumpChars v) = some v
      ∧ parseText fvDemo (canonChars v) = some (canon v) := by
  intro v
  have hv : FloatsOk fvDemo v := (floatsOk_iff fvDemo v).mpr (by decide +kernel)
  exact ⟨hv, dump_parses_back fvDemo hv, canonText_parses_back fvDemo hv⟩

end Signac.C01
