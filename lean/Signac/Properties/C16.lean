/-
  C16 — export then import reproduces the project; nothing dropped, merged or misplaced.
  The property theorems; their predicates are in Signac/Proofs/IEProps.lean, helper lemmas in
  Signac/Proofs/IE*.lean, the model in Signac/ImportExport.lean (which mirrors the code after the
  F-16a/b/c/d/f fix commits, see its header).

  Objects: a job is `(id, files)`, a file `(relative path components, Content)`; the state point
  file, the document file and all other files are ordinary members.  `hash` (state point ↦ id) is
  arbitrary in every theorem; the driver instantiates it with `calcId` (C01).
-/
import Signac.Extracted
import Signac.ImportExport
import Signac.Proofs.IEChecks
import Signac.Proofs.IERoundtrip
import Signac.Proofs.IEFrame
import Signac.Proofs.IESchema
namespace Signac.C16
open Signac Signac.IE

/-! ### export: what the checks guarantee, where the members go -/

/-- "Export rejects non-unique or leaf/node-conflicting paths": a path list that passes
    `_check_path_function_unique` and the (two-pass) `_check_directory_structure_validity` is
    injective, and component-wise no path is a prefix of another. -/
theorem export_checks_sound (ps : List String) (hu : checkUnique ps = true) (hl : checkLeafNode ps = true) :
    ps.Nodup ∧ PrefixFree (ps.map splitSlash) :=
  ⟨checkUnique_nodup ps hu, checks_sound ps hu hl⟩

/-- The same for `_export_jobs` as a whole, on the places the paths denote: whenever it gets as far
    as copying, every normalised path is relative and below the target (not absolute, no leading
    `..`), the normalised paths are prefix-free (so `a`, `a/`, `a/.` cannot coexist), and the target
    root itself is only used by a single job. -/
theorem export_accepts_sound (spec : PathSpec) (jobs : List (String × JVal)) (ps : List String)
    (h : exportPaths spec jobs = .ok ps) :
    (∀ n ∈ ps.map normpath, escapes n = false)
    ∧ PrefixFree ((ps.map normpath).map splitSlash)
    ∧ ("." ∈ ps.map normpath → ps.length ≤ 1) := by
  have hcn := (exportPaths_eq_ok_iff.mp h).2.2
  simp only [checkNormalized, Bool.and_eq_true, Bool.not_eq_eq_eq_not, Bool.not_true] at hcn
  obtain ⟨⟨⟨hesc, hu⟩, hroot⟩, hl⟩ := hcn
  refine ⟨fun n hmem => Bool.of_not_eq_true (List.any_eq_false.mp hesc n hmem), checks_sound _ hu hl, ?_⟩
  intro hdot
  rw [List.contains_iff_mem.mpr hdot] at hroot
  simpa only [Bool.true_and, decide_eq_false_iff_not, Nat.not_lt, List.length_map] using hroot

/-- The one-pass check of the pinned tree was weaker (F-16c, repaired): it accepts a node that comes
    before its leaf although the two-pass check rejects the pair. -/
theorem coded_leafnode_check_is_order_dependent :
    checkLeafNodeCoded [] ["a", "a/x"] = true ∧ checkLeafNodeCoded [] ["a/x", "a"] = false
    ∧ checkLeafNode ["a", "a/x"] = false := by decide

/-- The zip analyser of the pinned tree was wrong too (F-16a, repaired): by its string test the
    directory `a/10` lies inside the job directory `a/1`, and `relpath` then places the member
    `a/10/f` outside that job's workspace directory.  The component-wise test does not fire. -/
theorem coded_zip_prefix_test_is_wrong :
    zipPolicyCoded.test [["a", "1"]] ["a", "10"] = true
    ∧ zipPolicy.test [["a", "1"]] ["a", "10"] = false
    ∧ (filesUnderCoded ["a", "1"] [(["a", "10", "f"], .blob 0)]).map (·.1) = [["..", "10", "f"]]
    ∧ (filesUnder ["a", "1"] [(["a", "10", "f"], .blob 0)]).map (·.1) = [] := by decide +kernel

/-- Export writes only beneath its target, and only copies: every member is a file of some
    exported job, placed below that job's path. -/
theorem export_under_target (P : Project) (ds : List Comps) :
    ∀ m ∈ exportMembers P ds, ∃ j d f, (j, d) ∈ P.zip ds ∧ (f, m.2) ∈ j.files ∧ m.1 = d ++ f :=
  exportMembers_under P ds

/-- Nothing is dropped on export: every file (state point file, document, data) of every job is a member. -/
theorem export_complete (P : Project) (ds : List Comps) :
    ∀ e ∈ P.zip ds, ∀ fc ∈ e.1.files, (e.2 ++ fc.1, fc.2) ∈ exportMembers P ds :=
  exportMembers_complete P ds

/-! ### export ∘ import = identity -/

/-- zip: importing the exported members into an empty project gives back exactly the exported
    jobs.  `_partial`: under the extra hypotheses `NoNestedSp` and — for zip only, known finding
    F-16e: `copytree_to_zip` does not store empty directories — `NoEmptyDirs`. -/
theorem valid_paths_roundtrip_zip_partial (hash : JVal → String) (P : Project) (ds : List Comps)
    (hlen : P.length = ds.length) (hwf : WF hash P) (hnn : NoNestedSp P) (hne : NoEmptyDirs P)
    (hpf : PrefixFree ds) (order : List Comps) :
    (importFrom .zip hash .none [] P ds order).err = none
    ∧ ProjEquiv (importFrom .zip hash .none [] P ds order).proj P :=
  have G := goodExport_of hwf hpf
  importFrom_zip_roundtrip hwf hpf hlen hne
    (finds_of_noNested G (noNestedE_of hnn) zipPolicy_below (zipDirs_roots G).1) order

/-- tar (and compressed tar): the same. -/
theorem valid_paths_roundtrip_tar_partial (hash : JVal → String) (P : Project) (ds : List Comps)
    (hlen : P.length = ds.length) (hwf : WF hash P) (hnn : NoNestedSp P) (hpf : PrefixFree ds)
    (order : List Comps) :
    (importFrom .tar hash .none [] P ds order).err = none
    ∧ ProjEquiv (importFrom .tar hash .none [] P ds order).proj P :=
  importFrom_tar_roundtrip hwf hpf hlen order

/-- directory: the same, for every order in which `os.walk` may visit the directories of the
    exported tree (any duplicate-free order that reaches every job directory). -/
theorem valid_paths_roundtrip_dir_partial (hash : JVal → String) (P : Project) (ds : List Comps)
    (hlen : P.length = ds.length) (hne : P ≠ []) (hwf : WF hash P) (hnn : NoNestedSp P) (hpf : PrefixFree ds)
    (order : List Comps) (hnd : order.Nodup) (hall : ∀ d ∈ ds, d ∈ order) :
    (importFrom .dir hash .none [] P ds order).err = none
    ∧ ProjEquiv (importFrom .dir hash .none [] P ds order).proj P :=
  importFrom_dir_roundtrip hwf hpf hlen hne
    (finds_of_noNested (goodExport_of hwf hpf) (noNestedE_of hnn) zipPolicy_below hnd) hnd
    fun e he => hall e.2 (mem_zip_snd he)

/-- the model's own visiting order is duplicate-free and reaches every job directory -/
theorem walkOrder_admissible (hash : JVal → String) (P : Project) (ds : List Comps)
    (hwf : WF hash P) (hnn : NoNestedSp P) (hpf : PrefixFree ds) :
    (walkOrder (exportMembers P ds)).Nodup ∧ ∀ e ∈ P.zip ds, e.2 ∈ walkOrder (exportMembers P ds) :=
  walkOrder_roots (goodExport_of hwf hpf)

/-- An empty project exported to a directory creates nothing; the import refuses the origin before
    it touches the destination ("or the call raises before any job has been copied"). -/
theorem empty_dir_export_raises_first (hash : JVal → String) (schema : Schema) (dst : Project)
    (ds order : List Comps) :
    importFrom .dir hash schema dst [] ds order = ⟨dst, some .valueError, []⟩ := rfl

/-- The full statement (neither `NoNestedSp` nor `NoEmptyDirs`; directories visited parents first, as
    `sorted` / `os.walk` do). -/
def valid_paths_roundtrip_full : Prop :=
  ∀ (hash : JVal → String) (P : Project) (ds : List Comps) (t : Target),
    P.length = ds.length → (t = .dir → P ≠ []) → WF hash P → PrefixFree ds →
    (importFrom t hash .none [] P ds (walkOrder (exportMembers P ds))).err = none
    ∧ ProjEquiv (importFrom t hash .none [] P ds (walkOrder (exportMembers P ds))).proj P

private def hE : JVal → String := fun _ => "e"
private def jE : Job := ⟨"e", [([fnSp], .sp .null), (["emptydir"], .dir)]⟩

/-- It is FALSE of the model, as it is of the code (F-16e, known finding): a job with an empty
    sub-directory comes back from a zip archive without it. -/
theorem valid_paths_roundtrip_full_false : ¬ valid_paths_roundtrip_full := by
  intro h
  have h' := h hE [jE] [[]] .zip rfl (fun hh => nomatch hh)
    ⟨by decide +kernel, List.forall_mem_singleton.mpr ⟨.null, lookupFile_cons_self .., rfl⟩, by decide +kernel⟩
    (List.pairwise_singleton _ _)
  have hmem := (h'.2.1 jE).mpr List.mem_cons_self
  have hlen : ∀ j ∈ (importFrom .zip hE .none [] [jE] [[]] (walkOrder (exportMembers [jE] [[]]))).proj,
      j.files.length = 1 := by decide +kernel
  exact absurd (hlen jE hmem) (by decide)

/-- The statement without `NoNestedSp` but with `NoEmptyDirs` for zip: a job may hold, in a
    sub-directory, a file called `signac_statepoint.json` (e.g. a copy of another job's directory).
    As literally stated it is false of the model for zip and directory targets, for a reason that is
    an artefact of the model's path type and not a defect of signac
    (`valid_paths_roundtrip_nested_false`); `valid_paths_roundtrip` is the statement that holds. -/
def valid_paths_roundtrip_nested : Prop :=
  ∀ (hash : JVal → String) (P : Project) (ds : List Comps) (t : Target),
    P.length = ds.length → (t = .dir → P ≠ []) → (t = .zip → NoEmptyDirs P) → WF hash P → PrefixFree ds →
    (importFrom t hash .none [] P ds (walkOrder (exportMembers P ds))).err = none
    ∧ ProjEquiv (importFrom t hash .none [] P ds (walkOrder (exportMembers P ds))).proj P

/-- the same for one target kind -/
def valid_paths_roundtrip_nested_at (t : Target) : Prop :=
  ∀ (hash : JVal → String) (P : Project) (ds : List Comps),
    P.length = ds.length → (t = .dir → P ≠ []) → (t = .zip → NoEmptyDirs P) → WF hash P → PrefixFree ds →
    (importFrom t hash .none [] P ds (walkOrder (exportMembers P ds))).err = none
    ∧ ProjEquiv (importFrom t hash .none [] P ds (walkOrder (exportMembers P ds))).proj P

private def hN : JVal → String
  | .null => "root"
  | _ => "inner"

/-- one job, exported to the target root, that holds a directory whose NAME IS THE EMPTY STRING with a
    (foreign) state point file in it, listed before the job's own state point file -/
private def jN : Job := ⟨"root", [(["", fnSp], .sp (.int 1)), ([fnSp], .sp .null)]⟩

private theorem jN_wf : WF hN [jN] :=
  ⟨by decide +kernel,
    List.forall_mem_singleton.mpr
      ⟨.null, (lookupFile_cons_ne (p := [fnSp]) (q := ["", fnSp]) (fun h => nomatch (List.cons.inj h).2) ..).trans
        (lookupFile_cons_self ..), rfl⟩,
    by decide +kernel⟩

private theorem jN_nodirs : NoEmptyDirs [jN] := by
  unfold NoEmptyDirs
  decide

private theorem jN_contra {r : ImportResult} (hids : r.proj.map (·.id) = ["inner", "root"])
    (heq : ProjEquiv r.proj [jN]) : False := by
  have hmem : "inner" ∈ r.proj.map (·.id) := hids ▸ List.mem_cons_self
  rcases List.mem_map.mp hmem with ⟨j, hj, hid⟩
  cases List.mem_singleton.mp ((heq.1 j).mp hj)
  exact absurd hid (by decide)

/-- zip: FALSE of the model.  Witness `jN` at the target root: the directory list of the zip
    analyser is `{"" (the directory named ""), "" (the root)}`; both have the joined name `""`, `sorted`
    cannot order them, the model's stable sort keeps the order of the member list and visits the
    directory named `""` first — before the root has been identified — reads the state point file
    in it and imports it as a second job `inner`.  No file system or archive written by signac can
    contain a directory named `""`; this is an artefact of `Comps = List String`, not a defect. -/
theorem valid_paths_roundtrip_nested_zip_false : ¬ valid_paths_roundtrip_nested_at .zip := by
  intro h
  have h' := h hN [jN] [[]] rfl (fun hh => nomatch hh) (fun _ => jN_nodirs) jN_wf (List.pairwise_singleton _ _)
  exact jN_contra (by decide +kernel) h'.2

/-- directory: FALSE of the model, same witness: `walkOrder` (= `sorted`) is not a top-down order
    when a directory is named `""`. -/
theorem valid_paths_roundtrip_nested_dir_false : ¬ valid_paths_roundtrip_nested_at .dir := by
  intro h
  have h' := h hN [jN] [[]] rfl (fun _ => List.cons_ne_nil _ _) (fun hh => nomatch hh) jN_wf
    (List.pairwise_singleton _ _)
  exact jN_contra (by decide +kernel) h'.2

theorem valid_paths_roundtrip_nested_false : ¬ valid_paths_roundtrip_nested :=
  fun h => valid_paths_roundtrip_nested_zip_false (fun hash P ds => h hash P ds .zip)

/-- tar (and compressed tar) WITHOUT `NoNestedSp` and without any condition on names: nested state
    point files are harmless.  Every sub-directory of a job directory is a member of the archive, comes
    after its parent in `sorted` order, and is skipped because its parent was identified or skipped. -/
theorem valid_paths_roundtrip_tar (hash : JVal → String) (P : Project) (ds : List Comps)
    (hlen : P.length = ds.length) (hwf : WF hash P) (hpf : PrefixFree ds) (order : List Comps) :
    (importFrom .tar hash .none [] P ds order).err = none
    ∧ ProjEquiv (importFrom .tar hash .none [] P ds order).proj P :=
  importFrom_tar_roundtrip hwf hpf hlen order

theorem valid_paths_roundtrip_nested_tar : valid_paths_roundtrip_nested_at .tar :=
  fun hash P ds hlen _ _ hwf hpf => valid_paths_roundtrip_tar hash P ds hlen hwf hpf _

/-- All target kinds WITHOUT `NoNestedSp`.  `_partial`: the extra hypothesis is exactly
    `[] ∈ ds → TopNamed P` — if a job is exported to the target root, no entry of a job has the empty
    string as its first path component (which no real file has).  The visiting order is the sorted
    (parents first) one; this is what makes the nested state point files harmless: the job directory
    is identified first and nothing below it is looked at. -/
theorem valid_paths_roundtrip_partial (hash : JVal → String) (P : Project) (ds : List Comps) (t : Target)
    (hlen : P.length = ds.length) (hne : t = .dir → P ≠ []) (hnd : t = .zip → NoEmptyDirs P)
    (hwf : WF hash P) (hpf : PrefixFree ds) (htop : [] ∈ ds → TopNamed P) :
    (importFrom t hash .none [] P ds (walkOrder (exportMembers P ds))).err = none
    ∧ ProjEquiv (importFrom t hash .none [] P ds (walkOrder (exportMembers P ds))).proj P := by
  have G := goodExport_of hwf hpf
  cases t with
  | tar => exact importFrom_tar_roundtrip hwf hpf hlen _
  | zip => exact importFrom_zip_roundtrip hwf hpf hlen (hnd rfl) (finds_zipDirs G (topNamedE_of htop)) _
  | dir =>
    exact importFrom_dir_roundtrip hwf hpf hlen (hne rfl) (finds_walkOrder G (topNamedE_of htop))
      (walkOrder_roots G).1 (walkOrder_roots G).2

/-- No extra hypothesis when no job is exported to the target root itself. -/
theorem valid_paths_roundtrip_subdirs (hash : JVal → String) (P : Project) (ds : List Comps) (t : Target)
    (hlen : P.length = ds.length) (hne : t = .dir → P ≠ []) (hnd : t = .zip → NoEmptyDirs P)
    (hwf : WF hash P) (hpf : PrefixFree ds) (hroot : [] ∉ ds) :
    (importFrom t hash .none [] P ds (walkOrder (exportMembers P ds))).err = none
    ∧ ProjEquiv (importFrom t hash .none [] P ds (walkOrder (exportMembers P ds))).proj P :=
  valid_paths_roundtrip_partial hash P ds t hlen hne hnd hwf hpf (fun h => absurd h hroot)

/-- In particular: every project with at least two jobs (prefix-free paths cannot contain the root
    then) — heterogeneous and nested state points, documents, nested files, nested state point
    files, all target kinds. -/
theorem valid_paths_roundtrip_multi (hash : JVal → String) (P : Project) (ds : List Comps) (t : Target)
    (hlen : P.length = ds.length) (h2 : 2 ≤ P.length) (hnd : t = .zip → NoEmptyDirs P)
    (hwf : WF hash P) (hpf : PrefixFree ds) :
    (importFrom t hash .none [] P ds (walkOrder (exportMembers P ds))).err = none
    ∧ ProjEquiv (importFrom t hash .none [] P ds (walkOrder (exportMembers P ds))).proj P := by
  refine valid_paths_roundtrip_subdirs hash P ds t hlen ?_ hnd hwf hpf (root_not_mem_of_two hpf (hlen ▸ h2))
  intro _ hP
  rw [hP] at h2
  cases h2

/-- directory, ANY admissible visiting order, without `NoNestedSp` and without any condition on
    names: for every `order` that is duplicate-free, lists parents before children (`ParentsFirst`;
    `os.walk(topdown=True)` always does, whatever the listing order inside each directory) and
    reaches every job directory, the import gives back the project.  A nested state point file is
    harmless because its job directory is visited — and identified — before anything below it. -/
theorem valid_paths_roundtrip_dir_anyorder (hash : JVal → String) (P : Project) (ds : List Comps)
    (hlen : P.length = ds.length) (hne : P ≠ []) (hwf : WF hash P) (hpf : PrefixFree ds)
    (order : List Comps) (hnd : order.Nodup) (hpar : ParentsFirst order) (hall : ∀ d ∈ ds, d ∈ order) :
    (importFrom .dir hash .none [] P ds order).err = none
    ∧ ProjEquiv (importFrom .dir hash .none [] P ds order).proj P :=
  have hall' : ∀ e ∈ P.zip ds, e.2 ∈ order := fun e he => hall e.2 (mem_zip_snd he)
  importFrom_dir_roundtrip hwf hpf hlen hne
    (finds_zip (goodExport_of hwf hpf) hnd hall' (hpar.noBadPair _)) hnd hall'

/-- the model's own visiting order (`sorted`) is such an order: duplicate-free, parents first, and
    it reaches every job directory — when no path component is empty (`PathsWF`, and the first
    component of every export path) -/
theorem walkOrder_admissible_nested (hash : JVal → String) (P : Project) (ds : List Comps)
    (hwf : WF hash P) (hp : PathsWF P) (hds : ∀ d ∈ ds, d.head? ≠ some "") (hpf : PrefixFree ds) :
    (walkOrder (exportMembers P ds)).Nodup ∧ ParentsFirst (walkOrder (exportMembers P ds))
    ∧ ∀ e ∈ P.zip ds, e.2 ∈ walkOrder (exportMembers P ds) :=
  have h := walkOrder_roots (goodExport_of hwf hpf)
  ⟨h.1, walkOrder_export_parentsFirst hp hds, h.2⟩

/-- HEADLINE.  For every well-formed project (distinct ids, every job directory holds its state point
    file, no empty path component), every prefix-free path list and every target kind (directory,
    zip, tar / compressed tar): export followed by import into an empty project raises nothing and
    gives back the same jobs — ids, state point files, documents, all files, nested state point files
    included.  (zip: under `NoEmptyDirs`, known finding F-16e; directory: a non-empty project, an
    empty one creates nothing and the import refuses the origin, `empty_dir_export_raises_first`.) -/
theorem valid_paths_roundtrip (hash : JVal → String) (P : Project) (ds : List Comps) (t : Target)
    (hlen : P.length = ds.length) (hne : t = .dir → P ≠ []) (hnd : t = .zip → NoEmptyDirs P)
    (hwf : WF hash P) (hp : PathsWF P) (hpf : PrefixFree ds) :
    (importFrom t hash .none [] P ds (walkOrder (exportMembers P ds))).err = none
    ∧ ProjEquiv (importFrom t hash .none [] P ds (walkOrder (exportMembers P ds))).proj P :=
  valid_paths_roundtrip_partial hash P ds t hlen hne hnd hwf hpf (fun _ => topNamed_of_pathsWF hp)

/-! ### import never overwrites, never leaves the job directories -/

/-- zip: if the export contains a job whose id the destination already holds, the import raises
    DestinationExistsError before anything is copied: destination unchanged, nothing written. -/
theorem import_no_overwrite_zip (hash : JVal → String) (P : Project) (ds : List Comps) (dst : Project)
    (hwf : WF hash P) (hnn : NoNestedSp P) (hne : NoEmptyDirs P) (hpf : PrefixFree ds)
    (hex : ∃ e ∈ P.zip ds, hasId e.1.id dst = true) (order : List Comps) :
    importFrom .zip hash .none dst P ds order = ⟨dst, some .destinationExists, []⟩ :=
  have G := goodExport_of hwf hpf
  importFrom_zip_exists hwf hpf hex hne
    (finds_of_noNested G (noNestedE_of hnn) zipPolicy_below (zipDirs_roots G).1) order

theorem import_no_overwrite_tar (hash : JVal → String) (P : Project) (ds : List Comps) (dst : Project)
    (hwf : WF hash P) (hnn : NoNestedSp P) (hpf : PrefixFree ds)
    (hex : ∃ e ∈ P.zip ds, hasId e.1.id dst = true) (order : List Comps) :
    importFrom .tar hash .none dst P ds order = ⟨dst, some .destinationExists, []⟩ :=
  importFrom_tar_exists hwf hpf hex order

/-- directory: the crawl is lazy (jobs found earlier have been copied), but it does raise
    DestinationExistsError, and by `import_safe_dir` the existing job is untouched. -/
theorem import_no_overwrite_dir (hash : JVal → String) (P : Project) (ds : List Comps) (dst : Project)
    (hwf : WF hash P) (hnn : NoNestedSp P) (hpf : PrefixFree ds)
    (hex : ∃ e ∈ P.zip ds, hasId e.1.id dst = true)
    (order : List Comps) (hnd : order.Nodup) (hall : ∀ d ∈ ds, d ∈ order) :
    (importFrom .dir hash .none dst P ds order).err = some .destinationExists :=
  importFrom_dir_exists hwf hpf hex
    (finds_of_noNested (goodExport_of hwf hpf) (noNestedE_of hnn) zipPolicy_below hnd)
    fun e he => hall e.2 (mem_zip_snd he)

/-- zip WITHOUT `NoNestedSp`: the extra hypothesis is `[] ∈ ds → TopNamed P` (only when a job sits at
    the target root: no entry with the empty string as first path component). -/
theorem import_no_overwrite_zip_nested (hash : JVal → String) (P : Project) (ds : List Comps) (dst : Project)
    (hwf : WF hash P) (hne : NoEmptyDirs P) (hpf : PrefixFree ds) (htop : [] ∈ ds → TopNamed P)
    (hex : ∃ e ∈ P.zip ds, hasId e.1.id dst = true) (order : List Comps) :
    importFrom .zip hash .none dst P ds order = ⟨dst, some .destinationExists, []⟩ :=
  importFrom_zip_exists hwf hpf hex hne (finds_zipDirs (goodExport_of hwf hpf) (topNamedE_of htop)) order

/-- tar WITHOUT `NoNestedSp`, nothing extra. -/
theorem import_no_overwrite_tar_nested (hash : JVal → String) (P : Project) (ds : List Comps) (dst : Project)
    (hwf : WF hash P) (hpf : PrefixFree ds)
    (hex : ∃ e ∈ P.zip ds, hasId e.1.id dst = true) (order : List Comps) :
    importFrom .tar hash .none dst P ds order = ⟨dst, some .destinationExists, []⟩ :=
  importFrom_tar_exists hwf hpf hex order

/-- directory WITHOUT `NoNestedSp`, any admissible visiting order (duplicate-free, parents first,
    reaching every job directory), nothing extra. -/
theorem import_no_overwrite_dir_nested (hash : JVal → String) (P : Project) (ds : List Comps) (dst : Project)
    (hwf : WF hash P) (hpf : PrefixFree ds)
    (hex : ∃ e ∈ P.zip ds, hasId e.1.id dst = true)
    (order : List Comps) (hnd : order.Nodup) (hpar : ParentsFirst order) (hall : ∀ d ∈ ds, d ∈ order) :
    (importFrom .dir hash .none dst P ds order).err = some .destinationExists :=
  have hall' : ∀ e ∈ P.zip ds, e.2 ∈ order := fun e he => hall e.2 (mem_zip_snd he)
  importFrom_dir_exists hwf hpf hex (finds_zip (goodExport_of hwf hpf) hnd hall' (hpar.noBadPair _)) hall'

/-- directory WITHOUT `NoNestedSp`, the model's own (sorted) visiting order: `[] ∈ ds → TopNamed P`. -/
theorem import_no_overwrite_dir_walk_nested (hash : JVal → String) (P : Project) (ds : List Comps)
    (dst : Project) (hwf : WF hash P) (hpf : PrefixFree ds) (htop : [] ∈ ds → TopNamed P)
    (hex : ∃ e ∈ P.zip ds, hasId e.1.id dst = true) :
    (importFrom .dir hash .none dst P ds (walkOrder (exportMembers P ds))).err = some .destinationExists :=
  have G := goodExport_of hwf hpf
  importFrom_dir_exists hwf hpf hex (finds_walkOrder G (topNamedE_of htop)) (walkOrder_roots G).2

/-- All target kinds, no extra hypothesis, for projects with two or more jobs (no job can sit at the
    target root then): the import raises DestinationExistsError. -/
theorem import_no_overwrite_multi (hash : JVal → String) (P : Project) (ds : List Comps) (dst : Project)
    (t : Target) (hlen : P.length = ds.length) (h2 : 2 ≤ P.length) (hnd : t = .zip → NoEmptyDirs P)
    (hwf : WF hash P) (hpf : PrefixFree ds) (hex : ∃ e ∈ P.zip ds, hasId e.1.id dst = true) :
    (importFrom t hash .none dst P ds (walkOrder (exportMembers P ds))).err = some .destinationExists := by
  have hroot : [] ∈ ds → TopNamed P := fun h => absurd h (root_not_mem_of_two hpf (hlen ▸ h2))
  cases t with
  | zip => rw [import_no_overwrite_zip_nested hash P ds dst hwf (hnd rfl) hpf hroot hex]
  | tar => rw [import_no_overwrite_tar_nested hash P ds dst hwf hpf hex]
  | dir => exact import_no_overwrite_dir_walk_nested hash P ds dst hwf hpf hroot hex

/-- All target kinds, well-formed paths (`PathsWF`): the import raises DestinationExistsError; for zip and
    tar before anything is copied (destination unchanged, nothing written). -/
theorem import_no_overwrite (hash : JVal → String) (P : Project) (ds : List Comps) (dst : Project)
    (t : Target) (hnd : t = .zip → NoEmptyDirs P) (hwf : WF hash P) (hp : PathsWF P) (hpf : PrefixFree ds)
    (hex : ∃ e ∈ P.zip ds, hasId e.1.id dst = true) :
    (importFrom t hash .none dst P ds (walkOrder (exportMembers P ds))).err = some .destinationExists
    ∧ (t ≠ .dir → importFrom t hash .none dst P ds (walkOrder (exportMembers P ds))
                    = ⟨dst, some .destinationExists, []⟩) := by
  have hroot : [] ∈ ds → TopNamed P := fun _ => topNamed_of_pathsWF hp
  cases t with
  | zip =>
    have := import_no_overwrite_zip_nested hash P ds dst hwf (hnd rfl) hpf hroot hex
      (walkOrder (exportMembers P ds))
    exact ⟨by rw [this], fun _ => this⟩
  | tar =>
    have := import_no_overwrite_tar_nested hash P ds dst hwf hpf hex (walkOrder (exportMembers P ds))
    exact ⟨by rw [this], fun _ => this⟩
  | dir =>
    exact ⟨import_no_overwrite_dir_walk_nested hash P ds dst hwf hpf hroot hex, fun h => absurd rfl h⟩

/-- zip, any archive / schema / destination: if the import raises at all, it raised during the
    analysis — nothing has been copied, nothing written. -/
theorem raise_before_copy_zip (hash : JVal → String) (schema : Schema) (dst : Project)
    (files : List (Comps × Content)) (h : (importZip hash schema dst files).err ≠ none) :
    (importZip hash schema dst files).proj = dst ∧ (importZip hash schema dst files).writes = [] := by
  unfold importZip at h ⊢
  dsimp only at h ⊢
  split
  · exact ⟨rfl, rfl⟩
  · split
    · exact ⟨rfl, rfl⟩
    · rename_i maps heq hids
      rw [heq] at h
      simp only [hids] at h
      exact absurd (zipCopy_spec files maps ⟨dst, none, []⟩).2 h

/-- what "safe" means for an import result `r` into `dst` from an archive holding `files` -/
def ImportSafe (_files : List (Comps × Content)) (dst : Project) (r : ImportResult) : Prop :=
  (∀ j ∈ dst, j ∈ r.proj)                                  -- existing jobs are still there, unchanged
  ∧ (r.proj.map (·.id)).Nodup                              -- and no id was added a second time
  ∧ ∀ w ∈ r.writes, ∃ id rel, w = wsName :: id :: rel      -- every write is workspace/<id>/<rel>
      ∧ hasId id dst = false                               --   of a job that was not there before
      ∧ ".." ∉ rel                                         --   and stays below it

theorem importSafe_of_safe {files : List (Comps × Content)} {dst : Project} {r : ImportResult}
    (h : Safe files dst r) (hfiles : ∀ fc ∈ files, ".." ∉ fc.1) : ImportSafe files dst r := by
  refine ⟨?_, h.nodup, fun w hw => frame_no_dotdot (h.frame w hw) hfiles⟩
  intro j hj
  rcases h.keeps with ⟨extra, hex⟩
  rw [hex]
  exact List.mem_append_left _ hj

/-- For EVERY zip member list, schema and destination (not only exports): import never overwrites
    an existing job and never writes outside `workspace/<new id>/`. -/
theorem import_safe_zip (hash : JVal → String) (schema : Schema) (dst : Project)
    (files : List (Comps × Content)) (hdst : (dst.map (·.id)).Nodup) (hfiles : ∀ fc ∈ files, ".." ∉ fc.1) :
    ImportSafe files dst (importZip hash schema dst files) :=
  importSafe_of_safe (importZip_safe hash files dst schema hdst) hfiles

theorem import_safe_tar (hash : JVal → String) (schema : Schema) (dst : Project)
    (files : List (Comps × Content)) (dirs : List Comps) (hdst : (dst.map (·.id)).Nodup)
    (hfiles : ∀ fc ∈ files, ".." ∉ fc.1) :
    ImportSafe files dst (importTar hash schema dst files dirs) :=
  importSafe_of_safe (importTar_safe hash files dst schema dirs hdst) hfiles

theorem import_safe_dir (hash : JVal → String) (schema : Schema) (dst : Project)
    (files : List (Comps × Content)) (order : List Comps) (hdst : (dst.map (·.id)).Nodup)
    (hfiles : ∀ fc ∈ files, ".." ∉ fc.1) :
    ImportSafe files dst (importDir hash schema dst files order) :=
  importSafe_of_safe (importDir_safe hash files dst schema order hdst) hfiles

/-! ### schema strings -/

/-- "A schema string parses back the path layout it describes": for every schema (literal and
    `{key[:type]}` components) and every state point whose addressed values are ints, word-like
    strings, bools or floats with `float(repr x) = x`, the path the layout produces exists and
    parses back to exactly the addressed values, re-nested. -/
theorem schema_string_roundtrip (sc : List SComp) (sp : JVal) (h : AllRepresentable sc sp) :
    ∃ cs, formatPath sc sp = some cs
      ∧ parsePath sc cs = (match nestFlat (fieldVals sc sp) [] with
                           | some kvs => some (.obj kvs)
                           | none => none) := by
  rcases parseFlat_formatPath sc sp h with ⟨cs, hcs, hp⟩
  exact ⟨cs, hcs, by rw [parsePath, hp]; rfl⟩

/-- The usual case spelled out: the fields of the schema are exactly the (distinct, dot-free) keys of a
    flat state point, in order.  Then the path parses back to the state point itself. -/
theorem schema_string_roundtrip_flat (sc : List SComp) (kvs : List (String × JVal))
    (hkeys : sc.filterMap fldKey = kvs.map (·.1)) (hnd : (kvs.map (·.1)).Nodup)
    (hnodot : ∀ kv ∈ kvs, '.' ∉ kv.1.toList) (hrep : AllRepresentable sc (.obj kvs)) :
    ∃ cs, formatPath sc (.obj kvs) = some cs ∧ parsePath sc cs = some (.obj kvs) := by
  rcases schema_string_roundtrip sc (.obj kvs) hrep with ⟨cs, h1, h2⟩
  refine ⟨cs, h1, ?_⟩
  rw [h2, fieldVals_flat kvs hnodot sc hnd hkeys, nestFlat_flat kvs [] hnd hnodot]
  rfl

/-- the patterns and names the hand-written matchers stand for are the ones of the running package -/
theorem extracted_constants_pinned :
    Extracted.RE_TYPES = [("bool", "\\w+"), ("float", "[+-]?([0-9]*[\\.])?[0-9]+"),
                          ("int", "[+-]?[0-9]+"), ("str", "\\w+")]
    ∧ Extracted.DOT_MAGIC_WORD = "__DOT__"
    ∧ Extracted.FN_STATE_POINT = "signac_statepoint.json" := ⟨rfl, rfl, rfl⟩

/-! ### non-vacuity -/

private def h0 : JVal → String
  | .obj [(_, .int 1)] => "one"
  | _ => "other"

private def j1 : Job := ⟨"one", [([fnSp], .sp (.obj [("a", .int 1)])), (["sub", "f.txt"], .blob 1)]⟩
private def j2 : Job := ⟨"other", [([fnSp], .sp (.obj [("a", .int 10)])), (["signac_job_document.json"], .blob 2)]⟩

/-- a two-job project with a nested file and a document, exported to `a/1` and `a/10` -/
private theorem ex_good : WF h0 [j1, j2] ∧ NoNestedSp [j1, j2] ∧ PrefixFree [["a", "1"], ["a", "10"]]
    ∧ [j1, j2].length = [["a", "1"], ["a", "10"]].length ∧ [j1, j2] ≠ [] :=
  ⟨⟨by decide +kernel,
      List.forall_mem_cons.mpr ⟨⟨_, lookupFile_cons_self .., rfl⟩,
        List.forall_mem_singleton.mpr ⟨_, lookupFile_cons_self .., rfl⟩⟩,
      by decide +kernel⟩,
    noNestedSp_of_getLast (by decide +kernel), by unfold PrefixFree; decide +kernel, rfl, List.cons_ne_nil _ _⟩

example : WF h0 [j1, j2] ∧ NoNestedSp [j1, j2] ∧ PrefixFree [["a", "1"], ["a", "10"]]
    ∧ [j1, j2].length = [["a", "1"], ["a", "10"]].length ∧ [j1, j2] ≠ [] := ex_good

private theorem ex_nodirs : NoEmptyDirs [j1, j2] := by
  unfold NoEmptyDirs
  decide

example : NoEmptyDirs [j1, j2] := ex_nodirs

/-- job `one` holding a copy of the directory of job `other` (state point file and document) -/
private def j3 : Job := ⟨"one", [([fnSp], .sp (.obj [("a", .int 1)])),
  (["copy_of_other", fnSp], .sp (.obj [("a", .int 10)])),
  (["copy_of_other", "signac_job_document.json"], .blob 2)]⟩

/-- hypotheses of `valid_paths_roundtrip_partial` / `_multi` on a project that violates `NoNestedSp`:
    they hold, and the nested copy is not imported as a job of its own -/
private theorem ex_nested : WF h0 [j3, j2] ∧ ¬ NoNestedSp [j3, j2] ∧ NoEmptyDirs [j3, j2]
    ∧ TopNamed [j3, j2] ∧ PrefixFree [["a", "1"], ["a", "10"]] := by
  refine ⟨⟨by decide +kernel,
      List.forall_mem_cons.mpr ⟨⟨_, lookupFile_cons_self .., rfl⟩,
        List.forall_mem_singleton.mpr ⟨_, lookupFile_cons_self .., rfl⟩⟩,
      by decide +kernel⟩, fun h => ?_, by unfold NoEmptyDirs; decide +kernel, by unfold TopNamed; decide +kernel,
    ex_good.2.2.1⟩
  cases h j3 List.mem_cons_self (["copy_of_other", fnSp], .sp (.obj [("a", .int 10)]))
    (List.mem_cons_of_mem _ List.mem_cons_self) ["copy_of_other"] rfl

example (t : Target) :
    (importFrom t h0 .none [] [j3, j2] [["a", "1"], ["a", "10"]]
        (walkOrder (exportMembers [j3, j2] [["a", "1"], ["a", "10"]]))).err = none
    ∧ ProjEquiv (importFrom t h0 .none [] [j3, j2] [["a", "1"], ["a", "10"]]
        (walkOrder (exportMembers [j3, j2] [["a", "1"], ["a", "10"]]))).proj [j3, j2] :=
  valid_paths_roundtrip_multi h0 [j3, j2] [["a", "1"], ["a", "10"]] t rfl (by decide)
    (fun _ => ex_nested.2.2.1) ex_nested.1 ex_nested.2.2.2.2

/-- hypothesis `PathsWF` of `valid_paths_roundtrip` / `import_no_overwrite` / `walkOrder_admissible_nested` -/
private theorem ex_pathswf : PathsWF [j3, j2] := by
  unfold PathsWF
  decide +kernel

example (t : Target) :
    (importFrom t h0 .none [] [j3, j2] [["a", "1"], ["a", "10"]]
        (walkOrder (exportMembers [j3, j2] [["a", "1"], ["a", "10"]]))).err = none
    ∧ ProjEquiv (importFrom t h0 .none [] [j3, j2] [["a", "1"], ["a", "10"]]
        (walkOrder (exportMembers [j3, j2] [["a", "1"], ["a", "10"]]))).proj [j3, j2] :=
  valid_paths_roundtrip h0 [j3, j2] [["a", "1"], ["a", "10"]] t rfl (by intro _; simp)
    (fun _ => ex_nested.2.2.1) ex_nested.1 ex_pathswf ex_nested.2.2.2.2

private theorem mem_j3 {j : Job} (hj : j ∈ [j3]) : j ∈ [j3, j2] :=
  List.mem_singleton.mp hj ▸ List.mem_cons_self

/-- `valid_paths_roundtrip` with a job AT THE TARGET ROOT that holds a nested state point file
    (the case in which `TopNamed` matters) -/
example (t : Target) :
    (importFrom t h0 .none [] [j3] [[]] (walkOrder (exportMembers [j3] [[]]))).err = none
    ∧ ProjEquiv (importFrom t h0 .none [] [j3] [[]] (walkOrder (exportMembers [j3] [[]]))).proj [j3] :=
  valid_paths_roundtrip h0 [j3] [[]] t rfl (by intro _; simp)
    (fun _ j hj => ex_nested.2.2.1 j (mem_j3 hj))
    ⟨by decide +kernel, fun j hj => ex_nested.1.sp j (mem_j3 hj), fun j hj => ex_nested.1.nonempty j (mem_j3 hj)⟩
    (fun j hj => ex_pathswf j (mem_j3 hj))
    (List.pairwise_singleton _ _)

/-- hypotheses of `valid_paths_roundtrip_dir_anyorder` / `import_no_overwrite_dir_nested`: an
    `os.walk` order that is NOT sorted (`a/10` listed before `a/1`) -/
private def exOrder : List Comps :=
  [[], ["a"], ["a", "10"], ["a", "1"], ["a", "1", "copy_of_other"]]

private theorem ex_order : exOrder.Nodup ∧ ParentsFirst exOrder
    ∧ ∀ d ∈ [["a", "1"], ["a", "10"]], d ∈ exOrder := by
  refine ⟨by decide +kernel, ?_, by decide +kernel⟩
  unfold ParentsFirst
  decide +kernel

example :
    (importFrom .dir h0 .none [] [j3, j2] [["a", "1"], ["a", "10"]] exOrder).err = none
    ∧ ProjEquiv (importFrom .dir h0 .none [] [j3, j2] [["a", "1"], ["a", "10"]] exOrder).proj [j3, j2] :=
  valid_paths_roundtrip_dir_anyorder h0 [j3, j2] [["a", "1"], ["a", "10"]] rfl (by simp)
    ex_nested.1 ex_nested.2.2.2.2 exOrder ex_order.1 ex_order.2.1 ex_order.2.2

/-- hypotheses of `walkOrder_admissible_nested` -/
example : (walkOrder (exportMembers [j3, j2] [["a", "1"], ["a", "10"]])).Nodup
    ∧ ParentsFirst (walkOrder (exportMembers [j3, j2] [["a", "1"], ["a", "10"]]))
    ∧ ∀ e ∈ [j3, j2].zip [["a", "1"], ["a", "10"]],
        e.2 ∈ walkOrder (exportMembers [j3, j2] [["a", "1"], ["a", "10"]]) :=
  walkOrder_admissible_nested h0 [j3, j2] [["a", "1"], ["a", "10"]] ex_nested.1 ex_pathswf
    (by decide) ex_nested.2.2.2.2

/-- hypothesis of `import_no_overwrite_*_nested`: the destination already holds a job `one`, the
    export holds job `one` with a nested copy of job `other` -/
private theorem ex_clash : ∃ e ∈ [j3, j2].zip [["a", "1"], ["a", "10"]], hasId e.1.id [j1] = true :=
  ⟨(j3, ["a", "1"]), List.mem_cons_self, by decide⟩

example (order : List Comps) :
    importFrom .zip h0 .none [j1] [j3, j2] [["a", "1"], ["a", "10"]] order
      = ⟨[j1], some .destinationExists, []⟩ :=
  import_no_overwrite_zip_nested h0 [j3, j2] [["a", "1"], ["a", "10"]] [j1] ex_nested.1 ex_nested.2.2.1
    ex_nested.2.2.2.2 (fun _ => ex_nested.2.2.2.1) ex_clash order

example (order : List Comps) :
    importFrom .tar h0 .none [j1] [j3, j2] [["a", "1"], ["a", "10"]] order
      = ⟨[j1], some .destinationExists, []⟩ :=
  import_no_overwrite_tar_nested h0 [j3, j2] [["a", "1"], ["a", "10"]] [j1] ex_nested.1
    ex_nested.2.2.2.2 ex_clash order

example :
    (importFrom .dir h0 .none [j1] [j3, j2] [["a", "1"], ["a", "10"]] exOrder).err
      = some .destinationExists :=
  import_no_overwrite_dir_nested h0 [j3, j2] [["a", "1"], ["a", "10"]] [j1] ex_nested.1
    ex_nested.2.2.2.2 ex_clash exOrder ex_order.1 ex_order.2.1 ex_order.2.2

example :
    (importFrom .dir h0 .none [j1] [j3, j2] [["a", "1"], ["a", "10"]]
      (walkOrder (exportMembers [j3, j2] [["a", "1"], ["a", "10"]]))).err = some .destinationExists :=
  import_no_overwrite_dir_walk_nested h0 [j3, j2] [["a", "1"], ["a", "10"]] [j1] ex_nested.1
    ex_nested.2.2.2.2 (fun _ => ex_nested.2.2.2.1) ex_clash

example (t : Target) :
    (importFrom t h0 .none [j1] [j3, j2] [["a", "1"], ["a", "10"]]
      (walkOrder (exportMembers [j3, j2] [["a", "1"], ["a", "10"]]))).err = some .destinationExists :=
  import_no_overwrite_multi h0 [j3, j2] [["a", "1"], ["a", "10"]] [j1] t rfl (by decide)
    (fun _ => ex_nested.2.2.1) ex_nested.1 ex_nested.2.2.2.2 ex_clash

example (t : Target) :
    (importFrom t h0 .none [j1] [j3, j2] [["a", "1"], ["a", "10"]]
      (walkOrder (exportMembers [j3, j2] [["a", "1"], ["a", "10"]]))).err = some .destinationExists :=
  (import_no_overwrite h0 [j3, j2] [["a", "1"], ["a", "10"]] [j1] t
    (fun _ => ex_nested.2.2.1) ex_nested.1 ex_pathswf ex_nested.2.2.2.2 ex_clash).1

/-- hypotheses of `export_checks_sound` / `export_accepts_sound` -/
example : checkUnique ["a/1", "a/10", "b"] = true ∧ checkLeafNode ["a/1", "a/10", "b"] = true := by
  decide +kernel

/-- hypothesis of `export_accepts_sound`: an accepted export whose second path is not in normal form;
    and the repaired checks refuse `..`, absolute paths and `b` next to `b/.` -/
example : exportPaths (.call ["a/1", "b/"]) [("i", .null), ("j", .null)] = .ok ["a/1", "b/"]
    ∧ checkNormalized (["../y", "z"].map normpath) = false
    ∧ checkNormalized (["/abs", "z"].map normpath) = false
    ∧ checkNormalized (["b", "b/."].map normpath) = false
    ∧ checkNormalized (["", "z"].map normpath) = false :=
  ⟨exportPaths_eq_ok_iff.mpr ⟨rfl, rfl, by decide +kernel⟩, by decide +kernel⟩

/-- hypothesis of `import_no_overwrite_*`: the destination already holds job "one" -/
example : ∃ e ∈ [j1, j2].zip [["a", "1"], ["a", "10"]], hasId e.1.id [j1] = true :=
  ⟨(j1, ["a", "1"]), List.mem_cons_self, by decide⟩

/-- hypothesis of `raise_before_copy_zip`: that import does raise -/
example : (importZip h0 .none [j1] (zipMembers [j1, j2] [["a", "1"], ["a", "10"]])).err ≠ none := by
  have := import_no_overwrite_zip h0 [j1, j2] [["a", "1"], ["a", "10"]] [j1] ex_good.1 ex_good.2.1 ex_nodirs
    ex_good.2.2.1 ⟨(j1, ["a", "1"]), List.mem_cons_self, by decide⟩ []
  rw [importFrom] at this
  rw [this]
  exact fun h => nomatch h

/-- hypotheses of `import_safe_*` -/
example : ([j1].map (·.id)).Nodup ∧ ∀ fc ∈ exportMembers [j1, j2] [["a", "1"], ["a", "10"]], ".." ∉ fc.1 := by
  decide +kernel

/-- hypothesis of `schema_string_roundtrip`: schema `a/{a:int}/n_x/{n.x:bool}/{s}` on a nested state point -/
example : AllRepresentable [.lit "a", .fld "a" .int, .lit "n_x", .fld "n.x" .bool, .fld "s" .str]
    (.obj [("a", .int (-7)), ("n", .obj [("x", .bool true)]), ("s", .str "x_1")]) := by
  intro k ty hm
  simp only [List.mem_cons, List.not_mem_nil, or_false, reduceCtorEq, SComp.fld.injEq, false_or] at hm
  rcases hm with ⟨rfl, rfl⟩ | ⟨rfl, rfl⟩ | ⟨rfl, rfl⟩
  · exact ⟨.int (-7), rfl, -7, rfl⟩
  · exact ⟨.bool true, rfl, true, rfl⟩
  · exact ⟨.str "x_1", rfl, "x_1", rfl, by decide +kernel⟩

/-- hypotheses of `schema_string_roundtrip_flat`: schema `a/{a:int}/{s}/{b:bool}` -/
example : ([.lit "a", .fld "a" .int, .fld "s" .str, .fld "b" .bool] : List SComp).filterMap fldKey
      = [("a", JVal.int 3), ("s", .str "x_1"), ("b", .bool false)].map (·.1)
    ∧ ([("a", JVal.int 3), ("s", .str "x_1"), ("b", .bool false)].map (·.1)).Nodup
    ∧ (∀ kv ∈ [("a", JVal.int 3), ("s", .str "x_1"), ("b", .bool false)], '.' ∉ kv.1.toList)
    ∧ AllRepresentable [.lit "a", .fld "a" .int, .fld "s" .str, .fld "b" .bool]
        (.obj [("a", .int 3), ("s", .str "x_1"), ("b", .bool false)]) := by
  refine ⟨rfl, by decide +kernel, by decide +kernel, ?_⟩
  · intro k ty hm
    simp only [List.mem_cons, List.not_mem_nil, or_false, reduceCtorEq, SComp.fld.injEq, false_or] at hm
    rcases hm with ⟨rfl, rfl⟩ | ⟨rfl, rfl⟩ | ⟨rfl, rfl⟩
    · exact ⟨.int 3, rfl, 3, rfl⟩
    · exact ⟨.str "x_1", rfl, "x_1", rfl, by decide +kernel⟩
    · exact ⟨.bool false, rfl, false, rfl⟩

end Signac.C16
