/-
  C02 — initialised jobs persist and reopen exactly; opening is lazy.
  Model: Signac.Workspace (open / init / open by id or prefix).
-/
import Signac.Proofs.WsOps
namespace Signac.C02
open Signac Signac.Ws

variable (hash : JVal → String)

/-- open_job(sp) writes nothing: no job of either project changes. -/
theorem open_is_lazy (w : World) (h : String) (p : Nat) (sp : JVal) :
    (step hash w (.openSp h p sp)).1.p0 = w.p0 ∧ (step hash w (.openSp h p sp)).1.p1 = w.p1 :=
  ⟨rfl, rfl⟩

/-- The handle carries the value given at the time of the call (a copy: nothing else in the
    world refers to the caller's mapping). -/
theorem open_takes_value (w : World) (h : String) (p : Nat) (sp : JVal) :
    ∃ g, alookup h (step hash w (.openSp h p sp)).1.handles = some ⟨p, sp, g⟩ :=
  ⟨w.nextGrp, alookup_aset_self _ _ _⟩

/-- After init() the project holds a job under the hash of the state point; if it was not there
    before, its state point is exactly the handle's, its document and files are empty. -/
theorem init_creates (w : World) (h : String) (hd : Handle) (hh : alookup h w.handles = some hd) :
    (step hash w (.init h)).2 = .ok ∧
    ∃ jd, alookup (hash hd.sp) ((step hash w (.init h)).1.jobs hd.proj) = some jd ∧
      (alookup (hash hd.sp) (w.jobs hd.proj) = none → jd = ⟨hd.sp, [], []⟩) := by
  rw [step_init hh]
  refine ⟨rfl, ?_⟩
  cases hl : alookup (hash hd.sp) (w.jobs hd.proj) with
  | some jd => exact ⟨jd, by rw [ensure_of_some hl]; exact hl, fun h => nomatch h⟩
  | none =>
    refine ⟨⟨hd.sp, [], []⟩, ?_, fun _ => rfl⟩
    rw [ensure_of_none hl, jobs_setJobs_same, alookup_append_new, hl]
    exact if_pos rfl

/-- init() on an initialised job is the identity on the whole world (never rewrites). -/
theorem init_existing_identity (w : World) (h : String) (hd : Handle) (jd : JobData)
    (hh : alookup h w.handles = some hd) (hl : alookup (hash hd.sp) (w.jobs hd.proj) = some jd) :
    step hash w (.init h) = (w, .ok) := by
  rw [step_init hh, ensure_of_some hl]

/-- init() is idempotent. -/
theorem init_idempotent (w : World) (h : String) (hd : Handle) (hh : alookup h w.handles = some hd) :
    step hash (step hash w (.init h)).1 (.init h) = step hash w (.init h) := by
  obtain ⟨_, jd, hjd, _⟩ := init_creates hash w h hd hh
  rw [step_init hh] at hjd ⊢
  exact init_existing_identity hash _ h hd jd ((ensure_handles w hd).symm ▸ hh) hjd

/-- Which ids a prefix selects. -/
theorem prefix_matches_spec (pre : String) (js : Jobs) (i : String) :
    i ∈ prefixMatches pre js ↔ i ∈ js.map Prod.fst ∧ pre.toList.isPrefixOf i.toList = true := by
  unfold prefixMatches
  exact List.mem_filter

/-- A prefix (shorter than a full id) that selects exactly one job opens that job, with the
    stored state point; no job changes. -/
theorem prefix_unique (w : World) (h : String) (p : Nat) (pre i : String) (jd : JobData)
    (hlen : pre.length < 32) (hm : prefixMatches pre (w.jobs p) = [i])
    (hl : alookup i (w.jobs p) = some jd) :
    (step hash w (.openId h p pre none)).2 = .okId i ∧
    (∃ g, alookup h (step hash w (.openId h p pre none)).1.handles = some ⟨p, jd.sp, g⟩) ∧
    (step hash w (.openId h p pre none)).1.p0 = w.p0 ∧ (step hash w (.openId h p pre none)).1.p1 = w.p1 := by
  have e : step hash w (.openId h p pre none) =
      (newHandle { w with handles := aerase h w.handles } h p jd.sp, .okId i) := by
    dsimp only [step]
    rw [if_pos hlen, hm]
    dsimp only
    rw [hl]
  rw [e]
  exact ⟨rfl, ⟨w.nextGrp, alookup_aset_self _ _ _⟩, rfl, rfl⟩

/-- Several matches: LookupError, nothing changes. -/
theorem prefix_ambiguous (w : World) (h : String) (p : Nat) (pre a b : String) (rest : List String)
    (hlen : pre.length < 32) (hm : prefixMatches pre (w.jobs p) = a :: b :: rest) :
    (step hash w (.openId h p pre none)).2 = .lookupError ∧
    (step hash w (.openId h p pre none)).1.p0 = w.p0 ∧ (step hash w (.openId h p pre none)).1.p1 = w.p1 := by
  refine ⟨?_, handle_ops_keep_jobs w _ rfl⟩
  dsimp only [step]
  rw [if_pos hlen, hm]

/-- No match (and nothing cached): KeyError, nothing changes. -/
theorem prefix_none (w : World) (h : String) (p : Nat) (pre : String)
    (hlen : pre.length < 32) (hm : prefixMatches pre (w.jobs p) = []) :
    (step hash w (.openId h p pre none)).2 = .keyError ∧
    (step hash w (.openId h p pre none)).1.p0 = w.p0 ∧ (step hash w (.openId h p pre none)).1.p1 = w.p1 := by
  refine ⟨?_, handle_ops_keep_jobs w _ rfl⟩
  dsimp only [step]
  rw [if_pos hlen, hm]

/-- A full-length id: found iff it is a job; unknown id ⇒ KeyError. -/
theorem full_id (w : World) (h : String) (p : Nat) (id : String) (hlen : ¬ id.length < 32) :
    (∀ jd, alookup id (w.jobs p) = some jd → (step hash w (.openId h p id none)).2 = .okId id) ∧
    (alookup id (w.jobs p) = none → (step hash w (.openId h p id none)).2 = .keyError) := by
  constructor
  · intro jd hl
    dsimp only [step]
    rw [if_neg hlen, hl, if_pos Option.isSome_some]
    dsimp only
    rw [hl]
  · intro hl
    dsimp only [step]
    rw [if_neg hlen, hl]
    rfl

/- non-vacuity: three jobs, two of whose ids (here: canonical texts) share a prefix -/
example :
    let w := run (fun v => canonText v) World.empty
      [.openSp "a" 0 (.obj [("n", .int 1)]), .init "a", .openSp "b" 0 (.obj [("n", .int 12)]), .init "b",
       .openSp "c" 0 (.obj [("m", .int 0)]), .init "c"]
    (prefixMatches "{\"n\": 1" (w.jobs 0)).length = 2 ∧ (prefixMatches "{\"n\": 12" (w.jobs 0)).length = 1 ∧
    (prefixMatches "{\"x" (w.jobs 0)).length = 0 := by decide +kernel

end Signac.C02
