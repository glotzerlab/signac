/-
  C20 — incompatible schema versions are refused, and migration preserves every job.
  Property theorems only; helper lemmas live in Signac/Proofs/MigChain.lean, MigGate.lean,
  PyIntLemmas.lean, DiscoverySLemmas.lean, MigrationSLemmas.lean.  Closed facts (test vectors,
  listed trees) are evaluated with `decide +kernel`, see the note in Properties/C19.lean.

  `Disc.*` is the model of Project() / get_project / init_project (Signac/Discovery.lean);
  `Mig.*` the model of apply_migrations on a project root directory (Signac/Migration.lean).
  `SCHEMA` is `Signac.Extracted.SCHEMA_VERSION`, regenerated from the running package.
-/
import Signac.Extracted
import Signac.Migration
import Signac.Discovery
import Signac.Proofs.MigChain
import Signac.Proofs.MigGate
import Signac.PyInt
import Signac.Proofs.PyIntLemmas
import Signac.DiscoveryS
import Signac.Proofs.DiscoverySLemmas
import Signac.MigrationS
import Signac.Proofs.MigrationSLemmas
namespace Signac.C20
open Signac Signac.Mig Signac.Disc

/-- The gate lets exactly the supported version through. -/
theorem gate_exact (v : Nat) : gate v = .ok ↔ v = SCHEMA := gate_ok_iff v

/-- Current layout (`.signac/config`) declaring any other version (an absent key counts as 1):
    Project(), get_project (searching or not) and init_project all raise
    IncompatibleSchemaVersion and perform no mutating step.  Every version number, every tree. -/
theorem gate_refuses (t : Tree) (p : Path) (v : Option Nat) (hc : t.cfg p = some v)
    (hv : v.getD 1 ≠ SCHEMA) (hk : t.kind p ≠ .absent) :
    openProject t p = (.error .incompatible, [])
    ∧ (∀ s, getProject t p s = (.error .incompatible, []))
    ∧ initProject t p = (.error .incompatible, []) :=
  ⟨openProject_wrongVersion hc hv, getProject_refused hc hv hk, initProject_refused hc hv hk⟩

/-- Legacy layout (`signac.rc`, no `.signac/config`) declaring any version other than the
    supported one: Project() and init_project raise IncompatibleSchemaVersion without a mutating
    step; get_project never returns the directory as a project — it raises LookupError without
    search, and IncompatibleSchemaVersion with search unless an initialised project encloses
    the directory (then that one is what discovery is about, C19). -/
theorem gate_refuses_legacy (t : Tree) (p : Path) (v : Nat) (hc : t.cfg p = none)
    (hr : t.rc p = some v) (hv : v ≠ SCHEMA) :
    openProject t p = (.error .incompatible, [])
    ∧ initProject t p = (.error .incompatible, [])
    ∧ getProject t p false = (.error .lookup, [])
    ∧ (t.kind p ≠ .absent → (∀ r, r <:+ p → isProject t r = false) →
        getProject t p true = (.error .incompatible, []))
    ∧ (∀ s, (getProject t p s).1 ≠ .ok p) :=
  ⟨openProject_legacy hr hv hc, initProject_legacy hr hv hc, getProject_nosearch_of_not_project (by rw [isProject, hc]; rfl),
   getProject_search_legacy hr hv, getProject_ne_ok_of_noConfig hc⟩

/-- Migrating a well-formed legacy project (version 0 or 1, any project name, default or custom
    workspace directory, with or without cache / history files) that does not collide: the
    chain succeeds, the result passes the gate, and a reader sees exactly the same job data
    (the subtree that was the configured workspace is now `workspace`, untouched); the v1 cache
    and history files arrive byte-identical at their v2 places; every other entry of the root,
    and everything else, is untouched; the project name (unless the default "None") is in the
    project document whose other keys are unchanged; no lock file is left. -/
theorem migrate_preserves (L : Proj) (c : Conf) (name : String) (wf : WellFormed L c name)
    (hcol : ¬ Collides L c) :
    let P := (applyMigrations L).1
    (applyMigrations L).2 = .ok
    ∧ (openVersion P).map gate = some .ok
    ∧ jobsOf P = jobsOf L
    ∧ P.cacheNew = (if L.cacheOld.isSome then L.cacheOld else L.cacheNew)
    ∧ P.histNew = (if L.histOld.isSome then L.histOld else L.histNew)
    ∧ (∀ k, k ≠ wsName c → k ≠ "workspace" → P.ents.lookup k = L.ents.lookup k)
    ∧ P.rest = L.rest ∧ P.lock = false ∧ P.rc = none
    ∧ (name = "None" → P.doc = L.doc)
    ∧ (name ≠ "None" → ∃ d, P.doc = some d ∧ d.lookup "signac_project_name" = some (.str name)
        ∧ ∀ k, k ≠ "signac_project_name" → d.lookup k = (L.doc.getD []).lookup k) := by
  intro P
  have h := applyMigrations_wf L c name wf hcol
  rw [show P = migrated L c name from congrArg Prod.fst h, h]
  refine ⟨rfl, rfl, ?_, rfl, rfl, fun k h1 h2 => ?_, rfl, rfl, rfl,
    fun hn => if_neg (Decidable.not_not.mpr hn),
    fun hn => ⟨_, if_pos hn, (lookup_docSet ..).trans (if_pos rfl),
      fun k hk => (lookup_docSet ..).trans (if_neg hk)⟩⟩
  · simp only [jobsOf, migrated, wf.cfg, wf.rc]
    by_cases hw : wsName c = "workspace"
    · rw [if_neg (Decidable.not_not.mpr hw), hw]
    · rw [if_pos hw]
      refine lookup_renameEnt_dst _ _ _ ?_
      cases hl : L.ents.lookup "workspace" with
      | none => rfl
      | some b => exact absurd ⟨hw, by rw [hasEnt, hl]; rfl⟩ hcol
  · simp only [migrated]
    by_cases hw : wsName c = "workspace"
    · rw [if_neg (Decidable.not_not.mpr hw)]
    · rw [if_pos hw]; exact lookup_renameEnt_other _ _ _ _ h1 h2

/-- A configured workspace directory that would have to replace an existing `workspace`:
    the migration fails and moves nothing — entries, documents, cache, history and everything
    else are as before; only the 0 → 1 version bump may have been written to `signac.rc`. -/
theorem migrate_refuses_collision (L : Proj) (c : Conf) (name : String) (hrc : L.rc = some c)
    (hp : c.project = some name) (hv : c.version.getD 0 ≤ 1) (hcfg : L.cfg = none)
    (hcol : Collides L c) :
    applyMigrations L =
      ({ L with lock := false, rc := some { c with version := some 1 } }, .failed 2) :=
  applyMigrations_collision L c name hrc hp hv hcfg hcol

/-- Migrating an up-to-date project is a no-op. -/
theorem migrate_uptodate_noop (L : Proj) (c : Conf) (hcfg : L.cfg = some c)
    (hv : c.version = some SCHEMA) (hl : L.lock = false) : applyMigrations L = (L, .ok) := by
  rw [applyMigrations_uptodate L c hcfg hv, unlock_eq hl]

/-- Migrating twice = migrating once. -/
theorem migrate_idempotent (L : Proj) (c : Conf) (name : String) (wf : WellFormed L c name)
    (hcol : ¬ Collides L c) :
    applyMigrations (applyMigrations L).1 = ((applyMigrations L).1, .ok) := by
  rw [applyMigrations_wf L c name wf hcol]
  exact migrate_uptodate_noop _ _ rfl (by rw [schema_eq]) rfl

/-- A project written by a newer signac is refused by the migration as well, untouched. -/
theorem migrate_refuses_newer (L : Proj) (v : Nat) (hl : L.lock = false)
    (hd : detect { L with lock := true } SCHEMA = some v) (hv : v > SCHEMA) :
    applyMigrations L = (L, .tooNew) := by
  rw [applyMigrations_tooNew L v hd hv, unlock_eq hl]

/-- The chain the model hard-wires is the one the running package registers. -/
theorem chain_tie :
    Extracted.MIGRATION_KEYS = [(0, 1), (1, 2)] ∧ Extracted.CONFIG_LOADER_VERSIONS = [1, 2]
    ∧ Extracted.SCHEMA_VERSION = 2 ∧ Extracted.PROJECT_CONFIG_FN = ".signac/config"
    ∧ Extracted.FN_CACHE = ".signac/statepoint_cache.json.gz" := by decide +kernel

/-! ### non-vacuity -/

/-- a version-0 project named "my project" with custom workspace `data/ws`, cache and history,
    an unrelated directory and an existing project document -/
def exLegacy : Proj :=
  { rc := some { version := none, project := some "my project", wsDir := some "data/ws" }
    cfg := none, dotSignac := false
    ents := [("other", "o1"), ("data/ws", "jobs-digest")]
    doc := some [("k", .int 1)]
    cacheOld := some "cache-bytes", histOld := some "history-bytes"
    cacheNew := none, histNew := none, lock := false, rest := "rest-digest" }

def exConf : Conf := { version := none, project := some "my project", wsDir := some "data/ws" }

example : WellFormed exLegacy exConf "my project" ∧ ¬ Collides exLegacy exConf :=
  ⟨⟨rfl, rfl, by decide, rfl, rfl, fun _ => by decide⟩, by unfold Collides; decide⟩

/-- and the model really moves it -/
example : jobsOf (applyMigrations exLegacy).1 = some "jobs-digest"
    ∧ (applyMigrations exLegacy).1.cacheNew = some "cache-bytes" := by decide +kernel

/-- the same project with something already called `workspace` collides -/
example : Collides { exLegacy with ents := ("workspace", "precious") :: exLegacy.ents } exConf := by
  unfold Collides; decide

/-- gate hypotheses: versions 0, 1, 3, 10 and an absent key are all refused -/
example : ∀ v ∈ [some 0, some 1, some 3, some 10, none], (v : Option Nat).getD 1 ≠ SCHEMA := by decide

example : (2 : Nat) = SCHEMA ∧ gate 2 = .ok := by decide

/-! ### the version is a STRING in the config file

`schema_version` is a string (configspec `string(default='1')`) that the code converts with
Python's `int()`.  `PyInt.pyInt` models that conversion for ASCII input (`none` = ValueError),
`PyInt.gateStr` the whole of `_check_schema_compatibility` on the string.  Helper lemmas:
Signac/Proofs/PyIntLemmas.lean. -/
open Signac.PyInt

/-- Every version number the code itself writes (`config["schema_version"] = destination`,
    `str` of an int) parses back to that number. -/
theorem pyInt_repr (n : Nat) : pyInt (toString n) = some n := pyInt_toString n

/-- `int("-" + str(n)) == -n`: negative literals are integers for `int()` (and are refused by the
    gate as versions, see `gateStr_declared`). -/
theorem pyInt_neg_repr (n : Nat) : pyInt ("-" ++ toString n) = some (-(n : Int)) :=
  pyInt_neg_toString n

/-- The string gate lets exactly the strings through that `int()` reads as the supported version. -/
theorem gateStr_exact (s : String) : gateStr s = .ok ↔ pyInt s = some (SCHEMA : Int) :=
  gateStr_ok_iff s

/-- … every other string is refused: ValueError if it is not an integer literal,
    IncompatibleSchemaVersion otherwise. -/
theorem gateStr_refuses (s : String) (h : pyInt s ≠ some (SCHEMA : Int)) : gateStr s ≠ .ok :=
  fun hg => h ((gateStr_exact s).mp hg)

/-- which of the two refusals -/
theorem gateStr_refusal (s : String) (h : pyInt s ≠ some (SCHEMA : Int)) :
    gateStr s = (if pyInt s = none then .valueError else .incompatible) :=
  gateStr_of_ne s h

/-- On the strings the code writes, the string gate is the `Nat` gate of the rest of the model. -/
theorem gateStr_nat (n : Nat) :
    gateStr (toString n) = (match gate n with | .ok => .ok | .incompatible => .incompatible) :=
  gateStr_toString n

/-- More generally: on every string that `int()` reads as a natural number (leading zeros, a
    `+`, underscores, surrounding blanks) the string gate is the `Nat` gate on that number; every
    other string (not an integer literal, or negative) is refused. -/
theorem gateStr_declared (s : String) :
    (∀ n, declared s = some n →
      gateStr s = (match gate n with | .ok => .ok | .incompatible => .incompatible))
    ∧ (declared s = none → gateStr s ≠ .ok) :=
  ⟨fun n h => gateStr_of_declared s n h, gateStr_of_not_declared s⟩

/-- `int()` accepts nothing but ASCII digits, underscores, a sign and the six ASCII blanks. -/
theorem pyInt_digits_only (s : String) (v : Int) (h : pyInt s = some v) :
    ∀ c ∈ s.toList, c.isDigit = true ∨ c = '_' ∨ c = '+' ∨ c = '-' ∨ isWs c = true :=
  pyInt_chars s v h

/-- so a string with any other character — a dot, an exponent, a letter, a NUL, any non-ASCII
    character — is a ValueError, never a version -/
theorem pyInt_rejects (s : String) (c : Char) (hc : c ∈ s.toList) (h1 : c.isDigit = false)
    (h2 : c ≠ '_') (h3 : c ≠ '+') (h4 : c ≠ '-') (h5 : isWs c = false) : pyInt s = none := by
  cases h : pyInt s with
  | none => rfl
  | some v =>
    rcases pyInt_digits_only s v h c hc with e | e | e | e | e
    · rw [h1] at e; cases e
    · exact absurd e h2
    · exact absurd e h3
    · exact absurd e h4
    · rw [h5] at e; cases e

/-- "2.1" (or "2.0") can never be read as 2 -/
theorem pyInt_no_dot (s : String) (h : '.' ∈ s.toList) : pyInt s = none :=
  pyInt_rejects s '.' h (by decide) (by decide) (by decide) (by decide) (by decide)

/-- a config declaring "2.1" or "2.0": `_check_schema_compatibility` raises ValueError -/
theorem gateStr_no_dot (s : String) (h : '.' ∈ s.toList) : gateStr s = .valueError := by
  unfold gateStr; rw [pyInt_no_dot s h]

/-- outside the ASCII range the model refuses everything (CPython accepts Unicode digits and
    blanks there: a stated boundary of the model, see Signac/PyInt.lean) -/
theorem pyInt_non_ascii (s : String) (c : Char) (hc : c ∈ s.toList) (h : 128 ≤ c.toNat) :
    pyInt s = none := by
  have hd : c.isDigit = false := by
    cases hd : c.isDigit with
    | false => rfl
    | true =>
      simp only [Char.isDigit, Bool.and_eq_true, decide_eq_true_eq] at hd
      have := UInt32.le_iff_toNat_le.mp hd.2
      simp only [Char.toNat] at h
      have h57 : ('9' : Char).val.toNat = 57 := by decide
      omega
  have hne : ∀ d : Char, d.toNat < 128 → c ≠ d := fun d hd e => by subst e; omega
  exact pyInt_rejects s c hc hd (hne _ (by decide)) (hne _ (by decide)) (hne _ (by decide))
    (Bool.eq_false_iff.mpr fun hw => by have := toNat_le_of_isWs hw; omega)

/-- the digit limit of CPython ≥ 3.11 (`sys.set_int_max_str_digits`, default 4300, minimum 640)
    only ever turns an accepted string into a ValueError, and not below 640 digits: in
    particular every version number below 10^640 still parses back, under every setting -/
theorem pyIntLim_sound (lim : Nat) (s : String) :
    (∀ v, pyIntLim lim s = some v → pyInt s = some v)
    ∧ (digitCount s ≤ 640 → pyIntLim lim s = pyInt s)
    ∧ (∀ n : Nat, n < 10 ^ 640 → pyIntLim lim (toString n) = some n) :=
  ⟨fun v h => pyIntLim_some lim s v h, pyIntLim_of_le lim s, fun n h => pyIntLim_toString lim n h⟩

/-! examples (Python: `int("2") == 2`, `int("02") == 2`, …, `int("2.1")` ValueError, …) -/
example : pyInt "2" = some 2 := by decide +kernel
example : pyInt "02" = some 2 := by decide +kernel
example : pyInt "+2" = some 2 := by decide +kernel
example : pyInt " 2\n" = some 2 := by decide +kernel
example : pyInt "\t\x0b\x0c 2 \r" = some 2 := by decide +kernel
example : pyInt "2_0" = some 20 := by decide +kernel
example : pyInt "-2" = some (-2) := by decide +kernel
example : pyInt "-0" = some 0 := by decide +kernel
example : pyInt "2.1" = none := by decide +kernel
example : pyInt "2.0" = none := by decide +kernel
example : pyInt "" = none := by decide +kernel
example : pyInt " " = none := by decide +kernel
example : pyInt "+" = none := by decide +kernel
example : pyInt "2__0" = none := by decide +kernel
example : pyInt "_2" = none := by decide +kernel
example : pyInt "+_2" = none := by decide +kernel
example : pyInt "2_" = none := by decide +kernel
example : pyInt "2_ " = none := by decide +kernel
example : pyInt "- 2" = none := by decide +kernel
example : pyInt "+-2" = none := by decide +kernel
example : pyInt "2 0" = none := by decide +kernel
example : pyInt "1e1" = none := by decide +kernel
example : pyInt "0x2" = none := by decide +kernel
example : pyInt "two" = none := by decide +kernel
example : pyInt "\x1c2" = none := by decide +kernel   -- \x1c is `str.isspace` but not `Py_ISSPACE`
example : pyInt "٢" = none := by decide +kernel        -- model boundary: CPython says 2

example : gateStr "2" = .ok ∧ gateStr "02" = .ok ∧ gateStr " +2\n" = .ok ∧ gateStr "0_2" = .ok := by
  decide +kernel
example : gateStr "1" = .incompatible ∧ gateStr "3" = .incompatible ∧ gateStr "2_0" = .incompatible
    ∧ gateStr "-2" = .incompatible := by decide +kernel
example : gateStr "2.1" = .valueError ∧ gateStr "2.0" = .valueError ∧ gateStr "" = .valueError
    ∧ gateStr "two" = .valueError ∧ gateStr "2 0" = .valueError := by decide +kernel
example : declared "02" = some 2 ∧ declared "-2" = none ∧ declared "2.1" = none := by decide +kernel

/-! ### the string travels through discovery

`Disc.Tree` holds version NUMBERS; the files hold strings.  `DiscS.TreeS` (Signac/DiscoveryS.lean)
holds the strings, and `openProjectS` / `getProjectS` / `initProjectS` / `getJobS` are the entry
points with `int()` where the code has it: a string that `int()` rejects is a `ValueError`
(`ErrS.valueError`) leaving the entry point on the spot.  `Denotes ts t`: every version string of
`ts` is an integer literal of the number `t` has there.  Helper lemmas:
Signac/Proofs/DiscoverySLemmas.lean. -/
open Signac.DiscS

/-- Where all version strings are (non-negative) integer literals, the string-level entry points
    return exactly what the numeric ones return on the denoted tree — result and step list; so
    `gate_refuses`, `gate_refuses_legacy` and the C19 theorems speak about such configs.
    (`liftR` only re-reads the numeric error type inside the string-level one.) -/
theorem stringLayer_refines (ts : TreeS) (t : Tree) (h : Denotes ts t) (p : Path) :
    openProjectS ts p = liftR (openProject t p)
    ∧ (∀ s, getProjectS ts p s = liftR (getProject t p s))
    ∧ initProjectS ts p = liftR (initProject t p)
    ∧ getJobS ts p = liftR (getJob t p)
    ∧ locateConfigDirS ts p = liftE (locateConfigDir t p) :=
  ⟨openProjectS_eq h p, getProjectS_eq h p, initProjectS_eq h p, getJobS_eq h p,
   locateConfigDirS_eq h p⟩

/-- Which string trees that covers: exactly those in which every declared version is a
    non-negative integer literal (then the numeric tree is `ts.toTree`, and it is the only one);
    and every numeric tree is covered (write the numbers the way the code does). -/
theorem stringLayer_domain :
    (∀ ts, (∃ t, Denotes ts t) ↔ IntLiterals ts)
    ∧ (∀ ts, IntLiterals ts → Denotes ts ts.toTree)
    ∧ (∀ ts t t', Denotes ts t → Denotes ts t' → t = t')
    ∧ (∀ t, Denotes (ofTree t) t) :=
  ⟨fun ts => ⟨fun ⟨_, h⟩ => intLiterals_of_denotes h, fun h => ⟨_, denotes_toTree ts h⟩⟩,
   denotes_toTree, fun _ _ _ h h' => denotes_unique h h', denotes_ofTree⟩

/-- A refinement result is never a ValueError, and is a project / a numeric error exactly when
    the numeric result is. -/
theorem liftR_faithful {α : Type} (r : Except Err α × List Step) :
    (liftR r).2 = r.2 ∧ (liftR r).1 ≠ .error .valueError
    ∧ (∀ a, (liftR r).1 = .ok a ↔ r.1 = .ok a)
    ∧ (∀ e, (liftR r).1 = .error (.base e) ↔ r.1 = .error e) :=
  ⟨rfl, liftE_ne_valueError r.1, liftE_ok_iff r.1, liftE_base_iff r.1⟩

/-- String-level `gate_refuses`.  ANY string tree, any directory whose `.signac/config` declares
    a string `s` that `int()` does not read as the supported version — an integer literal of
    another number ("1", "3", "-2", "2_0"), or no integer literal at all ("2.1", "2.0", "two",
    "") —: Project(), get_project (searching or not) and init_project raise (`refusal s`:
    ValueError if `int(s)` fails, IncompatibleSchemaVersion otherwise) and perform no mutating
    step.  The upward search of get_project from any existing path whose NEAREST project is that
    directory stops there with the same error: it never skips to an enclosing project (that is
    the code: `_locate_config_dir` returns the first directory holding `.signac/config`, then
    `Project(path)` raises).  Likewise get_job of a path whose job directory sits below it. -/
theorem gate_refuses_strings (ts : TreeS) (p : Path) (s : String)
    (hc : ts.cfgS p = some (some s)) (hv : pyInt s ≠ some (SCHEMA : Int)) :
    openProjectS ts p = (.error (refusal s), [])
    ∧ (ts.kind p ≠ .absent →
        (∀ b, getProjectS ts p b = (.error (refusal s), []))
        ∧ initProjectS ts p = (.error (refusal s), []))
    ∧ (∀ p', ts.kind p' ≠ .absent → NearestS ts p' p →
        getProjectS ts p' true = (.error (refusal s), []))
    ∧ (∀ p' j jp, ts.kind p' ≠ .absent → lastJob p' = some (j, jp) → ts.kind jp = .dir →
        NearestS ts jp.tail p → getJobS ts p' = (.error (refusal s), []))
    ∧ refusal s = (if pyInt s = none then .valueError else .base .incompatible) :=
  ⟨openProjectS_refused ts p (some s) hc hv,
   fun hk => ⟨getProjectS_refused ts p (some s) hc hv hk, initProjectS_refused ts p (some s) hc hv hk⟩,
   fun p' hk hn => getProjectS_refused_below ts p' p (some s) hn hc hv hk,
   fun p' j jp hk hl hd hn => getJobS_refused ts p' p jp j (some s) hk hl hd hn hc hv,
   rfl⟩

/-- The same for a config without the key: the configspec default "1" is what `int()` sees, and
    1 is not the supported version: IncompatibleSchemaVersion, no step. -/
theorem gate_refuses_absent_key (ts : TreeS) (p : Path) (hc : ts.cfgS p = some none) :
    openProjectS ts p = (.error (.base .incompatible), [])
    ∧ (ts.kind p ≠ .absent →
        (∀ b, getProjectS ts p b = (.error (.base .incompatible), []))
        ∧ initProjectS ts p = (.error (.base .incompatible), []))
    ∧ (∀ p', ts.kind p' ≠ .absent → NearestS ts p' p →
        getProjectS ts p' true = (.error (.base .incompatible), [])) :=
  have hr : refusal ((none : Option String).getD "1") = .base .incompatible := by decide +kernel
  ⟨hr ▸ openProjectS_refused ts p none hc default_refused,
   fun hk => ⟨fun b => hr ▸ getProjectS_refused ts p none hc default_refused hk b,
     hr ▸ initProjectS_refused ts p none hc default_refused hk⟩,
   fun p' hk hn => hr ▸ getProjectS_refused_below ts p' p none hn hc default_refused hk⟩

/-- Whatever project a string-level entry point returns, its `.signac/config` HAS the key and the
    string there is one that `int()` reads as the supported version (SCHEMA = 2, so the default
    "1" of an absent key is never accepted: `absent` below).  For init_project: the returned
    project is `p` itself, and either that holds of the config that was there, or the config was
    written by this very call — with `str(SCHEMA_VERSION)`, which `int()` reads back
    (`pyInt_repr`). -/
theorem accepts_only_schema (ts : TreeS) (p q : Path) :
    ((openProjectS ts p).1 = .ok q →
        q = p ∧ ∃ s, ts.cfgS q = some (some s) ∧ pyInt s = some (SCHEMA : Int))
    ∧ (∀ b, (getProjectS ts p b).1 = .ok q →
        q <:+ p ∧ ∃ s, ts.cfgS q = some (some s) ∧ pyInt s = some (SCHEMA : Int))
    ∧ (∀ j, (getJobS ts p).1 = .ok (j, q) →
        ∃ s, ts.cfgS q = some (some s) ∧ pyInt s = some (SCHEMA : Int))
    ∧ ((initProjectS ts p).1 = .ok q →
        q = p ∧ ((∃ s, ts.cfgS p = some (some s) ∧ pyInt s = some (SCHEMA : Int))
                 ∨ (Step.writeConfig p ∈ (initProjectS ts p).2
                    ∧ (afterInitS ts p).cfgS p = some (some (toString SCHEMA)))))
    ∧ (pyInt "1" ≠ some (SCHEMA : Int)) := by
  refine ⟨?_, ?_, ?_, ?_, default_refused⟩
  · intro h
    have := (openProjectS_ok_iff ts p q).mp h
    rw [this.1]; exact ⟨rfl, this.2⟩
  · intro b h; exact getProjectS_accepts ts p q b h
  · intro j h; exact getJobS_accepts ts p j q h
  · intro h
    have := initProjectS_accepts ts p q h
    refine ⟨this.1, ?_⟩
    rcases this.2 with h1 | h1
    · exact Or.inl h1
    · exact Or.inr ⟨h1, by simp [afterInitS]⟩

/-! non-vacuity: a tree with the configs `"2.1"`, `"02"`, `" 2"`, `"3"`, a config without the
    key, and a project `/E` ("2") enclosing a project `/E/inner` ("2.1") -/

def exS : TreeS := TreeS.ofNodes [
  ⟨[], .dir, none, none⟩,
  ⟨["A"], .dir, some (some "2.1"), none⟩,
  ⟨["sub", "A"], .dir, none, none⟩,
  ⟨["B"], .dir, some (some "02"), none⟩,
  ⟨["workspace", "B"], .dir, none, none⟩,
  ⟨["C"], .dir, some (some " 2"), none⟩,
  ⟨["D"], .dir, some (some "3"), none⟩,
  ⟨["N"], .dir, some none, none⟩,
  ⟨["E"], .dir, some (some "2"), none⟩,
  ⟨["workspace", "E"], .dir, none, none⟩,
  ⟨["inner", "E"], .dir, some (some "2.1"), none⟩,
  ⟨["x", "inner", "E"], .dir, none, none⟩,
  ⟨["L"], .dir, none, some (some "1.5")⟩,
  ⟨["M"], .dir, none, some none⟩ ]

/-- hypotheses of `gate_refuses_strings`: "2.1" and "3" (and "two", "", "2.0", "-2") -/
example : exS.cfgS ["A"] = some (some "2.1") ∧ pyInt "2.1" ≠ some (SCHEMA : Int)
    ∧ exS.cfgS ["D"] = some (some "3") ∧ pyInt "3" ≠ some (SCHEMA : Int)
    ∧ pyInt "two" ≠ some (SCHEMA : Int) ∧ pyInt "" ≠ some (SCHEMA : Int)
    ∧ pyInt "2.0" ≠ some (SCHEMA : Int) ∧ pyInt "-2" ≠ some (SCHEMA : Int) := by decide +kernel

/-- which refusal -/
example : refusal "2.1" = .valueError ∧ refusal "3" = .base .incompatible
    ∧ refusal "" = .valueError ∧ refusal "-2" = .base .incompatible := by decide +kernel

/-- "2.1": ValueError from every entry point, nothing touched (the workspace of `/A` is missing
    and is NOT created); from `/A/sub` the search stops at `/A` -/
example : openProjectS exS ["A"] = (.error .valueError, [])
    ∧ getProjectS exS ["A"] true = (.error .valueError, [])
    ∧ getProjectS exS ["A"] false = (.error .valueError, [])
    ∧ initProjectS exS ["A"] = (.error .valueError, [])
    ∧ getProjectS exS ["sub", "A"] true = (.error .valueError, []) :=
  by decide +kernel

/-- "3": IncompatibleSchemaVersion -/
example : openProjectS exS ["D"] = (.error (.base .incompatible), [])
    ∧ initProjectS exS ["D"] = (.error (.base .incompatible), []) := by decide +kernel

/-- "02" and " 2" are accepted (`int("02") == int(" 2") == 2`); `/C` has no workspace yet -/
example : getProjectS exS ["B"] true = (.ok ["B"], [])
    ∧ getProjectS exS ["C"] true = (.ok ["C"], [.mkdir ["workspace", "C"]])
    ∧ initProjectS exS ["B"] = (.ok ["B"], []) := by decide +kernel

/-- a config without the key is version "1": refused -/
example : getProjectS exS ["N"] true = (.error (.base .incompatible), []) := by decide +kernel

/-- the search from `/E/inner/x` stops at `/E/inner` ("2.1") with ValueError although the
    enclosing `/E` ("2") would be accepted; from `/E` itself it is -/
example : NearestS exS ["x", "inner", "E"] ["inner", "E"]
    ∧ getProjectS exS ["x", "inner", "E"] true = (.error .valueError, [])
    ∧ getProjectS exS ["E"] true = (.ok ["E"], []) :=
  ⟨(findProjectS_nearest _ _ _).mp (by decide +kernel), by decide +kernel⟩

/-- a legacy `signac.rc` with `schema_version = 1.5`: ValueError out of `_raise_if_older_schema`
    (it catches RuntimeError only), also from init_project — nothing is written; one without the
    key is version 0: IncompatibleSchemaVersion -/
example : openProjectS exS ["L"] = (.error .valueError, [])
    ∧ getProjectS exS ["L"] true = (.error .valueError, [])
    ∧ initProjectS exS ["L"] = (.error .valueError, [])
    ∧ initProjectS exS ["M"] = (.error (.base .incompatible), []) :=
  by decide +kernel

/-- a tree to which `stringLayer_refines` applies: versions written "02", " 2", "+2", "3", "0_1" -/
def exLit : TreeS := TreeS.ofNodes [
  ⟨[], .dir, none, none⟩,
  ⟨["B"], .dir, some (some "02"), none⟩,
  ⟨["C"], .dir, some (some " 2"), none⟩,
  ⟨["P"], .dir, some (some "+2"), none⟩,
  ⟨["D"], .dir, some (some "3"), none⟩,
  ⟨["N"], .dir, some none, none⟩,
  ⟨["L"], .dir, none, some (some "0_1")⟩ ]

/-- all its version strings are non-negative integer literals -/
theorem exLit_denotes : Denotes exLit exLit.toTree :=
  denotes_toTree _ (intLiterals_ofNodes _ (by decide +kernel))

/-- the numbers it denotes -/
example : exLit.toTree.cfg ["B"] = some (some 2) ∧ exLit.toTree.cfg ["C"] = some (some 2)
    ∧ exLit.toTree.cfg ["P"] = some (some 2) ∧ exLit.toTree.cfg ["D"] = some (some 3)
    ∧ exLit.toTree.cfg ["N"] = some none ∧ exLit.toTree.rc ["L"] = some 1 := by decide +kernel

/-- so the numeric theorems speak about it: e.g. `gate_refuses` on `/D` -/
example : getProjectS exLit ["D"] true = (.error (.base .incompatible), []) := by
  rw [(stringLayer_refines exLit _ exLit_denotes ["D"]).2.1 true,
    (gate_refuses exLit.toTree ["D"] (some 3) (by decide +kernel) (by decide +kernel) (by decide +kernel)).2.1 true]
  rfl

/-- `exS` is outside: "2.1" denotes no number -/
example : ¬ ∃ t, Denotes exS t := by
  rw [stringLayer_domain.1]
  intro h
  exact absurd (h.1 ["A"] "2.1" (by decide +kernel)) (by decide +kernel)

/-! ### the string travels through the migration chain

`MigS.ProjS` (Signac/MigrationS.lean) is `Mig.Proj` with the raw `schema_version` strings;
`applyMigrationsS` is `apply_migrations` with `int()` where `_get_config_schema_version` has it.
Helper lemmas: Signac/Proofs/MigrationSLemmas.lean. -/
open Signac.MigS

/-- Where every declared version is a non-negative integer literal, the string-level chain is the
    numeric chain on the project read as numbers: same resulting project, same result, and the
    result is again in that domain (the code writes `str(destination)`); so `migrate_preserves`,
    `migrate_refuses_collision`, `migrate_uptodate_noop`, `migrate_idempotent`,
    `migrate_refuses_newer` speak about such projects. -/
theorem migrationLayer_refines (PS : ProjS) (h : IntLit PS) :
    (applyMigrationsS PS).1.toProj = (applyMigrations PS.toProj).1
    ∧ (applyMigrationsS PS).2 = .base (applyMigrations PS.toProj).2
    ∧ IntLit (applyMigrationsS PS).1
    ∧ (∀ g, detectS PS g = (match detect PS.toProj g with
        | none => .unable
        | some n => .ver (Int.ofNat n))) :=
  ⟨(applyMigrationsS_toProj PS h).proj, (applyMigrationsS_toProj PS h).result,
   (applyMigrationsS_toProj PS h).lit, detectS_toProj PS h⟩

/-- every numeric project is in the domain -/
theorem migrationLayer_domain (P : Proj) : IntLit (ofProj P) ∧ (ofProj P).toProj = P :=
  ⟨intLit_ofProj P, toProj_ofProj P⟩

/-- A version string that `int()` rejects ("1.0", "2.1", "two", "") in the config file the
    migration reads — `.signac/config` if it is there, else a loadable `signac.rc` —:
    `apply_migrations` raises ValueError; nothing is changed, the lock file is removed. -/
theorem migrate_valueError (PS : ProjS) (c : ConfS) (s : String) (hv : c.version = some s)
    (hs : pyInt s = none)
    (h : PS.cfg = some c ∨ (PS.cfg = none ∧ PS.rc = some c ∧ c.project.isSome = true)) :
    applyMigrationsS PS = ({ PS with lock := false }, .valueError)
    ∧ (PS.lock = false → applyMigrationsS PS = (PS, .valueError)) := by
  have h1 : applyMigrationsS PS = ({ PS with lock := false }, .valueError) := by
    apply applyMigrationsS_valueError
    rcases h with h | ⟨h0, h1, h2⟩
    · exact detectS_cfg_valueError _ c s h hv hs
    · exact detectS_rc_valueError _ c s h0 h1 h2 hv hs
  refine ⟨h1, fun hl => ?_⟩
  rw [h1, unlockS_eq hl]

/-- `migrate_preserves` at string level: a well-formed legacy project whose version is written
    as any integer literal of 0 or 1 (or not at all) migrates, the job data is preserved, and the
    config then carries a string that the string gate of `Project()` accepts. -/
theorem migrate_preserves_strings (L : ProjS) (hL : IntLit L) (c : Conf) (name : String)
    (wf : WellFormed L.toProj c name) (hcol : ¬ Collides L.toProj c) :
    (applyMigrationsS L).2 = .base .ok
    ∧ jobsOf (applyMigrationsS L).1.toProj = jobsOf L.toProj
    ∧ ∃ c' s, (applyMigrationsS L).1.cfg = some c' ∧ c'.version = some s
        ∧ pyInt s = some (SCHEMA : Int) ∧ gateStr s = .ok := by
  obtain ⟨h1, h2, h3⟩ := applyMigrationsS_toProj L hL
  have hw := applyMigrations_wf L.toProj c name wf hcol
  refine ⟨by rw [h2, hw], by rw [h1]; exact (migrate_preserves L.toProj c name wf hcol).2.2.1, ?_⟩
  rw [hw] at h1
  generalize (applyMigrationsS L).1 = R at h1 h3
  -- the config of the result reads as version 2, and its string is an integer literal
  obtain ⟨c', hc', hv⟩ := Option.map_eq_some_iff.mp (congrArg Proj.cfg h1)
  obtain ⟨s, hs, hd⟩ := Option.map_eq_some_iff.mp (congrArg Conf.version hv)
  obtain ⟨n, hn⟩ := Option.isSome_iff_exists.mp (h3 c' (.inr hc') s hs)
  rw [hn] at hd
  cases hd
  have hp := (declared_eq_some s _).mp hn
  exact ⟨c', s, hc', hs, hp, (gateStr_exact s).mpr hp⟩

/-! non-vacuity: `exLegacy` with the version written in the file -/

def exLegacyS (v : Option String) : ProjS :=
  { rc := some { version := v, project := some "my project", wsDir := some "data/ws" }
    cfg := none, dotSignac := false
    ents := [("other", "o1"), ("data/ws", "jobs-digest")]
    doc := some [("k", .int 1)]
    cacheOld := some "cache-bytes", histOld := some "history-bytes"
    cacheNew := none, histNew := none, lock := false, rest := "rest-digest" }

/-- "1.0": ValueError, untouched -/
example : (applyMigrationsS (exLegacyS (some "1.0"))).2 = .valueError
    ∧ (applyMigrationsS (exLegacyS (some "1.0"))).1.rc = (exLegacyS (some "1.0")).rc
    ∧ (applyMigrationsS (exLegacyS (some "1.0"))).1.ents = (exLegacyS (some "1.0")).ents := by
  have h := (migrate_valueError (exLegacyS (some "1.0")) _ "1.0" rfl (by decide +kernel)
    (Or.inr ⟨rfl, rfl, rfl⟩)).2 rfl
  rw [h]; exact ⟨rfl, rfl, rfl⟩

/-- " 1", "01", "0" and no key at all: migrated, the config then says "2" -/
example : ∀ v ∈ [some " 1", some "01", some "0", none],
    (applyMigrationsS (exLegacyS v)).2 = .base .ok
    ∧ ((applyMigrationsS (exLegacyS v)).1.cfg.map (·.version)) = some (some "2")
    ∧ jobsOf (applyMigrationsS (exLegacyS v)).1.toProj = some "jobs-digest" := by decide +kernel

/-- "3" (newer) and "-1" (negative: smaller than SCHEMA, origin of no migration) -/
example : (applyMigrationsS (exLegacyS (some "3"))).2 = .base .tooNew
    ∧ (applyMigrationsS (exLegacyS (some "-1"))).2 = .base .noPath := by decide +kernel

/-- hypotheses of `migrate_preserves_strings` for the " 1" variant -/
example : IntLit (exLegacyS (some " 1")) ∧ (exLegacyS (some " 1")).toProj = { exLegacy with
    rc := some { version := some 1, project := some "my project", wsDir := some "data/ws" } } := by
  refine ⟨?_, by rfl⟩
  intro c hc s hs
  rcases hc with hc | hc
  · simp only [exLegacyS, Option.some.injEq] at hc
    subst hc
    simp only [Option.some.injEq] at hs
    subst hs
    decide
  · cases hc

end Signac.C20
