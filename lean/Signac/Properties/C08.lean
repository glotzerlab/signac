/-
  C08 — the state point cache is transparent, and update_cache makes it exact.
  Model: Signac.Cache (workspace listing + cache file + session cache of the live Project).
-/
import Signac.Proofs.CacheRun
import Signac.Proofs.ChunksAll
namespace Signac.C08
open Signac Signac.Ws Signac.Cache

variable (hash : JVal → String)

/-- After ANY history of {init, remove, re-key, update_cache, session restart, cache deletion,
    queries} from an empty project the workspace is uncorrupted and every entry of the session
    cache and of the cache file maps an id to a state point hashing to it. -/
theorem reachable_inv (ops : List COp) :
    AllValid hash (crun hash St.empty ops).ws ∧ CacheInv hash (crun hash St.empty ops) :=
  crun_inv St.empty empty_inv.1 empty_inv.2 ops

/-- One step keeps both invariants (so the theorems below apply after every step). -/
theorem step_inv (s : St) (hv : AllValid hash s.ws) (hc : CacheInv hash s) (op : COp) :
    AllValid hash (cstep hash s op).ws ∧ CacheInv hash (cstep hash s op) :=
  ⟨allValid_cstep s hv op, cacheInv_cstep s hc op⟩

/-- The id listing (len, iteration, membership) does not read the cache at all: restarting the
    session, deleting the cache file, updating it or querying leave the workspace as it is. -/
theorem listing_ignores_cache (s : St) :
    (newSession s).ws = s.ws ∧ (rmCache s).ws = s.ws ∧ (updateCache hash s).1.ws = s.ws ∧
    (observe hash s).ws = s.ws :=
  ⟨rfl, rfl, updateCache_ws s, observeAll_ws s _⟩

/-- Transparency: with the same workspace and ANY two cache states satisfying the invariant
    (fresh, stale, deleted), looking up an existing id succeeds in both and yields state points
    with the same hash — the id; equal values wherever the hash is injective. -/
theorem cache_transparent (s1 s2 : St) (hws : s1.ws = s2.ws) (hv : AllValid hash s1.ws)
    (h1 : CacheInv hash s1) (h2 : CacheInv hash s2) (id : String) (hid : id ∈ K s1.ws) :
    ∃ v1 v2, (getStatepoint hash s1 id).2 = .ok v1 ∧ (getStatepoint hash s2 id).2 = .ok v2 ∧
      hash v1 = id ∧ hash v2 = id ∧ ((∀ a b, hash a = hash b → a = b) → v1 = v2) :=
  Cache.cache_transparent s1 s2 hws hv h1 h2 id hid

/-- Whatever the cache holds, a state point handed out for an id hashes to that id. -/
theorem lookup_sound (s : St) (h : CacheInv hash s) (id : String) (v : JVal)
    (hr : (getStatepoint hash s id).2 = .ok v) : hash v = id :=
  getStatepoint_sound h id hr

/-- After update_cache() returns, the cache file lists exactly the ids in the workspace (and, by
    the invariant, maps each to a state point hashing to it); the workspace is untouched. -/
theorem update_cache_exact (s : St) (hv : AllValid hash s.ws) (hc : CacheInv hash s) :
    (updateCache hash s).2.2.isNone = true ∧ (updateCache hash s).1.ws = s.ws ∧
    ∃ c, (updateCache hash s).1.cacheFile = some c ∧ (∀ x, x ∈ K c ↔ x ∈ K s.ws) ∧ MapInv hash c := by
  obtain ⟨h1, h2, c, h3, h4⟩ := updateCache_exact (hash := hash) s hv
  exact ⟨h1, h2, c, h3, h4, (cacheInv_updateCache hc).2 c h3⟩

/-- An immediate second call reports nothing to do and rewrites nothing. -/
theorem update_cache_idempotent (s : St) (hv : AllValid hash s.ws) :
    (updateCache hash (updateCache hash s).1).2.1 = none ∧
    (updateCache hash (updateCache hash s).1).1.cacheFile = (updateCache hash s).1.cacheFile ∧
    (updateCache hash (updateCache hash s).1).1.ws = s.ws :=
  updateCache_idempotent s hv

/- non-vacuity: a history that makes the cache file stale (job removed and another re-keyed after
   update_cache) still satisfies the hypotheses, and update_cache then rewrites the file. -/
example :
    let s := crun (fun v => canonText v) St.empty
      [.init (.obj [("n", .int 0)]), .init (.obj [("n", .int 1)]), .ucache,
       .remove (.obj [("n", .int 0)]), .rekey (.obj [("n", .int 1)]) "n" (.int 2), .session]
    (s.cacheFile.map List.length) = some 2 ∧ s.ws.length = 1 ∧
    (updateCache (fun v => canonText v) s).2.1 = some 1 := by decide +kernel

/-! ### update_cache reads every new id: the chunking of `_update_in_memory_cache` -/

/-- Whatever the number of ids to read, the chunks handed to the thread pool concatenate to the
    list of ids: none is dropped, duplicated or re-ordered, and chunking never raises. -/
theorem chunks_cover_all_ids (ids : List String) :
    ∃ cs, Chunks.splitChunks ids (Chunks.numChunks ids.length) = some cs ∧ cs.flatten = ids ∧
      cs.length = Chunks.numChunks ids.length := by
  cases h : Chunks.splitChunks ids (Chunks.numChunks ids.length) with
  | none =>
    have := (Chunks.splitChunks_error_iff ids _).mp h
    have := Chunks.numChunks_pos ids.length
    omega
  | some cs => exact ⟨cs, rfl, Chunks.splitChunks_flatten ids _ cs h, Chunks.splitChunks_length ids _ cs h⟩

/-- ... for every chunk count the helper accepts, not only the caller's choice. -/
theorem chunks_cover (ids : List String) (k : Nat) (cs : List (List String))
    (h : Chunks.splitChunks ids k = some cs) : cs.flatten = ids ∧ cs.length = k :=
  ⟨Chunks.splitChunks_flatten ids k cs h, Chunks.splitChunks_length ids k cs h⟩

example : Chunks.splitChunks [1, 2, 3, 4, 5, 6, 7] 3 = some [[1, 2], [3, 4], [5, 6, 7]] := by decide +kernel
example : Chunks.numChunks 2001 = 2 ∧ Chunks.numChunks 1999 = 1 ∧ Chunks.numChunks 250000 = 100 := by decide

end Signac.C08
